/-
Symbolic rule validation: iterating a validated period (`rule_run`), and the soundness of
`validateApp` (a reported application of any size is a run of real machine steps).  The soundness
of `validateInf` (a rule that never decreases a block: the machine runs for ever) is
`Sym.validate_inf_sound` in BB/Props/C02.lean, by `rule_run` for every `T` and `findGrow_nonneg`.
-/
import BB.Lemmas.SymPeriods

namespace BB.Sym

/-- the symbolic tape and the start valuation `validateApp` / `validateInf` build -/
def symTapeOf (times : Nat) (t : Tape) (dl dr : List Int) : STape × Val :=
  (⟨t.scan, (symSpan times t.lspan dl 0).1,
      (symSpan times t.rspan dr (symSpan times t.lspan dl 0).2.2).1⟩,
    (symSpan times t.lspan dl 0).2.1 ++ (symSpan times t.rspan dr (symSpan times t.lspan dl 0).2.2).2.1)

/-- the differences of the blocks that change, one per variable -/
abbrev diffsOf (dl dr : List Int) : List Int := (dl ++ dr).filter (· != 0)

theorem symTapeOf_eq {times : Nat} {t : Tape} {dl dr : List Int} {Sl Sr : SSpan} {vl vr : Val}
    {i i' : Nat} (hel : symSpan times t.lspan dl 0 = (Sl, vl, i))
    (her : symSpan times t.rspan dr i = (Sr, vr, i')) :
    symTapeOf times t dl dr = (⟨t.scan, Sl, Sr⟩, vl ++ vr) := by
  simp only [symTapeOf, hel, her]

theorem symTapeOf_inst {times : Nat} {t : Tape} {dl dr : List Int} {S : STape} {v : Val}
    (hS : symTapeOf times t dl dr = (S, v))
    (hl : t.lspan.length = dl.length) (hr : t.rspan.length = dr.length) {j : Nat}
    (hj : ∀ d, d ∈ dl ∨ d ∈ dr → d < 0 → j < times) (hp : S.posB = true) :
    NonnegAt j v (diffsOf dl dr) ∧ S.inst (valAt v (diffsOf dl dr) j) = tapeAt t dl dr j := by
  rcases hel : symSpan times t.lspan dl 0 with ⟨Sl, vl, i⟩
  rcases her : symSpan times t.rspan dr i with ⟨Sr, vr, i'⟩
  simp only [symTapeOf, hel, her, Prod.mk.injEq] at hS
  obtain ⟨rfl, rfl⟩ := hS
  simp only [STape.posB, Bool.and_eq_true] at hp
  obtain ⟨nl, l1⟩ := symSpan_inst hl (fun d hd => hj d (.inl hd)) (pre := []) rfl
    (valAt vr (dr.filter (· != 0)) j) hel hp.1
  obtain ⟨nr, r1⟩ := symSpan_inst hr (fun d hd => hj d (.inr hd))
    (by rw [valAt_length nl, symSpan_next hel, Nat.zero_add]) [] her hp.2
  rw [List.nil_append] at l1
  rw [List.append_nil] at r1
  rw [diffsOf, List.filter_append, valAt_append nl]
  exact ⟨nl.append nr, by simp only [STape.inst, tapeAt, l1, r1]⟩

/-- The rule applied `T` times, for every `T` up to which no shrinking block has run out (`hT`):
    the steps are the sum of the step forms along the valuations `v + j·D`, at least one a period. -/
theorem rule_run {p : Prog} {q times : Nat} {t : Tape} {dl dr : List Int} {S : STape} {v : Val}
    {budget cyc : Nat} {f : Form} (hS : symTapeOf times t dl dr = (S, v))
    (hl : t.lspan.length = dl.length) (hr : t.rspan.length = dr.length)
    (hper : symPeriod p q S dl dr budget = some (cyc, f)) (T : Nat)
    (hT : ∀ d, d ∈ dl ∨ d ∈ dr → d < 0 → T ≤ times) :
    (∀ j, j < T → NonnegAt j v (diffsOf dl dr)) ∧
      T ≤ sumTo (fun j => f.eval (valAt v (diffsOf dl dr) j)) T ∧
      RunVia p.toF (OnWay p.toF t.Canon) (t.toCfg q)
        (sumTo (fun j => f.eval (valAt v (diffsOf dl dr) j)) T) ((tapeAt t dl dr T).toCfg q) ∧
      (t.Canon → (tapeAt t dl dr T).Canon) := by
  obtain ⟨hpos, target, hsh, _⟩ := symPeriod_some hper
  induction T with
  | zero =>
    rw [tapeAt_zero]
    exact ⟨fun j hj => absurd hj (Nat.not_lt_zero j), Nat.le_refl 0, RunVia.zero _ _ _, id⟩
  | succ m ih =>
    obtain ⟨hnn, hge, hrun, hcan⟩ := ih fun d hd h0 => Nat.le_of_succ_le (hT d hd h0)
    obtain ⟨hn, hinst⟩ := symTapeOf_inst hS hl hr (j := m) hT hpos
    obtain ⟨h1, _, _, hper', hcan'⟩ :=
      symPeriod_sound p q S target dl dr budget cyc f hper hsh (valAt v (diffsOf dl dr) m)
    rw [STape.shift_inst hsh, hinst, tapeAt_succ] at hper' hcan'
    exact ⟨fun j hj => (Nat.lt_succ_iff_lt_or_eq.1 hj).elim (hnn j) (· ▸ hn),
      Nat.add_le_add hge h1, hrun.append hcan hper', fun h0 => hcan' (hcan h0)⟩

/-- **validate_app_sound** (BB/Props/C03.lean) -/
theorem validateApp_sound (p : Prog) (q : Nat) (before after : Tape) (times budget n : Nat)
    (h : validateApp p q before after times budget = some n) :
    1 ≤ n ∧ before.Pos ∧ after.Pos ∧
      RunVia p.toF (OnWay p.toF before.Canon) (before.toCfg q) n (after.toCfg q) ∧
      (before.Canon → after.Canon) := by
  unfold validateApp at h
  split at h
  · cases h
  next h0 =>
  split at h
  next dl dr hdl hdr =>
    split at h
    next Sl vl i hel =>
    split at h
    next Sr vr i' her =>
    simp only at h
    split at h
    · cases h
    next hinst =>
    split at h
    next cyc f hper =>
      split at h
      · cases h
      next hn1 =>
      cases h
      simp only [Bool.or_eq_true, beq_iff_eq, bne_iff_ne, ne_eq, not_or, Decidable.not_not] at h0 hinst
      obtain ⟨m, rfl⟩ := Nat.exists_eq_succ_of_ne_zero h0.1
      have hS := symTapeOf_eq hel her
      obtain ⟨hl, hal⟩ := spanDiffs_spec hdl
      obtain ⟨hr, har⟩ := spanDiffs_spec hdr
      have hend : tapeAt before dl dr (m + 1) = after := by rw [tapeAt, ← hal, ← har, h0.2]
      obtain ⟨hnn, _, hrun, hcan⟩ := rule_run hS hl hr hper (m + 1) fun _ _ _ => Nat.le_refl _
      rw [hend] at hrun hcan
      rw [← sumTo_totalSteps f (m + 1) hnn] at hn1 ⊢
      rw [Int.toNat_natCast]
      obtain ⟨hpos, target, hsh, _⟩ := symPeriod_some hper
      refine ⟨Int.ofNat_le.1 (Int.not_lt.1 hn1), ?_, ?_, hrun, hcan⟩
      · rw [← hinst]; exact STape.posB_inst hpos _
      · rw [← hend, ← tapeAt_succ,
          ← (symTapeOf_inst hS hl hr (fun _ _ _ => Nat.lt_succ_self m) hpos).2, ← STape.shift_inst hsh]
        exact STape.posB_inst (STape.shift_posB hsh) _
    next => cases h
  next => cases h

/-- Nothing else is known of the differences `findGrow` answers, nor needed: the period they
    describe is validated symbolically afterwards. -/
theorem findGrow_nonneg (p : Prog) (q : Nat) (t0 : Tape) :
    ∀ (fuel cur : Nat) (t : Tape) (dl dr : List Int), findGrow p q t0 fuel cur t = some (dl, dr) →
      (t0.lspan.length = dl.length ∧ ∀ d ∈ dl, 0 ≤ d) ∧
        (t0.rspan.length = dr.length ∧ ∀ d ∈ dr, 0 ≤ d) := by
  intro fuel
  induction fuel with
  | zero => intro cur t dl dr h; cases h
  | succ fuel ih =>
    intro cur t dl dr h
    rw [findGrow] at h
    split at h
    next cur' t' k _ =>
      split at h
      · split at h
        next hl hr => cases h; exact ⟨sameShapeGrow_spec hl, sameShapeGrow_spec hr⟩
        next => exact ih _ _ _ _ h
      · exact ih _ _ _ _ h
    next => cases h

end BB.Sym
