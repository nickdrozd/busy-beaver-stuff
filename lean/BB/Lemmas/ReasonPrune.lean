/-
C04: when blank-state pruning is justified.  If a property `Q` of (state, tape) holds of the
targets, is kept by the two ways the search makes a new tape (a plain backward step over a validated
instruction, an indefinite block pushed by `get_indef`), and makes any two blank tapes of one state
comparable by `blankSub`, then the instrumented flag stays `true`.

Shown here for the erase goal, where every tape of the search has `blanks` at both ends
(`endsB_pruneInv`).
-/
import BB.Lemmas.ReasonSound

namespace BB.Reason

open BB

def KeptQ (Q : Nat → Backstepper → Prop) (kept : Kept) : Prop :=
  ∀ w ∈ kept, w.2.blank = true ∧ Q w.1 w.2

theorem KeptQ.cons_if {Q : Nat → Backstepper → Prop} {kept : Kept} (hk : KeptQ Q kept) {q : Nat}
    {t : Backstepper} (hq : Q q t) : KeptQ Q (if t.blank = true then (q, t) :: kept else kept) := by
  by_cases hb : t.blank = true
  · rw [if_pos hb]
    intro w hw
    rcases List.mem_cons.1 hw with rfl | hw'
    · exact ⟨hb, hq⟩
    · exact hk w hw'
  · rw [if_neg hb]; exact hk

section
variable {Q : Nat → Backstepper → Prop}
  (prune : ∀ q y z, Q q y → y.blank = true → Q q z → z.blank = true → blankSub y z = true)
include prune

theorem stepInstrsI_flag (config : Config) {instrs : List Instr} {kept : Kept} {stepped : Configs}
    {kept' : Kept} {flag : Bool} (h : stepInstrsI config instrs kept = .ok (stepped, kept', flag)) :
    (∀ i ∈ instrs, Q i.2.2 (config.tape.backstep i.2.1 i.1)) → KeptQ Q kept →
    flag = true ∧ (∀ Z ∈ stepped, Q Z.state Z.tape) ∧ KeptQ Q kept' := by
  refine stepInstrsI_ok_induct config ?_ ?_ ?_ instrs kept stepped kept' flag h
  · intro kept _ hk
    exact ⟨rfl, fun _ h => absurd h List.not_mem_nil, hk⟩
  · intro r sh q rest kept s k f _ hb hc ih hi hk
    obtain ⟨rfl, hci, hki⟩ := ih (fun i h => hi i (List.mem_cons_of_mem _ h)) hk
    rw [List.contains_iff_mem, List.mem_map] at hc
    obtain ⟨w, hw, rfl⟩ := hc
    refine ⟨?_, hci, hki⟩
    rw [Bool.and_true, pruneOk, List.any_eq_true]
    exact ⟨w, hw, by
      rw [beq_self_eq_true, Bool.true_and]
      exact prune _ _ _ (hk w hw).2 (hk w hw).1 (hi _ List.mem_cons_self) hb⟩
  · intro r sh q rest kept s k f _ ih hi hk
    have hq := hi _ List.mem_cons_self
    obtain ⟨hf, hci, hki⟩ := ih (fun i h => hi i (List.mem_cons_of_mem _ h)) (hk.cons_if hq)
    refine ⟨hf, fun Z hZ => ?_, hki⟩
    rcases List.mem_cons.1 hZ with rfl | hZ'
    · rw [(descendant_state_tape _ _ _).1, (descendant_state_tape _ _ _).2]
      exact hq
    · exact hci Z hZ'

theorem stepConfigsI_flag {vs : ValidatedSteps} {kept : Kept} {stepped : Configs}
    {indefs : ValidatedSteps} {kept' : Kept} {flag : Bool}
    (h : stepConfigsI vs kept = .ok (stepped, indefs, kept', flag)) :
    (∀ v ∈ vs, ∀ i ∈ v.1, v.2.tape.pullsIndef i.2.1 = false →
      Q i.2.2 (v.2.tape.backstep i.2.1 i.1)) →
    KeptQ Q kept → flag = true ∧ (∀ Z ∈ stepped, Q Z.state Z.tape) ∧ KeptQ Q kept' := by
  refine stepConfigsI_ok_induct ?_ ?_ vs kept stepped indefs kept' flag h
  · intro kept _ hk
    exact ⟨rfl, fun _ h => absurd h List.not_mem_nil, hk⟩
  · intro instrs config rest kept s₁ k₁ f₁ s₂ i₂ k₂ f₂ h1 ih hv hk
    obtain ⟨rfl, hc1, hk1⟩ := stepInstrsI_flag prune config h1
      (fun i hi => hv _ List.mem_cons_self i (List.mem_filter.1 hi).1
        (by simpa using (List.mem_filter.1 hi).2)) hk
    obtain ⟨rfl, hc2, hk2⟩ := ih (fun v hv' => hv v (List.mem_cons_of_mem _ hv')) hk1
    exact ⟨rfl, fun Z hZ => (List.mem_append.1 hZ).elim (hc1 Z) (hc2 Z), hk2⟩

end

/-- a property of the tapes of the search under which blank-state pruning is justified -/
structure PruneInv (ep : Entrypoints) (Q : Nat → Backstepper → Prop) : Prop where
  backstep : ∀ {st t r sh q}, Q st t → Valid ep st t (r, sh, q) → t.pullsIndef sh = false →
    Q q (t.backstep sh r)
  pushIndef : ∀ {st t sh r}, Q st t → t.checkSpinout sh r = some true → Q st (t.pushIndef sh)
  prune : ∀ q y z, Q q y → y.blank = true → Q q z → z.blank = true → blankSub y z = true

theorem cantReachLoopI_flag {ep : Entrypoints} {Q : Nat → Backstepper → Prop}
    (I : PruneInv ep Q) (f : Bool) :
    ∀ (fuel step : Nat) (configs : Configs) (kept : Kept) (indef : ValidatedSteps),
    (∀ X ∈ configs, Q X.state X.tape) → KeptQ Q kept →
    (cantReachLoopI f ep fuel step configs kept indef).2 = true := by
  intro fuel
  induction fuel with
  | zero => intro step configs kept indef _ _; rfl
  | succ n ih =>
    intro step configs kept indef hc hk
    rw [cantReachLoopI_succ]
    cases hv : getValidSteps f ep configs with
    | error e => rfl
    | ok vs =>
      by_cases h1 : vs.isEmpty = true
      · simp only [if_pos h1]
      simp only [if_neg h1]
      by_cases h2 : MAX_STACK_DEPTH < vs.length
      · simp only [if_pos h2]
      simp only [if_neg h2]
      cases hs : stepConfigsI vs kept with
      | error e => rfl
      | ok r =>
        obtain ⟨c', i', k', f'⟩ := r
        by_cases h3 : (indef ++ i').length > MAX_STACK_DEPTH
        · simp only [if_pos h3]
        simp only [if_neg h3]
        have hvs : ∀ v ∈ vs, ∀ i ∈ v.1, v.2.tape.pullsIndef i.2.1 = false →
            Q i.2.2 (v.2.tape.backstep i.2.1 i.1) := by
          intro v hm i hi hpi
          obtain ⟨X, hX, hst, htape, hval⟩ := getValidSteps_valid hv hm
          refine I.backstep ?_ (hval i hi) hpi
          rw [hst]
          rcases htape with ht | ⟨sh, r, hcs, ht⟩ <;> rw [ht]
          · exact hc X hX
          · exact I.pushIndef (hc X hX) hcs
        obtain ⟨rfl, hc', hk'⟩ := stepConfigsI_flag I.prune hs hvs hk
        rw [ih _ _ _ _ hc' hk']
        rfl

theorem cantReachI_flag {p : Prog} {Q : Nat → Backstepper → Prop}
    (I : PruneInv (getEntrypoints p) Q) {targets : Configs} (hT : ∀ X ∈ targets, Q X.state X.tape)
    (f : Bool) (depth : Nat) : (cantReachI f p depth targets).2 = true := by
  simp only [cantReachI]
  split
  · rfl
  · split
    · rfl
    · refine cantReachLoopI_flag I f _ _ _ _ _ (fun X hX => hT X (List.mem_filter.1 hX).1) ?_
      intro w hw
      obtain ⟨hb, Y, hY, h1, h2⟩ := getKept_mem hw
      refine ⟨hb, ?_⟩
      rw [← h1, ← h2]
      exact hT Y (List.mem_filter.1 hY).1

def EndsB (t : Backstepper) : Prop := t.lspan.end_ = .blanks ∧ t.rspan.end_ = .blanks

theorem Span.pull_end (s : Span) : s.pull.end_ = s.end_ := by
  obtain ⟨bs, e⟩ := s
  cases bs with
  | nil => rfl
  | cons b rest =>
    simp only [Span.pull]
    split
    · rfl
    · split <;> rfl

theorem Span.push_end (s : Span) (c n : Nat) : (s.push c n).end_ = s.end_ := by
  obtain ⟨bs, e⟩ := s
  cases bs <;> simp only [Span.push] <;> split <;> rfl

theorem endsB_pruneInv (ep : Entrypoints) : PruneInv ep fun _ t => EndsB t where
  backstep := by
    intro _ t r sh _ h _ _
    cases sh <;>
      simpa only [EndsB, Backstepper.backstep, Bool.false_eq_true, if_false, if_true,
        Span.pull_end, Span.push_end] using h
  pushIndef := by
    intro _ t sh _ h _
    cases sh <;> exact h
  prune := by
    intro _ y z _ _ h _
    simp [blankSub, sideSub, h.1, h.2]

end BB.Reason
