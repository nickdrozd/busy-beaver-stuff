/-
Pieces of the Python model against their Rust counterparts, where the source texts differ.

Tape step (`pySweep`, `pyNext`, `pyPush`: tm/tape.py `Tape.step`, against `Span.pull` / `Span.push`,
src/tape.rs): both implementations sweep the same way; after the sweep they agree on the next scan,
on the count stepped and on the push side, whatever the tape.  Only the remaining pull span can
differ, and does exactly when its first block has count 0.

Prover: `get_rule` compares slices where Rust uses `starts_with`; `sig_compatible` asks for equal
span lengths where Rust asks for at least the signature's.
-/
import BB.Model.PyMachine

namespace BB

theorem pySweep_subset {s : Span} {scan : Nat} {sk : Bool} {b : Block}
    (h : b ∈ (pySweep s scan sk).2) : b ∈ s := by
  unfold pySweep at h
  split at h
  · split at h
    · exact List.mem_cons_of_mem _ h
    · exact h
  · exact h

theorem pull_cons_noskip (b : Block) (rest : Span) (scan : Nat) :
    Span.pull (b :: rest) scan false
      = (b.color, 1, if b.count > 1 then ⟨b.color, b.count - 1⟩ :: rest else rest) := by
  simp only [Span.pull, Bool.false_and, Bool.false_eq_true, if_false]
  split <;> rfl

theorem pull_eq_sweep (s : Span) (scan : Nat) (sk : Bool) :
    Span.pull s scan sk = ((Span.pull (pySweep s scan sk).2 scan false).1,
      pyStepped (pySweep s scan sk).1, (Span.pull (pySweep s scan sk).2 scan false).2.2) := by
  cases s with
  | nil => rfl
  | cons b rest =>
    simp only [pySweep]
    split
    · next h =>
      simp only [Span.pull, h, if_true, Bool.false_and, Bool.false_eq_true, if_false, pyStepped]
      cases rest with
      | nil => rfl
      | cons n rest' => simp only []; split <;> rfl
    · next h =>
      simp only [Span.pull, h, if_false, Bool.false_and, Bool.false_eq_true, pyStepped]
      split <;> rfl

theorem pyNext_scan (pull : Span) (pb : Option Block) (scan : Nat) :
    (pyNext pull pb).1 = (Span.pull pull scan false).1 := by
  cases pull with
  | nil => rfl
  | cons b rest =>
    simp only [pull_cons_noskip, pyNext]
    split
    · rfl
    · cases pb <;> rfl

/-- Whichever block object Python reuses as `push_block`, its count stays `stepped - 1`: a block
    taken over from the pull side has its count set to 0, and then `stepped` is 1. -/
theorem pyNext_stepped (pull : Span) (pb : Option Block) :
    pyStepped (pyNext pull pb).2.2 = pyStepped pb := by
  cases pull with
  | nil => rfl
  | cons b rest =>
    simp only [pyNext]
    split
    · rfl
    · cases pb <;> rfl

/-- Python tests `count != 1` and decrements, Rust tests `count > 1`: on a block of count 0 Python
    keeps the block and Rust drops it. -/
theorem pyNext_span_iff (pull : Span) (pb : Option Block) (scan : Nat) :
    (pyNext pull pb).2.1 = (Span.pull pull scan false).2.2
      ↔ ∀ b, pull.head? = some b → b.count ≠ 0 := by
  cases pull with
  | nil => simp [pyNext, Span.pull]
  | cons b rest =>
    simp only [pull_cons_noskip, pyNext, List.head?_cons, Option.some.injEq, forall_eq']
    by_cases h1 : b.count = 1
    · cases pb <;> simp [h1]
    · by_cases h0 : b.count = 0
      · simp [h0]
      · have : b.count > 1 := by omega
        simp [h1, h0, this]

theorem pyPush_eq (push : Span) (c : Nat) {k : Nat} {pb : Option Block} (h : pyStepped pb = k) :
    pyPush push c k pb = Span.push push c k := by
  subst h
  have hi : pyInsert push c pb = ⟨c, pyStepped pb⟩ :: push := by
    cases pb
    · rfl
    · simp only [pyInsert, pyStepped, Nat.add_comm]
  cases push with
  | nil => simp only [pyPush, Span.push, hi, bne_iff_ne, beq_iff_eq, ne_eq, ite_not]
  | cons b rest => simp only [pyPush, Span.push, hi]

namespace PyM

theorem beq_take_eq_isPrefixOf {α : Type} [BEq α] [LawfulBEq α] (l s : List α) :
    (l == s.take l.length) = l.isPrefixOf s := by
  rw [Bool.eq_iff_iff, beq_iff_eq, List.isPrefixOf_iff_prefix, List.prefix_iff_eq_take]

theorem pyMatchesSig_eq (ms : MinSig) (sig : Signature) :
    pyMatchesSig ms sig = ms.matchesSig sig := by
  have key : ∀ (ex : Bool) (l s : SigSpan),
      (l == if ex then s else s.take l.length) = (if ex then l == s else l.isPrefixOf s) := by
    intro ex l s
    cases ex
    · exact beq_take_eq_isPrefixOf l s
    · rfl
  simp only [pyMatchesSig, MinSig.matchesSig, key]

theorem pyFindRule_eq (rules : List (MinSig × Rule)) (sig : Signature) :
    pyFindRule rules sig = findRule rules sig := by
  induction rules with
  | nil => rfl
  | cons x rest ih => simp only [pyFindRule, findRule, pyMatchesSig_eq, ih]

theorem pySpanCompatible_eq (s : Span) (sig : SigSpan) :
    pySpanCompatible s sig = (s.length == sig.length && Span.sigCompatible s sig) := by
  induction s generalizing sig with
  | nil => cases sig <;> simp [pySpanCompatible, Span.sigCompatible]
  | cons b bs ih =>
    cases sig with
    | nil => simp [pySpanCompatible]
    | cons c cs =>
      simp only [pySpanCompatible, Span.sigCompatible, ih, List.length_cons, Bool.and_left_comm,
        Nat.reduceBeqDiff]

/-- a tape on which the two `sig_compatible` differ: one more block than the signature has -/
example : pySigCompatible ⟨0, [⟨1, 2⟩, ⟨2, 1⟩], []⟩ ⟨0, [.mult 1], []⟩ = false
    ∧ Tape.sigCompatible ⟨0, [⟨1, 2⟩, ⟨2, 1⟩], []⟩ ⟨0, [.mult 1], []⟩ = true := by decide

end PyM

end BB
