/-
C15 for the closed-position-set analysis (src/cps.rs): `cps_run(rad)` is
`(2..rad).any(|seg| cps_cant_reach(prog, seg, goal))`.  The radius limit `rad` is only the number
of iterations of `cpsRunFrom`; the run at segment size `seg` (including its inner fuel
`innerFuelFor p seg`, computed from `seg`, not from `rad`) is the same under every limit that
reaches it.

The "limit reached" answer is `.ok false` (no radius below `rad` gave a closed set).  Any other
outcome of a call that passes the entry assertion `rad > 1` - `.ok true`, `.panic`, `.fuel` - is
unchanged by a larger `rad`.  `.ok true` needs no side condition.  The outcome that is *not*
preserved is the panic of the entry assertion itself (`rad ≤ 1`).
-/
import BB.Model.Cps
import BB.Lemmas.MonoBase

namespace BB.Cps

theorem cpsRunFrom_mono (reach : Nat → CpsRes) {n n' seg : Nat}
    (hne : cpsRunFrom reach n seg ≠ .ok false) (hle : n ≤ n') :
    cpsRunFrom reach n' seg = cpsRunFrom reach n seg := by
  induction n generalizing n' seg with
  | zero => exact absurd rfl hne
  | succ n ih =>
    cases n' with
    | zero => exact absurd hle (Nat.not_succ_le_zero n)
    | succ m =>
      simp only [cpsRunFrom] at hne ⊢
      cases hr : reach seg with
      | no => rw [hr] at hne; exact ih hne (Nat.le_of_succ_le_succ hle)
      | _ => rfl

theorem two_le_of_cpsRun_ne_panic {p : Prog} {goal : Goal} {maxLoops maxDepth : Nat}
    {order : List Config → List Config} {rad : Nat}
    (h : cpsRun p rad goal maxLoops maxDepth order ≠ .panic) : 2 ≤ rad :=
  Nat.lt_of_not_le fun h1 => h (by rw [cpsRun, if_pos h1])

theorem cpsRun_fuel_ge (p : Prog) (goal : Goal) (maxLoops maxDepth : Nat)
    (order : List Config → List Config) (rad : Nat)
    (h : cpsRun p rad goal maxLoops maxDepth order = .fuel) : 2 ≤ rad :=
  two_le_of_cpsRun_ne_panic (by rw [h]; nofun)

theorem cpsRun_of_two_le {p : Prog} {goal : Goal} {maxLoops maxDepth : Nat}
    {order : List Config → List Config} {rad : Nat} (h : 2 ≤ rad) :
    cpsRun p rad goal maxLoops maxDepth order = cpsRunFrom
      (fun seg => cpsCantReach p seg goal maxLoops maxDepth (innerFuelFor p seg) order) (rad - 2) 2 :=
  if_neg (Nat.not_le_of_lt h)

theorem cpsRun_mono (p : Prog) (goal : Goal) (maxLoops maxDepth : Nat)
    (order : List Config → List Config) {r₁ r₂ : Nat} (h2 : 2 ≤ r₁) (hle : r₁ ≤ r₂)
    (hne : cpsRun p r₁ goal maxLoops maxDepth order ≠ .ok false) :
    cpsRun p r₂ goal maxLoops maxDepth order = cpsRun p r₁ goal maxLoops maxDepth order := by
  rw [cpsRun_of_two_le h2] at hne ⊢
  rw [cpsRun_of_two_le (Nat.le_trans h2 hle)]
  exact cpsRunFrom_mono _ hne (Nat.sub_le_sub_right hle 2)

/-! Each of the three entry points is `cps_run` behind an early-true test that does not look at the
radius; `cps_run` itself is the case `early = false`. -/

theorem entry_mono (early : Bool) (p : Prog) (goal : Goal) (maxLoops maxDepth : Nat)
    (order : List Config → List Config) {r₁ r₂ : Nat} (h2 : 2 ≤ r₁) (hle : r₁ ≤ r₂)
    (hne : (if early then CpsOut.ok true else cpsRun p r₁ goal maxLoops maxDepth order) ≠
      .ok false) :
    (if early then CpsOut.ok true else cpsRun p r₂ goal maxLoops maxDepth order) =
      (if early then CpsOut.ok true else cpsRun p r₁ goal maxLoops maxDepth order) := by
  cases early
  · exact cpsRun_mono p goal _ _ order h2 hle hne
  · rfl

/-- `.ok true` needs no side condition on `r₁`: a call that fails the entry assertion panics. -/
theorem entry_true_mono (early : Bool) (p : Prog) (goal : Goal) (maxLoops maxDepth : Nat)
    (order : List Config → List Config) {r₁ r₂ : Nat}
    (h : (if early then CpsOut.ok true else cpsRun p r₁ goal maxLoops maxDepth order) = .ok true)
    (hle : r₁ ≤ r₂) :
    (if early then CpsOut.ok true else cpsRun p r₂ goal maxLoops maxDepth order) = .ok true := by
  cases early
  · have h' : cpsRun p r₁ goal maxLoops maxDepth order = .ok true := h
    rw [← h']
    exact cpsRun_mono p goal _ _ order (two_le_of_cpsRun_ne_panic (by rw [h']; nofun)) hle
      (by rw [h']; nofun)
  · rfl

end BB.Cps
