/-
C04: what one call of (instrumented) `stepInstrs` / `stepConfigs` does with each validated
instruction: it is executed (the back-stepped configuration is in the output), or it is recorded as
an indefinite step, or it is pruned against a kept blank tape, or the call fails.
-/
import BB.Lemmas.ReasonInstr

namespace BB.Reason

open BB

theorem descendant_state_tape (st : Nat) (tp : Backstepper) (prev : Config) :
    (Config.descendant st tp prev).state = st ∧ (Config.descendant st tp prev).tape = tp := by
  simp only [Config.descendant]
  split <;> exact ⟨rfl, rfl⟩

/-- What happened to the instruction `(r, sh, q)` on tape `t`: it was stepped, or its tape was
    blank and pruned (the blank tape in state 0 would have ended the call with `init`).  As long
    as `flag` is `true`, a pruned tape is subsumed by a kept one. -/
def Handled (t : Backstepper) (stepped : Configs) (kept' : Kept) (flag : Bool)
    (r : Nat) (sh : Bool) (q : Nat) : Prop :=
  ¬ ((t.backstep sh r).blank = true ∧ q = 0) ∧
  ((∃ Z ∈ stepped, Z.state = q ∧ Z.tape = t.backstep sh r) ∨
   ((t.backstep sh r).blank = true ∧
      (flag = true → ∃ w ∈ kept', w.1 = q ∧ blankSub w.2 (t.backstep sh r) = true)))

theorem Handled.mono {t : Backstepper} {stepped stepped' : Configs} {kept' kept'' : Kept}
    {flag flag' : Bool} {r : Nat} {sh : Bool} {q : Nat}
    (h : Handled t stepped kept' flag r sh q) (hs : ∀ Z ∈ stepped, Z ∈ stepped')
    (hk : ∀ w ∈ kept', w ∈ kept'') (hf : flag' = true → flag = true) :
    Handled t stepped' kept'' flag' r sh q := by
  refine ⟨h.1, ?_⟩
  rcases h.2 with ⟨Z, hZ, h1, h2⟩ | ⟨hb, hw⟩
  · exact Or.inl ⟨Z, hs Z hZ, h1, h2⟩
  · refine Or.inr ⟨hb, fun hf' => ?_⟩
    obtain ⟨w, hw1, hw2⟩ := hw (hf hf')
    exact ⟨w, hk w hw1, hw2⟩

def KeptStep (kept kept' : Kept) (stepped : Configs) : Prop :=
  (∀ w ∈ kept, w ∈ kept') ∧
  (∀ w ∈ kept', w ∈ kept ∨ (w.2.blank = true ∧ ∃ Z ∈ stepped, Z.state = w.1 ∧ Z.tape = w.2))

def NoInit (stepped : Configs) : Prop := ∀ Z ∈ stepped, ¬ (Z.state = 0 ∧ Z.tape.blank = true)

theorem KeptStep.refl (kept : Kept) : KeptStep kept kept [] :=
  ⟨fun _ h => h, fun _ h => Or.inl h⟩

theorem KeptStep.trans {k1 k2 k3 : Kept} {s1 s2 : Configs} (h1 : KeptStep k1 k2 s1)
    (h2 : KeptStep k2 k3 s2) : KeptStep k1 k3 (s1 ++ s2) := by
  refine ⟨fun w hw => h2.1 w (h1.1 w hw), fun w hw => ?_⟩
  rcases h2.2 w hw with h | ⟨hb, Z, hZ, hz⟩
  · rcases h1.2 w h with h' | ⟨hb, Z, hZ, hz⟩
    · exact Or.inl h'
    · exact Or.inr ⟨hb, Z, List.mem_append_left _ hZ, hz⟩
  · exact Or.inr ⟨hb, Z, List.mem_append_right _ hZ, hz⟩

theorem stepInstrsI_spec (config : Config) {instrs : List Instr} {kept : Kept} {stepped : Configs}
    {kept' : Kept} {flag : Bool} (h : stepInstrsI config instrs kept = .ok (stepped, kept', flag)) :
    KeptStep kept kept' stepped ∧ NoInit stepped ∧
    (∀ r sh q, (r, sh, q) ∈ instrs → Handled config.tape stepped kept' flag r sh q) := by
  refine stepInstrsI_ok_induct config ?_ ?_ ?_ instrs kept stepped kept' flag h
  · exact fun kept => ⟨.refl kept, fun _ h => absurd h List.not_mem_nil,
      fun _ _ _ h => absurd h List.not_mem_nil⟩
  · -- pruned: a flag still `true` says that `pruneOk` held
    intro r sh q rest kept s k f h0 hb _ ⟨hk, hn, hh⟩
    refine ⟨hk, hn, fun r' sh' q' hm => ?_⟩
    rcases List.mem_cons.1 hm with he | hm
    · cases he
      refine ⟨h0, Or.inr ⟨hb, fun hf => ?_⟩⟩
      have hp : pruneOk kept q (config.tape.backstep sh r) = true := (Bool.and_eq_true _ _ ▸ hf).1
      rw [pruneOk, List.any_eq_true] at hp
      obtain ⟨w, hw, hw'⟩ := hp
      rw [Bool.and_eq_true, beq_iff_eq] at hw'
      exact ⟨w, hk.1 w hw, hw'⟩
    · exact (hh r' sh' q' hm).mono (fun _ h => h) (fun _ h => h)
        fun hf => (Bool.and_eq_true _ _ ▸ hf).2
  · -- stepped: the descendant is in the output, and is the new kept tape if it is blank
    intro r sh q rest kept s k f h0 ⟨hk, hn, hh⟩
    have hd := descendant_state_tape q (config.tape.backstep sh r) config
    refine ⟨⟨fun w hw => hk.1 w ?_, fun w hw => ?_⟩, fun Z hZ => ?_, fun r' sh' q' hm => ?_⟩
    · split
      · exact List.mem_cons_of_mem _ hw
      · exact hw
    · rcases hk.2 w hw with h1 | ⟨hb, Z, hZ, h2⟩
      · split at h1
        · rename_i hbl
          rcases List.mem_cons.1 h1 with rfl | h1
          · exact Or.inr ⟨hbl, _, List.mem_cons_self, hd⟩
          · exact Or.inl h1
        · exact Or.inl h1
      · exact Or.inr ⟨hb, Z, List.mem_cons_of_mem _ hZ, h2⟩
    · rcases List.mem_cons.1 hZ with rfl | hZ
      · rw [hd.1, hd.2]
        exact fun ⟨a, b⟩ => h0 ⟨b, a⟩
      · exact hn Z hZ
    · rcases List.mem_cons.1 hm with he | hm
      · cases he
        exact ⟨h0, Or.inl ⟨_, List.mem_cons_self, hd⟩⟩
      · exact (hh r' sh' q' hm).mono (fun _ h => List.mem_cons_of_mem _ h) (fun _ h => h) id

theorem stepConfigsI_spec : ∀ (vs : ValidatedSteps) (kept : Kept)
    (stepped : Configs) (indefs : ValidatedSteps) (kept' : Kept) (flag : Bool),
    stepConfigsI vs kept = .ok (stepped, indefs, kept', flag) →
    KeptStep kept kept' stepped ∧ NoInit stepped ∧
    (∀ instrs Y, (instrs, Y) ∈ vs → ∀ r sh q, (r, sh, q) ∈ instrs →
      if Y.tape.pullsIndef sh = true then indefs ≠ []
      else Handled Y.tape stepped kept' flag r sh q) := by
  intro vs kept stepped indefs kept' flag h
  refine stepConfigsI_ok_induct ?_ ?_ vs kept stepped indefs kept' flag h
  · exact fun kept => ⟨.refl kept, fun _ h => absurd h List.not_mem_nil,
      fun _ _ h => absurd h List.not_mem_nil⟩
  · intro instrs Y rest kept s₁ k₁ f₁ s₂ i₂ k₂ f₂ h₁ ⟨hk2, hn2, hh2⟩
    obtain ⟨hk1, hn1, hh1⟩ := stepInstrsI_spec Y h₁
    refine ⟨hk1.trans hk2, fun Z hZ => ?_, fun instrs' Y' hY r sh q hm => ?_⟩
    · exact (List.mem_append.1 hZ).elim (hn1 Z) (hn2 Z)
    · rcases List.mem_cons.1 hY with he | hY
      · -- an instruction of the first entry is among its indefinite steps or was handled
        cases he
        by_cases hp : Y.tape.pullsIndef sh = true
        · have hmem : (r, sh, q) ∈ instrs.filter fun i => Y.tape.pullsIndef i.2.1 :=
            List.mem_filter.2 ⟨hm, hp⟩
          rw [if_pos hp, if_neg fun he => by rw [List.isEmpty_iff.1 he] at hmem; cases hmem]
          exact List.cons_ne_nil _ _
        · rw [if_neg hp]
          exact (hh1 r sh q (List.mem_filter.2 ⟨hm, by simpa using hp⟩)).mono
            (fun _ h => List.mem_append_left _ h) hk2.1 fun hf => (Bool.and_eq_true _ _ ▸ hf).1
      · have := hh2 instrs' Y' hY r sh q hm
        by_cases hp : Y'.tape.pullsIndef sh = true
        · rw [if_pos hp] at this ⊢
          split
          · exact this
          · exact List.cons_ne_nil _ _
        · rw [if_neg hp] at this ⊢
          exact this.mono (fun _ h => List.mem_append_right _ h) (fun _ h => h)
            fun hf => (Bool.and_eq_true _ _ ▸ hf).2

theorem stepInstrsI_error (config : Config) (instrs : List Instr) (kept : Kept)
    (e : BackwardResult) (h : stepInstrsI config instrs kept = .error e) :
    e = .init ∨ e = .linRec := by
  fun_induction stepInstrsI config instrs kept with
  | case1 => cases h
  | case2 => cases h; exact Or.inl rfl
  | case3 => rename_i hr ih; cases h; exact ih hr
  | case4 => cases h
  | case5 => cases h; exact Or.inr rfl
  | case6 => rename_i hr ih; cases h; exact ih hr
  | case7 => cases h

theorem stepConfigsI_error : ∀ (vs : ValidatedSteps) (kept : Kept) (e : BackwardResult),
    stepConfigsI vs kept = .error e → e = .init ∨ e = .linRec := by
  intro vs kept e h
  fun_induction stepConfigsI vs kept with
  | case1 => cases h
  | case2 => rename_i h₁; cases h; exact stepInstrsI_error _ _ _ _ h₁
  | case3 => rename_i h₂ ih; cases h; exact ih h₂
  | case4 => cases h

end BB.Reason
