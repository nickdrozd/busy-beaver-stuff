/-
Symbolic rule validation: the periods of a rule.  `valAt v D j` = `v + j·D` is the valuation at the
start of period `j`; the step forms evaluated along it add up to `totalSteps`; and the symbolic
span that `symSpan` builds from a reported application denotes, at `valAt v D j`, the reported span
moved on `j` periods (`spanAt`), its shifted span the one moved on `j + 1` periods.
-/
import BB.Lemmas.SymStep

namespace BB.Sym

/-- the valuation after `j` periods: `v + j·D` (entries truncated at 0, see `NonnegAt`) -/
def valAt : Val → List Int → Nat → Val
  | x :: xs, d :: ds, j => ((x : Int) + j * d).toNat :: valAt xs ds j
  | _, _, _ => []

/-- `v` and `D` have the same length and `v + j·D` has no negative entry -/
inductive NonnegAt (j : Nat) : Val → List Int → Prop
  | nil : NonnegAt j [] []
  | cons {x : Nat} {d : Int} {xs : Val} {ds : List Int} :
      0 ≤ (x : Int) + j * d → NonnegAt j xs ds → NonnegAt j (x :: xs) (d :: ds)

/-- `Σ kᵢ·dᵢ` -/
def dotD : List Nat → List Int → Int
  | k :: ks, d :: ds => k * d + dotD ks ds
  | _, _ => 0

theorem valAt_length {j : Nat} {v : Val} {D : List Int} (h : NonnegAt j v D) :
    (valAt v D j).length = v.length := by
  induction h with
  | nil => rfl
  | cons _ _ ih => simp only [valAt, List.length_cons, ih]

theorem valAt_append {j : Nat} {v1 : Val} {D1 : List Int} (h : NonnegAt j v1 D1) (v2 : Val)
    (D2 : List Int) : valAt (v1 ++ v2) (D1 ++ D2) j = valAt v1 D1 j ++ valAt v2 D2 j := by
  induction h with
  | nil => rfl
  | cons _ _ ih => simp only [List.cons_append, valAt, ih]

theorem NonnegAt.append {j : Nat} {v1 v2 : Val} {D1 D2 : List Int} (h1 : NonnegAt j v1 D1)
    (h2 : NonnegAt j v2 D2) : NonnegAt j (v1 ++ v2) (D1 ++ D2) := by
  induction h1 with
  | nil => exact h2
  | cons h _ ih => exact .cons h ih

theorem dot_valAt {j : Nat} {v : Val} {D : List Int} (h : NonnegAt j v D) (ks : List Nat) :
    (dot ks (valAt v D j) : Int) = dot ks v + j * dotD ks D := by
  induction h generalizing ks with
  | nil => simp only [valAt, dot_nil_right, dotD, Int.natCast_zero, Int.mul_zero, Int.add_zero]
  | @cons x d xs ds h _ ih =>
    cases ks with
    | nil => simp only [dot_nil_left, dotD, Int.natCast_zero, Int.mul_zero, Int.add_zero]
    | cons k ks =>
      simp only [valAt, dot_cons, dotD, Int.natCast_add, Int.natCast_mul, ih ks,
        Int.toNat_of_nonneg h, Int.mul_add, Int.mul_left_comm (j : Int)]
      omega

theorem eval_valAt {j : Nat} {v : Val} {D : List Int} (h : NonnegAt j v D) (f : Form) :
    (f.eval (valAt v D j) : Int) = f.eval v + j * dotD f.ks D := by
  simp only [Form.eval, Int.natCast_add, dot_valAt h]
  omega

/-- `Σ_{j<n} g j` -/
def sumTo (g : Nat → Nat) : Nat → Nat
  | 0 => 0
  | n + 1 => sumTo g n + g n

theorem sumTo_congr {g g' : Nat → Nat} {n : Nat} (h : ∀ j, j < n → g j = g' j) :
    sumTo g n = sumTo g' n := by
  induction n with
  | zero => rfl
  | succ n ih =>
    simp only [sumTo]
    rw [ih fun j hj => h j (by omega), h n (by omega)]

theorem foldl_add_init (l : List Int) (a : Int) :
    l.foldl (· + ·) a = a + l.foldl (· + ·) 0 := by
  induction l generalizing a with
  | nil => exact (Int.add_zero a).symm
  | cons x xs ih =>
    simp only [List.foldl_cons]
    rw [ih (a + x), ih (0 + x)]
    omega

theorem foldl_zipWith_eq_dotD (ks : List Nat) (ds : List Int) :
    (List.zipWith (fun (k : Nat) (d : Int) => (k : Int) * d) ks ds).foldl (· + ·) 0 = dotD ks ds := by
  induction ks generalizing ds with
  | nil => rfl
  | cons k ks ih =>
    cases ds with
    | nil => rfl
    | cons d ds =>
      rw [List.zipWith_cons_cons, List.foldl_cons, foldl_add_init, ih, dotD]
      omega

theorem totalSteps_eq (f : Form) (x : Val) (ds : List Int) (t : Nat) :
    totalSteps f x ds t = t * (f.eval x : Int) + dotD f.ks ds * ((t : Int) * ((t : Int) - 1) / 2) := by
  rw [totalSteps, foldl_zipWith_eq_dotD]

theorem tri_succ (t : Nat) :
    ((t + 1 : Nat) : Int) * (((t + 1 : Nat) : Int) - 1) / 2 = (t : Int) * ((t : Int) - 1) / 2 + t := by
  rw [Int.natCast_succ, Int.add_sub_cancel, Int.add_mul, Int.one_mul, Int.mul_sub, Int.mul_one,
    show (t : Int) * t + t = (t * t - t) + t * 2 by omega, Int.add_mul_ediv_right _ _ (by decide)]

theorem sumTo_totalSteps (f : Form) {v : Val} {D : List Int} (t : Nat)
    (hn : ∀ j, j < t → NonnegAt j v D) :
    ((sumTo (fun j => f.eval (valAt v D j)) t : Nat) : Int) = totalSteps f v D t := by
  rw [totalSteps_eq]
  induction t with
  | zero => simp only [sumTo, Int.natCast_zero, Int.zero_mul, Int.mul_zero, Int.zero_sub,
      Int.zero_ediv, Int.add_zero]
  | succ t ih =>
    rw [sumTo, Int.natCast_add, ih fun j hj => hn j (by omega), eval_valAt (hn t (by omega)),
      tri_succ, Int.natCast_succ, Int.add_mul, Int.one_mul, Int.mul_add,
      Int.mul_comm (dotD f.ks D) t]
    omega

/-- the span `j` periods on: every count moved by `j` times its difference -/
def spanAt : Span → List Int → Nat → Span
  | a :: as, d :: ds, j => ⟨a.color, ((a.count : Int) + j * d).toNat⟩ :: spanAt as ds j
  | s, _, _ => s

theorem spanAt_zero (s : Span) (ds : List Int) : spanAt s ds 0 = s := by
  induction s generalizing ds with
  | nil => cases ds <;> rfl
  | cons a as ih =>
    cases ds with
    | nil => rfl
    | cons d ds =>
      simp only [spanAt, ih, Int.natCast_zero, Int.zero_mul, Int.add_zero, Int.toNat_natCast]

/-- a count that `j` periods have driven below 0 belongs to a shrinking block: it stays at 0 -/
theorem toNat_add_toNat {a : Nat} {x d : Int} (h : 0 ≤ d → 0 ≤ x) :
    (((a : Int) + x).toNat + d).toNat = (a + (x + d)).toNat := by
  by_cases hx : 0 ≤ (a : Int) + x
  · rw [Int.toNat_of_nonneg hx, Int.add_assoc]
  · have hx' : (a : Int) + x < 0 := Int.not_le.1 hx
    have hd : d < 0 := Int.not_le.1 fun h0 => hx (Int.add_nonneg (Int.natCast_nonneg a) (h h0))
    rw [Int.toNat_of_nonpos (Int.le_of_lt hx'), Int.natCast_zero, Int.zero_add,
      Int.toNat_of_nonpos (Int.le_of_lt hd), ← Int.add_assoc,
      Int.toNat_of_nonpos (Int.le_of_lt (Int.add_neg hx' hd))]

theorem spanAt_succ (s : Span) (ds : List Int) (j : Nat) :
    spanAt (spanAt s ds j) ds 1 = spanAt s ds (j + 1) := by
  induction s generalizing ds with
  | nil => cases ds <;> rfl
  | cons a as ih =>
    cases ds with
    | nil => rfl
    | cons d ds =>
      rw [spanAt, spanAt, spanAt, ih, Int.natCast_one, Int.one_mul, Int.natCast_succ, Int.add_mul,
        Int.one_mul, toNat_add_toNat (Int.mul_nonneg (Int.natCast_nonneg j))]

theorem shiftSpan_inst {S : SSpan} {ds : List Int} {tgt : SSpan} (h : shiftSpan S ds = some tgt)
    (w : Val) : tgt.inst w = spanAt (S.inst w) ds 1 := by
  induction S generalizing ds tgt with
  | nil =>
    cases ds with
    | nil => simp only [shiftSpan, Option.some.injEq] at h; subst h; rfl
    | cons d ds => simp only [shiftSpan] at h; cases h
  | cons b bs ih =>
    cases ds with
    | nil => simp only [shiftSpan] at h; cases h
    | cons d ds =>
      obtain ⟨hc, r, hr, rfl⟩ := shiftSpan_cons h
      rw [SSpan.inst_cons, SSpan.inst_cons, spanAt, ih hr, Int.natCast_one, Int.one_mul, Form.eval,
        Form.eval, Int.natCast_add, Int.add_right_comm,
        Int.toNat_add (Int.le_trans (by decide) hc) (Int.natCast_nonneg _), Int.toNat_natCast]

def tapeAt (t : Tape) (dl dr : List Int) (j : Nat) : Tape :=
  ⟨t.scan, spanAt t.lspan dl j, spanAt t.rspan dr j⟩

theorem tapeAt_zero (t : Tape) (dl dr : List Int) : tapeAt t dl dr 0 = t := by
  simp only [tapeAt, spanAt_zero]

theorem tapeAt_succ (t : Tape) (dl dr : List Int) (j : Nat) :
    tapeAt (tapeAt t dl dr j) dl dr 1 = tapeAt t dl dr (j + 1) := by
  simp only [tapeAt, spanAt_succ]

theorem STape.shift_inst {t : STape} {dl dr : List Int} {target : STape}
    (h : t.shift dl dr = some target) (w : Val) : target.inst w = tapeAt (t.inst w) dl dr 1 := by
  obtain ⟨l, r, hl, hr, rfl⟩ := STape.shift_some h
  simp only [STape.inst, tapeAt, shiftSpan_inst hl, shiftSpan_inst hr]

theorem spanDiffs_spec {times : Nat} {a b : Span} {ds : List Int}
    (h : spanDiffs times a b = some ds) : a.length = ds.length ∧ b = spanAt a ds times := by
  induction a generalizing b ds with
  | nil =>
    cases b with
    | nil => simp only [spanDiffs, Option.some.injEq] at h; subst h; exact ⟨rfl, rfl⟩
    | cons y ys => simp only [spanDiffs] at h; cases h
  | cons x xs ih =>
    cases b with
    | nil => simp only [spanDiffs] at h; cases h
    | cons y ys =>
      simp only [spanDiffs] at h
      split at h
      · cases h
      next hc =>
      split at h
      · cases h
      next hm =>
      obtain ⟨r, hr, rfl⟩ := Option.map_eq_some_iff.1 h
      simp only [bne_iff_ne, ne_eq, Decidable.not_not] at hc hm
      obtain ⟨h1, h2⟩ := ih hr
      refine ⟨congrArg (· + 1) h1, ?_⟩
      rw [spanAt, ← h2, Int.mul_ediv_cancel_of_emod_eq_zero hm, hc, Int.add_comm,
        Int.sub_add_cancel, Int.toNat_natCast]

theorem sameShapeGrow_spec {a b : Span} {ds : List Int} (h : sameShapeGrow a b = some ds) :
    a.length = ds.length ∧ ∀ d ∈ ds, 0 ≤ d := by
  fun_induction sameShapeGrow a b generalizing ds with
  | case1 => cases h; exact ⟨rfl, nofun⟩
  | case2 => cases h
  | case3 x xs y ys hc ih =>
    obtain ⟨r, hr, rfl⟩ := Option.map_eq_some_iff.1 h
    obtain ⟨h1, h2⟩ := ih hr
    simp only [Bool.or_eq_true, decide_eq_true_eq, not_or, Nat.not_lt] at hc
    refine ⟨congrArg (· + 1) h1, fun d hd => ?_⟩
    cases hd with
    | head => omega
    | tail _ hd' => exact h2 d hd'
  | case4 => cases h

theorem symSpan_nil_left (times : Nat) (ds : List Int) (i : Nat) :
    symSpan times [] ds i = ([], [], i) := by
  simp only [symSpan]

theorem symSpan_nil_right (times : Nat) (s : Span) (i : Nat) :
    symSpan times s [] i = ([], [], i) := by
  cases s <;> simp only [symSpan]

theorem symSpan_cons_zero {times : Nat} {a : Block} {as : Span} {ds : List Int} {i : Nat}
    {S : SSpan} {v : Val} {i' : Nat} (he : symSpan times (a :: as) (0 :: ds) i = (S, v, i')) :
    ∃ S', symSpan times as ds i = (S', v, i') ∧ S = ⟨a.color, Form.const a.count⟩ :: S' := by
  simp only [symSpan, beq_self_eq_true, if_true, Prod.mk.injEq] at he
  obtain ⟨rfl, rfl, rfl⟩ := he
  exact ⟨_, rfl, rfl⟩

/-- `c` is the constant part of the form of a changing block (the smallest count the block has at
    the start of any of the `times` periods), `a - c` the start value of its variable. -/
theorem symConst_spec (times a : Nat) {d : Int} (hd : d ≠ 0) {c : Nat}
    (hc : c = if d > 0 then a else a - (times - 1) * d.natAbs) :
    c ≤ a ∧ (1 ≤ c → ∀ j : Nat, (d < 0 → j < times) → 0 ≤ ((a - c : Nat) : Int) + j * d) := by
  by_cases hpos : d > 0
  · rw [if_pos hpos] at hc
    exact ⟨Nat.le_of_eq hc, fun _ j _ => Int.add_nonneg (Int.natCast_nonneg _)
      (Int.mul_nonneg (Int.natCast_nonneg j) (Int.le_of_lt hpos))⟩
  · rw [if_neg hpos] at hc
    subst hc
    refine ⟨Nat.sub_le _ _, fun hc1 j hj => ?_⟩
    have hneg : d < 0 := by omega
    rw [Nat.sub_sub_self (Nat.le_of_lt (Nat.lt_of_sub_pos hc1)), Int.natCast_mul,
      Int.ofNat_natAbs_of_nonpos (Int.le_of_lt hneg), Int.mul_neg, Int.add_comm]
    exact Int.sub_nonneg_of_le (Int.mul_le_mul_of_nonpos_right
      (Int.ofNat_le.2 (Nat.le_sub_one_of_lt (hj hneg))) (Int.le_of_lt hneg))

theorem symSpan_cons_ne {times : Nat} {a : Block} {as : Span} {d : Int} {ds : List Int} {i : Nat}
    {S : SSpan} {v : Val} {i' : Nat} (hd : d ≠ 0)
    (he : symSpan times (a :: as) (d :: ds) i = (S, v, i')) :
    ∃ c S' v', symSpan times as ds (i + 1) = (S', v', i') ∧ S = ⟨a.color, Form.var c i⟩ :: S' ∧
      v = (a.count - c) :: v' ∧ c = if d > 0 then a.count else a.count - (times - 1) * d.natAbs := by
  have h0 : (d == 0) = false := beq_false_of_ne hd
  simp only [symSpan, h0, Bool.false_eq_true, if_false, Prod.mk.injEq] at he
  obtain ⟨rfl, rfl, rfl⟩ := he
  exact ⟨_, _, _, rfl, rfl, rfl, rfl⟩

theorem symSpan_next {times : Nat} {s : Span} {ds : List Int} {i : Nat} {S : SSpan} {v : Val}
    {i' : Nat} (he : symSpan times s ds i = (S, v, i')) : i' = i + v.length := by
  induction s generalizing ds i S v with
  | nil =>
    rw [symSpan_nil_left, Prod.mk.injEq, Prod.mk.injEq] at he
    obtain ⟨_, rfl, rfl⟩ := he
    rfl
  | cons a as ih =>
    cases ds with
    | nil =>
      rw [symSpan_nil_right, Prod.mk.injEq, Prod.mk.injEq] at he
      obtain ⟨_, rfl, rfl⟩ := he
      rfl
    | cons d ds =>
      by_cases hd : d = 0
      · subst hd
        obtain ⟨_, he', _⟩ := symSpan_cons_zero he
        exact ih he'
      · obtain ⟨_, _, _, he', _, rfl, _⟩ := symSpan_cons_ne hd he
        rw [ih he', List.length_cons]
        omega

theorem getD_append_singleton (pre : Val) (x : Nat) (rest : Val) :
    (pre ++ [x] ++ rest).getD pre.length 0 = x := by
  induction pre with
  | nil => rfl
  | cons p ps ih => exact ih

/-- The variables of the span are numbered from `i = pre.length`; `hj`: no shrinking block has
    run out before period `j`. -/
theorem symSpan_inst {times : Nat} {s : Span} {ds : List Int} (hl : s.length = ds.length)
    {j : Nat} (hj : ∀ d ∈ ds, d < 0 → j < times) {pre : Val} {i : Nat} (hi : pre.length = i)
    (suf : Val) {S : SSpan} {v : Val} {i' : Nat} (he : symSpan times s ds i = (S, v, i'))
    (hp : SSpan.posB S = true) :
    NonnegAt j v (ds.filter (· != 0)) ∧
      S.inst (pre ++ valAt v (ds.filter (· != 0)) j ++ suf) = spanAt s ds j := by
  induction s generalizing ds pre i S v with
  | nil =>
    cases ds with
    | cons d ds => cases hl
    | nil =>
      rw [symSpan_nil_left, Prod.mk.injEq, Prod.mk.injEq] at he
      obtain ⟨rfl, rfl, _⟩ := he
      exact ⟨.nil, rfl⟩
  | cons a as ih =>
    cases ds with
    | nil => cases hl
    | cons d ds =>
      rw [List.length_cons, List.length_cons, Nat.add_right_cancel_iff] at hl
      have hj' : ∀ e ∈ ds, e < 0 → j < times := fun e he => hj e (List.mem_cons_of_mem _ he)
      by_cases hd : d = 0
      · subst hd
        obtain ⟨S', he', rfl⟩ := symSpan_cons_zero he
        obtain ⟨hn, h1⟩ := ih hl hj' hi he' ((SSpan.posB_cons _ _).1 hp).2
        rw [List.filter_cons_of_neg (by decide), SSpan.inst_cons, h1, eval_const, spanAt,
          Int.mul_zero, Int.add_zero, Int.toNat_natCast]
        exact ⟨hn, rfl⟩
      · obtain ⟨c, S', v', he', rfl, rfl, hc⟩ := symSpan_cons_ne hd he
        obtain ⟨hc1, hp'⟩ := (SSpan.posB_cons _ _).1 hp
        obtain ⟨hca, hnn⟩ := symConst_spec times a.count hd hc
        have hx := hnn hc1 j (hj d (List.mem_cons_self ..))
        rw [List.filter_cons_of_pos (p := (· != 0)) (bne_iff_ne.2 hd), valAt, List.append_cons pre]
        obtain ⟨hn, h1⟩ := ih hl hj' (pre := pre ++ [((a.count - c : Nat) + (j : Int) * d).toNat])
          (by rw [List.length_append, hi]; rfl) he' hp'
        refine ⟨.cons hx hn, ?_⟩
        rw [SSpan.inst_cons, h1, eval_var, ← hi, List.append_assoc (pre ++ _),
          getD_append_singleton, spanAt, ← Nat.add_sub_cancel' hca, Int.natCast_add,
          Nat.add_sub_cancel_left, Int.add_assoc, Int.toNat_add (Int.natCast_nonneg c) hx,
          Int.toNat_natCast]

end BB.Sym
