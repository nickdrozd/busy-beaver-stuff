/-
C04: blank-state pruning is always justified when the table is a function (every listed entry is
the looked-up one) and the targets are coherent.  A blank tape of the search has a lineage: it comes
from a target by plain backward steps through real instructions, because a tape that ever received
an indefinite block is never blank again.  The plain backward step is exact in the forward
direction, so by determinism of the machine two lineages of one state that share a concrete
configuration (the all-zero one, for blank tapes) are the same tape up to the head counter.
-/
import BB.Lemmas.ReasonPrune

namespace BB.Reason

open BB

/-- every listed entry of the table is the one `get` finds (true for a table without duplicate
    keys, in particular for a sorted `BTreeMap` image; the same test as `Graph.noShadow`) -/
def _root_.BB.Prog.functionalB (p : Prog) : Bool := p.all fun kv => p.get kv.1 == some kv.2

theorem Prog.get_of_mem {p : Prog} (h : p.functionalB = true) {kv : Slot × Instr} (hkv : kv ∈ p) :
    p.get kv.1 = some kv.2 :=
  beq_iff_eq.1 (List.all_eq_true.1 h kv hkv)

theorem forward_exact {q s r pr : Nat} {sh : Bool} {t : Backstepper} {c : Cfg}
    (hc : t.checkStep sh pr = true) (hi : t.pullsIndef sh = false)
    (hg : GammaT q (t.backstep sh r) c) : GammaT s t (c.move pr sh s) := by
  have hp := isPred_move c pr sh s
  obtain ⟨_, _, hpull, hpush⟩ := (gammaT_sides q _ c sh).1 hg
  rw [pullSpan_backstep] at hpull
  rw [pushSpan_backstep] at hpush
  obtain ⟨h0, hpush⟩ := SM.push_iff.1 hpush
  exact (gammaT_sides s t _ sh).2 ⟨c.move_state pr sh s, hp.push0.symm.trans h0,
    (SM.pull_iff hi).2 ⟨hp.pull0.symm ▸ hc, hpull.congr hp.pullS⟩, hpush.congr hp.pushS⟩

/-- tapes that agree up to the `head` counter -/
def SameSpans (t1 t2 : Backstepper) : Prop :=
  t1.scan = t2.scan ∧ t1.lspan = t2.lspan ∧ t1.rspan = t2.rspan

theorem SameSpans.refl (t : Backstepper) : SameSpans t t := ⟨rfl, rfl, rfl⟩

theorem SameSpans.symm {t1 t2 : Backstepper} (h : SameSpans t1 t2) : SameSpans t2 t1 :=
  ⟨h.1.symm, h.2.1.symm, h.2.2.symm⟩

theorem SameSpans.backstep {t1 t2 : Backstepper} (h : SameSpans t1 t2) (sh : Bool) (r : Nat) :
    SameSpans (t1.backstep sh r) (t2.backstep sh r) := by
  obtain ⟨h1, h2, h3⟩ := h
  cases sh <;> simp [SameSpans, Backstepper.backstep, h1, h2, h3]

theorem SameSpans.gammaT {t1 t2 : Backstepper} (h : SameSpans t1 t2) {q : Nat} {c : Cfg}
    (hg : GammaT q t1 c) : GammaT q t2 c := by
  obtain ⟨h1, h2, h3⟩ := h
  simp only [GammaT] at hg ⊢
  rw [← h1, ← h2, ← h3]; exact hg

theorem SameSpans.checkStep {t1 t2 : Backstepper} (h : SameSpans t1 t2) (sh : Bool) (pr : Nat) :
    t1.checkStep sh pr = t2.checkStep sh pr := by
  obtain ⟨h1, h2, h3⟩ := h
  cases sh <;> simp [Backstepper.checkStep, Backstepper.pullSpan, h2, h3]

theorem SameSpans.pullsIndef {t1 t2 : Backstepper} (h : SameSpans t1 t2) (sh : Bool) :
    t1.pullsIndef sh = t2.pullsIndef sh := by
  obtain ⟨h1, h2, h3⟩ := h
  cases sh <;> simp [Backstepper.pullsIndef, Backstepper.pullSpan, h2, h3]

/-- `(q, t)` is obtained from a target by plain backward steps through real instructions -/
inductive Lineage (p : Prog) (targets : Configs) : Nat → Backstepper → Prop
  | target {X : Config} : X ∈ targets → Lineage p targets X.state X.tape
  | step {s q r pr : Nat} {sh : Bool} {t : Backstepper} :
      Lineage p targets s t → p.get (q, r) = some (pr, sh, s) → t.checkStep sh pr = true →
      t.pullsIndef sh = false → Lineage p targets q (t.backstep sh r)

/-- what the determinism argument needs to know about the targets -/
structure TargetsCoherent (p : Prog) (targets : Configs) : Prop where
  same : ∀ T1 ∈ targets, ∀ T2 ∈ targets, ∀ c, Gamma T1 c → Gamma T2 c →
    SameSpans T1.tape T2.tape
  /-- if the machine can step from a target configuration, it stays in the same target, and
      stepping the target back over that instruction gives the target again -/
  stay : ∀ T ∈ targets, ∀ c, Gamma T c → ∀ pr sh s, p.get (c.state, c.scan) = some (pr, sh, s) →
    s = T.state ∧ Gamma T (c.move pr sh s) ∧
    ∀ t', SameSpans t' T.tape → SameSpans (t'.backstep sh c.scan) T.tape

theorem lineage_unique_target {p : Prog} {targets : Configs} (hT : TargetsCoherent p targets)
    {X : Config} (hX : X ∈ targets) : ∀ {q : Nat} {t : Backstepper}, Lineage p targets q t →
    X.state = q → ∀ c, Gamma X c → GammaT q t c → SameSpans X.tape t := by
  intro q t h
  induction h with
  | @target X2 hX2 => intro _ c g1 g2; exact hT.same X hX X2 hX2 c g1 g2
  | @step s q r pr sh t hl hget hck hpi ih =>
    intro hs c g1 g2
    have hr : c.scan = r := by rw [g2.2.1, scan_backstep]
    have hget' : p.get (c.state, c.scan) = some (pr, sh, s) := by rw [g1.1, hs, hr]; exact hget
    obtain ⟨hs', hstay, hback⟩ := hT.stay X hX c g1 pr sh s hget'
    have := ih hs'.symm _ hstay (forward_exact hck hpi g2)
    rw [← hr]
    exact (hback t this.symm).symm

theorem lineage_unique {p : Prog} {targets : Configs} (hT : TargetsCoherent p targets) :
    ∀ {q : Nat} {t1 : Backstepper}, Lineage p targets q t1 → ∀ {t2 : Backstepper} {c : Cfg},
    Lineage p targets q t2 → GammaT q t1 c → GammaT q t2 c → SameSpans t1 t2 := by
  intro q t1 h1
  induction h1 with
  | @target X hX => intro t2 c h2 g1 g2; exact lineage_unique_target hT hX h2 rfl c g1 g2
  | @step s q r pr sh t hl hget hck hpi ih =>
    intro t2 c h2 g1 g2
    cases h2 with
    | @target X2 hX2 =>
      exact (lineage_unique_target hT hX2 (Lineage.step hl hget hck hpi) rfl c g2 g1).symm
    | @step s2 _ r2 pr2 sh2 t2' hl2 hget2 hck2 hpi2 =>
      have hr : r2 = r := by rw [← scan_backstep t2' sh2 r2, ← g2.2.1, g1.2.1, scan_backstep]
      subst hr
      rw [hget] at hget2
      simp only [Option.some.injEq, Prod.mk.injEq] at hget2
      obtain ⟨rfl, rfl, rfl⟩ := hget2
      exact (ih hl2 (forward_exact hck hpi g1) (forward_exact hck2 hpi2 g2)).backstep sh r2

/-- some indefinite block has a non-zero colour in it or behind it.  `get_indef` makes such a
    block (the colour ahead differs from the scanned one), nothing is merged into it, and no step
    pulls it. -/
def StuckL : List Block → Prop
  | [] => False
  | b :: rest => (b.count = 0 ∧ ∃ b' ∈ b :: rest, b'.color ≠ 0) ∨ StuckL rest

def Stuck (t : Backstepper) : Prop := StuckL t.lspan.span ∨ StuckL t.rspan.span

theorem StuckL.not_zero : ∀ {bs : List Block}, StuckL bs → ∃ b ∈ bs, b.color ≠ 0
  | _ :: _, Or.inl h => h.2
  | _ :: _, Or.inr h =>
    let ⟨b, hm, hc⟩ := StuckL.not_zero h
    ⟨b, List.mem_cons_of_mem _ hm, hc⟩

theorem StuckL.pull {s : Span} (h : StuckL s.span) (hi : s.headIndef = false) :
    StuckL s.pull.span := by
  obtain ⟨bs, e⟩ := s
  cases bs with
  | nil => exact h
  | cons b rest =>
    simp only [Span.headIndef, beq_eq_false_iff_ne, ne_eq] at hi
    have hr : StuckL rest := h.resolve_left fun h0 => hi h0.1
    simp only [Span.pull]
    split
    · exact hr
    · split
      · exact h
      · exact Or.inr hr

theorem StuckL.push {s : Span} (h : StuckL s.span) (c : Nat) : StuckL (s.push c 1).span := by
  obtain ⟨bs, e⟩ := s
  cases bs with
  | nil => exact h.elim
  | cons b rest =>
    simp only [Span.push]
    split
    · rename_i hc
      simp only [Bool.and_eq_true, bne_iff_ne, ne_eq] at hc
      exact Or.inr (h.resolve_left fun h0 => hc.2 h0.1)
    · exact Or.inr h

theorem stuckL_pushIndef {s : Span} {c : Nat} (hm : s.matchesColor c = false) :
    StuckL (s.pushBlock c 0).span := by
  refine Or.inl ⟨rfl, ?_⟩
  by_cases hc : c = 0
  · obtain ⟨bs, e⟩ := s
    subst hc
    cases bs with
    | nil => cases e <;> simp [Span.matchesColor, TapeEnd.matchesColor] at hm
    | cons b rest =>
      simp only [Span.matchesColor, beq_eq_false_iff_ne, ne_eq] at hm
      exact ⟨b, List.mem_cons_of_mem _ List.mem_cons_self, hm⟩
  · exact ⟨_, List.mem_cons_self, hc⟩

theorem stuck_sides (t : Backstepper) (sh : Bool) :
    Stuck t ↔ StuckL (t.pullSpan sh).span ∨ StuckL (t.pushSpan sh).span := by
  cases sh
  · exact Or.comm
  · exact Iff.rfl

theorem Stuck.backstep {t : Backstepper} (h : Stuck t) {sh : Bool} (hi : t.pullsIndef sh = false)
    (r : Nat) : Stuck (t.backstep sh r) := by
  rw [stuck_sides _ sh] at h ⊢
  rw [pullSpan_backstep, pushSpan_backstep]
  exact h.imp (·.pull hi) (·.push _)

theorem stuck_pushIndef {t : Backstepper} {sh : Bool}
    (hm : (t.pushSpan sh).matchesColor t.scan = false) : Stuck (t.pushIndef sh) := by
  rw [stuck_sides _ sh, pushSpan_pushIndef]
  exact Or.inr (stuckL_pushIndef hm)

theorem Stuck.not_blank {t : Backstepper} (h : Stuck t) : ¬ t.blank = true := by
  simp only [Backstepper.blank, Span.blank, Bool.and_eq_true, beq_iff_eq, List.all_eq_true]
  intro hb
  rcases h with h | h
  · obtain ⟨b, hm, hc⟩ := h.not_zero
    exact hc (hb.1.2 b hm)
  · obtain ⟨b, hm, hc⟩ := h.not_zero
    exact hc (hb.2 b hm)

theorem gammaT_blank {q : Nat} {t : Backstepper} (hb : t.blank = true) :
    GammaT q t ⟨q, [], 0, []⟩ := by
  simp only [Backstepper.blank, Span.blank, Bool.and_eq_true, beq_iff_eq, List.all_eq_true] at hb
  exact ⟨rfl, hb.1.1.symm, SpanMatch.of_all_zero hb.1.2 (fun i => cellAt_nil i),
    SpanMatch.of_all_zero hb.2 (fun i => cellAt_nil i)⟩

theorem sideSub_self (s : Span) : sideSub s s = true := by
  simp only [sideSub]
  cases s.end_ <;> simp

theorem blankSub_of_sameSpans {t1 t2 : Backstepper} (h : SameSpans t1 t2) :
    blankSub t1 t2 = true := by
  obtain ⟨_, h2, h3⟩ := h
  simp only [blankSub, h2, h3, sideSub_self, Bool.and_self]

theorem lineage_pruneInv {p : Prog} {targets : Configs} (hf : p.functionalB = true)
    (hT : TargetsCoherent p targets) :
    PruneInv (getEntrypoints p) fun st t => Stuck t ∨ Lineage p targets st t where
  backstep := by
    intro st t r sh q h ⟨same, diff, pr, hg, hm, hck⟩ hpi
    have hget : p.get (q, r) = some (pr, sh, st) :=
      Prog.get_of_mem hf (getEntrypoints_real hg hm)
    exact h.imp (·.backstep hpi r) (Lineage.step · hget hck hpi)
  pushIndef := by
    intro st t sh r _ hcs
    obtain ⟨_, _, h3⟩ := checkSpinout_some hcs
    exact Or.inl (stuck_pushIndef (by simpa using h3.symm))
  prune := by
    intro q y z hy hyb hz hzb
    exact blankSub_of_sameSpans (lineage_unique hT (hy.resolve_left (·.not_blank hyb))
      (hz.resolve_left (·.not_blank hzb)) (gammaT_blank hyb) (gammaT_blank hzb))

theorem cantReachI_flag_coherent {p : Prog} {targets : Configs} (hf : p.functionalB = true)
    (hT : TargetsCoherent p targets) (f : Bool) (depth : Nat) :
    (cantReachI f p depth targets).2 = true :=
  cantReachI_flag (lineage_pruneInv hf hT) (fun _ hX => Or.inr (Lineage.target hX)) f depth

end BB.Reason
