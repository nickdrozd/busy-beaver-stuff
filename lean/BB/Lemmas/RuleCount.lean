/-
C11 (rule arithmetic is exact): `get_count` and the loop of `count_apps`.

The code divides `u64`s (`count / |δ|`, `count % |δ|`); `timesMinRes_eq` turns that into
`maxApps = (count - 1) / |δ|` once, and `le_maxApps_iff` says what it means in exact integers
(`n ≤ maxApps` iff `n` applications leave a cell), which is how `loop_some` is stated.
-/
import BB.Lemmas.RuleMake

namespace BB.RuleArith

open BB

theorem getCount_eq (t : Tape) (idx : Index) :
    t.getCount idx = match (tspan t idx.1)[idx.2]? with
      | some b => .ok b.count
      | none => .error (.panic "index out of bounds") := rfl

theorem getCount_ok_iff (t : Tape) (idx : Index) (c : Nat) :
    t.getCount idx = .ok c ↔ ∃ b, (tspan t idx.1)[idx.2]? = some b ∧ b.count = c := by
  rw [getCount_eq]
  split
  · next b hb => simp [hb]
  · next hb => simp [hb]

theorem getCount_inRange {t : Tape} {idx : Index} (h : InRange t idx) :
    ∃ c, t.getCount idx = .ok c := by
  unfold InRange at h
  rw [getCount_eq, List.getElem?_eq_getElem h]
  exact ⟨_, rfl⟩

theorem inRange_of_getCount {t : Tape} {idx : Index} {c : Nat} (h : t.getCount idx = .ok c) :
    InRange t idx := by
  obtain ⟨b, hb, _⟩ := (getCount_ok_iff t idx c).mp h
  unfold InRange
  exact (List.getElem?_eq_some_iff.mp hb).1

theorem getCount_not_inRange {t : Tape} {idx : Index} (h : ¬ InRange t idx) :
    t.getCount idx = .error (.panic "index out of bounds") := by
  unfold InRange at h
  rw [getCount_eq, List.getElem?_eq_none (by omega)]

/-- `(count - 1) / absdiff`: the largest number of subtractions of `absdiff` that leave at least
    one cell -/
def maxApps (count absdiff : Nat) : Nat := (count - 1) / absdiff

theorem natAbs_mul_cast (δ : Int) (n : Nat) :
    ((δ.natAbs * n : Nat) : Int) = if δ < 0 then -(δ * n) else δ * n := by
  rw [Int.natCast_mul]
  split
  · rw [Int.ofNat_natAbs_of_nonpos (by omega), Int.neg_mul]
  · rw [Int.natAbs_of_nonneg (by omega)]

theorem le_maxApps_iff {c : Nat} {δ : Int} (hδ : δ < 0) (hc : 1 ≤ c) (n : Nat) :
    n ≤ maxApps c δ.natAbs ↔ 1 ≤ (c : Int) + δ * n := by
  have := natAbs_mul_cast δ n
  unfold maxApps
  rw [Nat.le_div_iff_mul_le (by omega), Nat.mul_comm]
  omega

theorem lt_maxApps_iff {c : Nat} {δ : Int} (hδ : δ < 0) (hc : 1 ≤ c) (n : Nat) :
    n < maxApps c δ.natAbs ↔ 1 ≤ (c : Int) + δ * (n + 1) := by
  have := le_maxApps_iff hδ hc (n + 1)
  rwa [Int.natCast_add, Int.natCast_one] at this

theorem timesMinRes_eq {count ad : Nat} (had : 0 < ad) (hc : 1 ≤ count) :
    timesMinRes (count / ad) (count % ad) ad
      = .ok (maxApps count ad, count - ad * maxApps count ad) := by
  obtain ⟨n, rfl⟩ : ∃ n, count = n + 1 := ⟨count - 1, by omega⟩
  unfold timesMinRes maxApps
  rw [Nat.add_sub_cancel]
  by_cases hrem : (n + 1) % ad > 0
  · rw [if_pos hrem, ← Nat.succ_div_of_mod_ne_zero (Nat.ne_of_gt hrem), ← Nat.mod_def]
  · have h0 : (n + 1) % ad = 0 := Nat.eq_zero_of_not_pos hrem
    have hd := Nat.succ_div_of_mod_eq_zero h0
    have hdm := Nat.div_add_mod (n + 1) ad
    rw [h0, hd, Nat.mul_succ] at hdm
    rw [if_neg hrem, hd, if_neg (by simp), Nat.add_sub_cancel]
    congr 2
    omega

theorem updateApps_cases (apps : Option Apps) (times : Nat) (pos : Index) (minRes : Nat) :
    ∃ a, updateApps apps times pos minRes = some a ∧ a.1 ≤ times ∧
      ((a = (times, pos, minRes) ∧ ∀ b, apps = some b → times < b.1) ∨ apps = some a) := by
  unfold updateApps
  cases apps with
  | none => exact ⟨_, rfl, Nat.le_refl _, Or.inl ⟨rfl, fun b hb => (by cases hb)⟩⟩
  | some b =>
    obtain ⟨curr, p, m⟩ := b
    simp only
    by_cases h : times < curr
    · rw [if_pos h]
      exact ⟨_, rfl, Nat.le_refl _, Or.inl ⟨rfl, fun b hb => (by cases hb; exact h)⟩⟩
    · rw [if_neg h]
      exact ⟨_, rfl, by simp only; omega, Or.inr rfl⟩

theorem loop_plus (t : Tape) (pos : Index) (δ : Int) (rest : Rule) (apps : Option Apps) :
    countAppsLoop t ((pos, .plus δ) :: rest) apps =
      if δ ≥ 0 then countAppsLoop t rest apps
      else match t.getCount pos with
        | .error e => .error e
        | .ok c =>
          if δ.natAbs ≥ c then .ok none
          else countAppsLoop t rest
            (updateApps apps (maxApps c δ.natAbs) pos (c - δ.natAbs * maxApps c δ.natAbs)) := by
  simp only [countAppsLoop]
  split
  · rfl
  cases t.getCount pos with
  | error e => rfl
  | ok c =>
    dsimp only
    split
    · rfl
    · rw [timesMinRes_eq (by omega) (by omega)]

theorem forall_plus_cons {Q : Index → Int → Prop} {pos : Index} {diff : Int} {rest : Rule}
    (hd : Q pos diff) (ht : ∀ idx δ, (idx, Op.plus δ) ∈ rest → Q idx δ) :
    ∀ idx δ, (idx, Op.plus δ) ∈ (pos, Op.plus diff) :: rest → Q idx δ := by
  intro idx δ hm
  rcases List.mem_cons.mp hm with hm | hm
  · cases hm; exact hd
  · exact ht idx δ hm

/-- Loop invariant over the running minimum `apps`: the result is `apps` itself or was set at the
    first entry whose block does not survive `T + 1` applications (those of `pre` do), and then `T`
    is strictly below `apps` (strict `<` in `updateApps`: the first minimum in map order wins). -/
theorem loop_some (t : Tape) (rule : Rule) (apps : Option Apps) (T : Nat) (P : Index) (M : Nat)
    (h : countAppsLoop t rule apps = .ok (some (T, P, M))) :
    AllPlus rule ∧
      (∀ idx δ, (idx, Op.plus δ) ∈ rule → δ < 0 →
        ∃ c, t.getCount idx = .ok c ∧ 1 ≤ (c : Int) + δ * T) ∧
      (apps = some (T, P, M) ∨
        ∃ pre δ post c, rule = pre ++ (P, Op.plus δ) :: post ∧ δ < 0 ∧ t.getCount P = .ok c ∧
          1 ≤ T ∧ (c : Int) + δ * (T + 1) < 1 ∧ (M : Int) = c + δ * T ∧
          (∀ idx' δ', (idx', Op.plus δ') ∈ pre → δ' < 0 →
            ∃ c', t.getCount idx' = .ok c' ∧ 1 ≤ (c' : Int) + δ' * (T + 1)) ∧
          (∀ a, apps = some a → T < a.1)) := by
  induction rule generalizing apps with
  | nil =>
    injection h with h
    exact ⟨nofun, nofun, Or.inl h⟩
  | cons e rest ih =>
    obtain ⟨pos, δ | _⟩ := e
    case mult => cases h
    rw [loop_plus] at h
    split at h
    · next hδ =>
      obtain ⟨h1, h2, h3⟩ := ih apps h
      refine ⟨List.forall_mem_cons.mpr ⟨⟨δ, rfl⟩, h1⟩,
        forall_plus_cons (fun hn => absurd hn (Int.not_lt.mpr hδ)) h2, h3.imp_right ?_⟩
      rintro ⟨pre, δ', post, c, hr, hδ', hc, hT, hmax, hM, hpre, happs⟩
      exact ⟨_ :: pre, δ', post, c, congrArg _ hr, hδ', hc, hT, hmax, hM,
        forall_plus_cons (fun hn => absurd hn (Int.not_lt.mpr hδ)) hpre, happs⟩
    rename_i hδ
    split at h
    · cases h
    rename_i c hc
    split at h
    · cases h
    rename_i hlt
    have hδ := Int.not_le.mp hδ
    have hlt := Nat.not_le.mp hlt
    have hc1 : 1 ≤ c := by omega
    -- `m` applications leave the head block a cell, `m + 1` do not
    have key := le_maxApps_iff hδ hc1
    have key' := lt_maxApps_iff hδ hc1
    generalize maxApps c δ.natAbs = m at h key key'
    obtain ⟨a, ha, hale, hacase⟩ := updateApps_cases apps m pos (c - δ.natAbs * m)
    obtain ⟨h1, h2, h3⟩ := ih _ h
    have hTle : T ≤ m := by
      rcases h3 with h3 | ⟨_, _, _, _, _, _, _, _, _, _, _, happs⟩
      · rw [ha] at h3; cases h3; exact hale
      · exact Nat.le_trans (Nat.le_of_lt (happs a ha)) hale
    refine ⟨List.forall_mem_cons.mpr ⟨⟨δ, rfl⟩, h1⟩,
      forall_plus_cons (fun _ => ⟨c, hc, (key T).mp hTle⟩) h2, ?_⟩
    rcases h3 with h3 | ⟨pre, δ', post, c', hr, hδ', hc', hT, hmax, hM, hpre, happs⟩
    · rw [ha] at h3; cases h3
      rcases hacase with ⟨hanew, hall⟩ | hold
      · -- the head entry is the new minimum: `T = m`
        cases hanew
        have hcast := natAbs_mul_cast δ T
        have hT := (key T).mp (Nat.le_refl T)
        exact Or.inr ⟨[], δ, rest, c, rfl, hδ, hc, (key 1).mpr (by omega),
          Int.not_le.mp (mt (key' T).mpr (Nat.lt_irrefl T)), by omega, nofun, hall⟩
      · exact Or.inl hold
    · have hTa := happs a ha
      refine Or.inr ⟨_ :: pre, δ', post, c', congrArg _ hr, hδ', hc', hT, hmax, hM,
        forall_plus_cons (fun _ => ⟨c, hc, (key' T).mp (Nat.lt_of_lt_of_le hTa hale)⟩) hpre,
        fun b hb => ?_⟩
      rcases hacase with ⟨hanew, hall⟩ | hold
      · cases hanew; exact Nat.lt_trans hTa (hall b hb)
      · cases hold.symm.trans hb; exact hTa

theorem loop_none (t : Tape) (rule : Rule) (apps : Option Apps)
    (h : countAppsLoop t rule apps = .ok none) :
    (apps = none ∧ ∀ idx δ, (idx, Op.plus δ) ∈ rule → 0 ≤ δ) ∨
      ∃ idx δ c, (idx, Op.plus δ) ∈ rule ∧ δ < 0 ∧ t.getCount idx = .ok c ∧ c ≤ δ.natAbs := by
  induction rule generalizing apps with
  | nil =>
    injection h with h
    exact Or.inl ⟨h, nofun⟩
  | cons e rest ih =>
    obtain ⟨pos, δ | _⟩ := e
    case mult => cases h
    rw [loop_plus] at h
    split at h
    · next hδ =>
      exact (ih apps h).imp (fun ⟨h1, h2⟩ => ⟨h1, forall_plus_cons hδ h2⟩)
        fun ⟨idx, δ, c, hm, hr⟩ => ⟨idx, δ, c, List.mem_cons_of_mem _ hm, hr⟩
    rename_i hδ
    split at h
    · cases h
    rename_i c hc
    split at h
    · next hle => exact Or.inr ⟨pos, δ, c, List.mem_cons_self, Int.not_le.mp hδ, hc, hle⟩
    · obtain ⟨a, ha, -⟩ :=
        updateApps_cases apps (maxApps c δ.natAbs) pos (c - δ.natAbs * maxApps c δ.natAbs)
      obtain ⟨idx, δ, c, hm, hr⟩ := (ih _ h).resolve_left (fun h1 => nomatch ha.symm.trans h1.1)
      exact Or.inr ⟨idx, δ, c, List.mem_cons_of_mem _ hm, hr⟩

end BB.RuleArith
