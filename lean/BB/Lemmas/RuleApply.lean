/-
C11 (rule arithmetic is exact): `set_count`, `apply_plus`, `count_apps` as a whole and `apply_rule`.

Both loops over the rule (`countAppsLoop`, `applyRuleResults`) stop at the first entry that does not
let them go on, so each is described entry by entry (`Passes`/`PanicsAt`, `entryResult`) and one list
lemma (`split_cons_iff`) turns that into "the first entry such that".  The arithmetic is done in `Int`
(`c + δ * n`); `natAbs_mul_cast` (RuleCount) is the only bridge to the `u64` product `|δ| * n` of the
code.
-/
import BB.Lemmas.RuleCount

namespace BB.RuleArith

open BB

theorem span_setCount_eq (s : Span) (pos val : Nat) :
    Span.setCount s pos val = s[pos]?.map fun b => s.set pos ⟨b.color, val⟩ := by
  induction s generalizing pos with
  | nil => rfl
  | cons b rest ih =>
    cases pos with
    | zero => rfl
    | succ pos =>
      rw [Span.setCount, ih, List.getElem?_cons_succ]
      cases rest[pos]? <;> rfl

theorem setCount_eq (t : Tape) (s : Bool) (pos val : Nat) :
    t.setCount (s, pos) val = match Span.setCount (tspan t s) pos val with
      | some sp => .ok (if s then { t with rspan := sp } else { t with lspan := sp })
      | none => .error (.panic "index out of bounds") := by
  cases s <;> rfl

theorem tspan_update (t : Tape) (s s' : Bool) (sp : Span) :
    tspan (if s then { t with rspan := sp } else { t with lspan := sp }) s'
      = if s' = s then sp else tspan t s' := by
  cases s <;> cases s' <;> rfl

/-- `t'` has the same scan, the same number of blocks and the same colours as `t` -/
structure SameShape (t t' : Tape) : Prop where
  scan : t'.scan = t.scan
  colors : ∀ s, (tspan t' s).map (·.color) = (tspan t s).map (·.color)

theorem SameShape.refl (t : Tape) : SameShape t t := ⟨rfl, fun _ => rfl⟩

theorem SameShape.trans {t t' t'' : Tape} (h1 : SameShape t t') (h2 : SameShape t' t'') :
    SameShape t t'' :=
  ⟨h2.scan.trans h1.scan, fun s => (h2.colors s).trans (h1.colors s)⟩

theorem SameShape.inRange {t t' : Tape} (h : SameShape t t') (idx : Index) :
    InRange t' idx ↔ InRange t idx := by
  have := congrArg List.length (h.colors idx.1)
  simp only [List.length_map] at this
  unfold InRange
  rw [this]

theorem tape_setCount_ok {t t' : Tape} {idx : Index} {val : Nat}
    (h : t.setCount idx val = .ok t') :
    SameShape t t' ∧ t'.getCount idx = .ok val ∧
      ∀ s j, (s, j) ≠ idx → (tspan t' s)[j]? = (tspan t s)[j]? := by
  obtain ⟨s, pos⟩ := idx
  rw [setCount_eq, span_setCount_eq] at h
  cases hb : (tspan t s)[pos]? with
  | none => rw [hb] at h; cases h
  | some b =>
    rw [hb] at h
    cases h
    obtain ⟨hlt, rfl⟩ := List.getElem?_eq_some_iff.mp hb
    refine ⟨⟨by cases s <;> rfl, fun s' => ?_⟩, ?_, fun s' j hne => ?_⟩
    · rw [tspan_update]
      split
      · next e =>
        rw [e, List.map_set, ← List.getElem_map (fun x : Block => x.color), List.set_getElem_self]
        rwa [List.length_map]
      · rfl
    · rw [getCount_eq, tspan_update, if_pos rfl, List.getElem?_set_self hlt]
    · rw [tspan_update]
      split
      · next e => subst e; exact List.getElem?_set_ne (fun e => hne (congrArg _ e.symm))
      · rfl

theorem tape_setCount_exists {t : Tape} {idx : Index} (val : Nat) (h : InRange t idx) :
    ∃ t', t.setCount idx val = .ok t' := by
  rw [setCount_eq, span_setCount_eq, List.getElem?_eq_getElem h]
  exact ⟨_, rfl⟩

theorem setCounts_ok {t t' : Tape} {results : List (Index × Nat)}
    (h : setCounts t results = .ok t') :
    SameShape t t' ∧
      (∀ s j, (s, j) ∉ results.map Prod.fst → (tspan t' s)[j]? = (tspan t s)[j]?) ∧
      ((results.map Prod.fst).Nodup → ∀ e ∈ results, t'.getCount e.1 = .ok e.2) := by
  induction results generalizing t with
  | nil => cases h; exact ⟨SameShape.refl _, fun _ _ _ => rfl, fun _ e he => nomatch he⟩
  | cons e0 rest ih =>
    obtain ⟨pos, r⟩ := e0
    simp only [setCounts] at h
    split at h
    · cases h
    · next t1 ht1 =>
      obtain ⟨a2, a3, a4⟩ := tape_setCount_ok ht1
      obtain ⟨b1, b2, b3⟩ := ih h
      simp only [List.map_cons, List.mem_cons, not_or, List.nodup_cons]
      refine ⟨a2.trans b1, fun s j hj => (b2 s j hj.2).trans (a4 s j hj.1), fun hnd e he => ?_⟩
      rcases he with rfl | he
      · rw [getCount_eq, b2 _ _ hnd.1, ← getCount_eq, a3]
      · exact b3 hnd.2 e he

theorem setCounts_exists {t : Tape} {results : List (Index × Nat)}
    (h : ∀ e ∈ results, InRange t e.1) : ∃ t', setCounts t results = .ok t' := by
  induction results generalizing t with
  | nil => exact ⟨t, rfl⟩
  | cons e0 rest ih =>
    obtain ⟨t1, ht1⟩ := tape_setCount_exists e0.2 (h e0 List.mem_cons_self)
    have hs := (tape_setCount_ok ht1).1
    obtain ⟨t', ht'⟩ := ih (t := t1)
      (fun e he => (hs.inRange e.1).mpr (h e (List.mem_cons_of_mem _ he)))
    exact ⟨t', by simp only [setCounts, ht1, ht']⟩

theorem applyPlus_eq_some_iff {c : Nat} {δ : Int} {n r : Nat} :
    applyPlus c δ n = some r ↔
      δ.natAbs * n ≤ countMax ∧ (r : Int) = c + δ * n ∧ (0 ≤ δ → r ≤ countMax) := by
  have hcast := natAbs_mul_cast δ n
  unfold applyPlus checkedMul checkedSub checkedAdd
  simp only
  generalize δ.natAbs * n = m at hcast ⊢
  generalize δ * (n : Int) = p at hcast ⊢
  generalize countMax = K
  by_cases hm : m ≤ K
  · rw [if_pos hm]
    simp only
    by_cases hneg : δ < 0
    · rw [if_pos hneg] at hcast ⊢
      by_cases hle : m ≤ c
      · rw [if_pos hle, Option.some.injEq]; omega
      · rw [if_neg hle]; simp only [reduceCtorEq, false_iff]; omega
    · rw [if_neg hneg] at hcast ⊢
      by_cases hle : c + m ≤ K
      · rw [if_pos hle, Option.some.injEq]; omega
      · rw [if_neg hle]; simp only [reduceCtorEq, false_iff]; omega
  · rw [if_neg hm]
    simp only [reduceCtorEq, false_iff]
    omega

theorem applyPlus_eq_none_iff {c : Nat} {δ : Int} {n : Nat} (hc : c ≤ countMax) :
    applyPlus c δ n = none ↔ (c : Int) + δ * n < 0 ∨ (countMax : Int) < c + δ * n := by
  have := natAbs_mul_cast δ n
  rw [Option.eq_none_iff_forall_ne_some]
  constructor
  · intro h
    have := h ((c : Int) + δ * n).toNat
    rw [Ne, applyPlus_eq_some_iff] at this
    omega
  · intro h r hr
    rw [applyPlus_eq_some_iff] at hr
    omega

theorem applyPlus_isSome {c : Nat} {δ : Int} {n : Nat} (hc : c ≤ countMax)
    (h0 : 0 ≤ (c : Int) + δ * n) (h1 : (c : Int) + δ * n ≤ countMax) :
    ∃ r, applyPlus c δ n = some r :=
  Option.ne_none_iff_exists'.mp (mt (applyPlus_eq_none_iff hc).mp (by omega))

theorem countApps_some {t : Tape} {rule : Rule} {times : Nat} {pos : Index} {minRes : Nat}
    (h : countApps t rule = .ok (some (times, pos, minRes))) :
    AllPlus rule ∧ 1 ≤ times ∧
      (∀ idx δ, (idx, Op.plus δ) ∈ rule → δ < 0 →
        ∃ c, t.getCount idx = .ok c ∧ 1 ≤ (c : Int) + δ * times) ∧
      ∃ pre δp post c, rule = pre ++ (pos, Op.plus δp) :: post ∧ δp < 0 ∧
        t.getCount pos = .ok c ∧
        (c : Int) + δp * (times + 1) < 1 ∧ (minRes : Int) = c + δp * times ∧
        ∀ idx δ, (idx, Op.plus δ) ∈ pre → δ < 0 →
          ∃ c', t.getCount idx = .ok c' ∧ 1 ≤ (c' : Int) + δ * (times + 1) := by
  obtain ⟨h1, h2, h3 | ⟨pre, δp, post, c, hr, hδ, hc, hT, hmax, hM, hpre, _⟩⟩ :=
    loop_some t rule none times pos minRes h
  · cases h3
  · exact ⟨h1, hT, h2, pre, δp, post, c, hr, hδ, hc, hmax, hM, hpre⟩

theorem split_cons_iff (p q : Index × Op → Prop) {x : Index × Op} {l : Rule} :
    (∃ pre pos op post, x :: l = pre ++ (pos, op) :: post ∧ (∀ z ∈ pre, p z) ∧ q (pos, op)) ↔
      q x ∨ (p x ∧
        ∃ pre pos op post, l = pre ++ (pos, op) :: post ∧ (∀ z ∈ pre, p z) ∧ q (pos, op)) := by
  constructor
  · rintro ⟨pre, pos, op, post, h, hp, hq⟩
    cases pre with
    | nil => cases h; exact Or.inl hq
    | cons z pre =>
      cases h
      exact Or.inr ⟨hp _ List.mem_cons_self, pre, pos, op, post, rfl,
        fun z hz => hp z (List.mem_cons_of_mem _ hz), hq⟩
  · rintro (hq | ⟨hx, pre, pos, op, post, rfl, hp, hq⟩)
    · exact ⟨[], x.1, x.2, l, rfl, fun _ h => (nomatch h), hq⟩
    · exact ⟨x :: pre, pos, op, post, rfl, List.forall_mem_cons.mpr ⟨hx, hp⟩, hq⟩

theorem not_split_nil (p q : Index × Op → Prop) :
    ¬ ∃ pre pos op post, ([] : Rule) = pre ++ (pos, op) :: post ∧ (∀ z ∈ pre, p z) ∧ q (pos, op) :=
  fun ⟨pre, _, _, _, h, _⟩ => by cases pre <;> cases h

theorem countAppsLoop_error_iff (t : Tape) (rule : Rule) (apps : Option Apps) (e : PErr) :
    countAppsLoop t rule apps = .error e ↔
      ∃ pre pos op post, rule = pre ++ (pos, op) :: post ∧ (∀ x ∈ pre, Passes t x) ∧
        PanicsAt t (pos, op) e := by
  induction rule generalizing apps with
  | nil => exact ⟨fun h => (nomatch h), fun h => (not_split_nil (Passes t) (PanicsAt t · e) h).elim⟩
  | cons x rest ih =>
    obtain ⟨pos, op⟩ := x
    rw [split_cons_iff (Passes t) (PanicsAt t · e)]
    cases op with
    | mult q r =>
      rw [panicsAt_mult]
      exact ⟨fun h => by cases h; exact Or.inl rfl,
        fun h => h.elim (fun h => h ▸ rfl) fun h => absurd h.1 not_passes_mult⟩
    | plus δ =>
      rw [panicsAt_plus, passes_plus, loop_plus]
      by_cases hnn : δ ≥ 0
      · rw [if_pos hnn, ih]
        exact ⟨fun h => Or.inr ⟨Or.inl hnn, h⟩, fun h => h.elim (fun h => absurd h.1 (by omega)) (·.2)⟩
      · rw [if_neg hnn]
        by_cases hin : InRange t pos
        · obtain ⟨c, hc⟩ := getCount_inRange hin
          rw [hc]
          simp only
          by_cases hge : δ.natAbs ≥ c
          · rw [if_pos hge]
            refine ⟨fun h => (nomatch h), fun h => h.elim (fun h => absurd hin h.2.1) fun h =>
              h.1.elim (fun h => absurd h hnn) fun ⟨c', hc', hlt⟩ => ?_⟩
            cases hc'
            omega
          · rw [if_neg hge, ih]
            exact ⟨fun h => Or.inr ⟨Or.inr ⟨c, rfl, by omega⟩, h⟩,
              fun h => h.elim (fun h => absurd hin h.2.1) (·.2)⟩
        · rw [getCount_not_inRange hin]
          constructor
          · intro h
            cases h
            exact Or.inl ⟨by omega, hin, rfl⟩
          · rintro (⟨_, _, rfl⟩ | ⟨h | ⟨c, hc, _⟩, _⟩)
            · rfl
            · exact absurd h hnn
            · cases hc

/-- In particular the unchecked `div - 1` of `count_apps` never underflows. -/
theorem countApps_no_error {t : Tape} {rule : Rule} (hp : AllPlus rule)
    (hr : ∀ idx δ, (idx, Op.plus δ) ∈ rule → δ < 0 → InRange t idx) (e : PErr) :
    countApps t rule ≠ .error e := by
  intro h
  obtain ⟨pre, pos, op, post, hrule, _, hpan⟩ := (countAppsLoop_error_iff t rule none e).mp h
  have hm : (pos, op) ∈ rule := hrule ▸ List.mem_append_cons_self
  obtain ⟨δ, rfl⟩ : ∃ δ, op = Op.plus δ := hp _ hm
  obtain ⟨hneg, hnr, _⟩ := panicsAt_plus.mp hpan
  exact hnr (hr pos δ hm hneg)

/-- the new count of one entry, as the first loop of `apply_rule` computes it -/
def entryResult (t : Tape) (times : Nat) (minPos : Index) (minRes : Nat) :
    Index × Op → PRes (Option Nat)
  | (_, .mult _ _) => .error (.panic "not implemented")
  | (pos, .plus plus) =>
    if pos == minPos then
      if plus < 0 then .ok (some minRes) else .error (.panic "assertion failed: plus < 0")
    else
      match t.getCount pos with
      | .error e => .error e
      | .ok count => .ok (applyPlus count plus times)

variable {t : Tape} {T : Nat} {P : Index} {M : Nat}

theorem applyRuleResults_cons (x : Index × Op) (rest : Rule) :
    applyRuleResults t T P M (x :: rest) =
      match entryResult t T P M x with
      | .error e => .error e
      | .ok none => .ok none
      | .ok (some r) =>
        match applyRuleResults t T P M rest with
        | .error e => .error e
        | .ok none => .ok none
        | .ok (some results) => .ok (some ((x.1, r) :: results)) := by
  obtain ⟨pos, op⟩ := x
  cases op <;> rfl

theorem entryResult_min {δ : Int} (hδ : δ < 0) :
    entryResult t T P M (P, .plus δ) = .ok (some M) := by
  simp only [entryResult, beq_self_eq_true, if_true, if_pos hδ]

theorem entryResult_ne {pos : Index} {δ : Int} (h : pos ≠ P) :
    entryResult t T P M (pos, .plus δ) = match t.getCount pos with
      | .error e => .error e
      | .ok c => .ok (applyPlus c δ T) := by
  simp only [entryResult, beq_eq_false_iff_ne.mpr h, Bool.false_eq_true, if_false]

theorem entryResult_none {pos : Index} {op : Op} (h : entryResult t T P M (pos, op) = .ok none) :
    ∃ δ c, op = .plus δ ∧ t.getCount pos = .ok c ∧ applyPlus c δ T = none := by
  cases op with
  | mult q r => cases h
  | plus δ =>
    by_cases hP : pos = P
    · simp only [entryResult, hP, beq_self_eq_true, if_true] at h
      split at h <;> cases h
    · rw [entryResult_ne hP] at h
      split at h
      · cases h
      · next c hc => exact ⟨δ, c, rfl, hc, Except.ok.inj h⟩

theorem results_some {rule : Rule} {results : List (Index × Nat)}
    (h : applyRuleResults t T P M rule = .ok (some results)) :
    results.map Prod.fst = keys rule ∧
      ∀ x ∈ rule, ∃ r, (x.1, r) ∈ results ∧ entryResult t T P M x = .ok (some r) := by
  induction rule generalizing results with
  | nil => cases h; exact ⟨rfl, fun _ hx => nomatch hx⟩
  | cons x rest ih =>
    rw [applyRuleResults_cons] at h
    split at h
    · cases h
    · cases h
    · next r hr =>
      split at h
      · cases h
      · cases h
      · next results' hrest =>
        cases h
        obtain ⟨ih1, ih2⟩ := ih hrest
        refine ⟨congrArg (x.1 :: ·) ih1, fun y hy => ?_⟩
        rcases List.mem_cons.mp hy with rfl | hy
        · exact ⟨r, List.mem_cons_self, hr⟩
        · obtain ⟨r', hr', hy'⟩ := ih2 y hy
          exact ⟨r', List.mem_cons_of_mem _ hr', hy'⟩

theorem results_none {rule : Rule} (h : applyRuleResults t T P M rule = .ok none) :
    ∃ x ∈ rule, entryResult t T P M x = .ok none := by
  induction rule with
  | nil => cases h
  | cons x rest ih =>
    rw [applyRuleResults_cons] at h
    split at h
    · cases h
    · next hx => exact ⟨x, List.mem_cons_self, hx⟩
    · split at h
      · cases h
      · next hrest =>
        obtain ⟨y, hy, hy'⟩ := ih hrest
        exact ⟨y, List.mem_cons_of_mem _ hy, hy'⟩
      · cases h

theorem results_error_iff (rule : Rule) (e : PErr) :
    applyRuleResults t T P M rule = .error e ↔
      ∃ pre pos op post, rule = pre ++ (pos, op) :: post ∧
        (∀ x ∈ pre, ∃ r, entryResult t T P M x = .ok (some r)) ∧
        entryResult t T P M (pos, op) = .error e := by
  induction rule with
  | nil => exact ⟨fun h => (nomatch h), fun h => (not_split_nil _ (entryResult t T P M · = _) h).elim⟩
  | cons x rest ih =>
    rw [split_cons_iff (∃ r, entryResult t T P M · = .ok (some r)) (entryResult t T P M · = .error e),
      ← ih, applyRuleResults_cons]
    -- the head entry panics, gives up, or has a result and the rest decides
    rcases entryResult t T P M x with e' | _ | r
    · simp only [Except.error.injEq, reduceCtorEq, exists_false, false_and, or_false]
    · simp only [reduceCtorEq, Except.ok.injEq, exists_false, false_and, or_false]
    · simp only [reduceCtorEq, Except.ok.injEq, Option.some.injEq, exists_eq', true_and, false_or]
      rcases applyRuleResults t T P M rest with e' | _ | rs <;> simp only [Except.error.injEq, reduceCtorEq]

/-- `CountsInRange` and `AllPositive` have the left-hand form; the proofs read counts through
    `get_count` -/
theorem forall_counts_iff (t : Tape) (p : Nat → Prop) :
    ((∀ b ∈ t.lspan, p b.count) ∧ (∀ b ∈ t.rspan, p b.count)) ↔
      ∀ idx c, t.getCount idx = .ok c → p c := by
  constructor
  · intro hp idx c hc
    obtain ⟨b, hb, rfl⟩ := (getCount_ok_iff t idx c).mp hc
    have hmem := List.mem_of_getElem? hb
    unfold tspan at hmem
    split at hmem
    · exact hp.2 b hmem
    · exact hp.1 b hmem
  · intro h
    refine ⟨fun b hb => ?_, fun b hb => ?_⟩ <;> obtain ⟨j, hj⟩ := List.getElem?_of_mem hb
    · exact h (false, j) _ ((getCount_ok_iff t (false, j) _).mpr ⟨b, hj, rfl⟩)
    · exact h (true, j) _ ((getCount_ok_iff t (true, j) _).mpr ⟨b, hj, rfl⟩)

theorem count_le_max {t : Tape} (hc : CountsInRange t) {idx : Index} {c : Nat}
    (h : t.getCount idx = .ok c) : c ≤ countMax :=
  (forall_counts_iff t (· ≤ countMax)).mp hc idx c h

variable {rule : Rule} (hnd : (keys rule).Nodup) (hca : countApps t rule = .ok (some (T, P, M)))
include hnd hca

theorem min_entry {δ : Int} (hm : (P, Op.plus δ) ∈ rule) :
    δ < 0 ∧ ∃ c, t.getCount P = .ok c ∧ (M : Int) = c + δ * T := by
  obtain ⟨_, _, _, pre, δp, post, c, hr, hδ, hc, _, hM, _⟩ := countApps_some hca
  -- with distinct keys the two entries under the key `P` are the same entry
  cases ((mem_iff_lookup hnd P _).mp hm).symm.trans
    ((mem_iff_lookup hnd P _).mp (hr ▸ List.mem_append_cons_self))
  exact ⟨hδ, c, hc, hM⟩

theorem entryResult_some_exact {idx : Index} {δ : Int} {r : Nat} (hm : (idx, Op.plus δ) ∈ rule)
    (h : entryResult t T P M (idx, .plus δ) = .ok (some r)) :
    ∃ c, t.getCount idx = .ok c ∧ (r : Int) = c + δ * T := by
  by_cases hP : idx = P
  · subst hP
    obtain ⟨hδ, c, hc, hM⟩ := min_entry hnd hca hm
    rw [entryResult_min hδ] at h
    cases h
    exact ⟨c, hc, hM⟩
  · rw [entryResult_ne hP] at h
    split at h
    · cases h
    · next c hc =>
      injection h with h
      exact ⟨c, hc, (applyPlus_eq_some_iff.mp h).2.1⟩

theorem entryResult_inc {idx : Index} {δ : Int} (hm : (idx, Op.plus δ) ∈ rule) (hδ : 0 ≤ δ) :
    entryResult t T P M (idx, .plus δ) = match t.getCount idx with
      | .error e => .error e
      | .ok c => .ok (applyPlus c δ T) :=
  entryResult_ne fun hP => by have := (min_entry hnd hca (hP ▸ hm)).1; omega

omit hnd in
theorem entryResult_dec (hc : CountsInRange t) {idx : Index} {δ : Int}
    (hm : (idx, Op.plus δ) ∈ rule) (hδ : δ < 0) :
    ∃ r, entryResult t T P M (idx, .plus δ) = .ok (some r) := by
  by_cases hP : idx = P
  · exact ⟨M, hP ▸ entryResult_min hδ⟩
  · obtain ⟨c, hcnt, hge⟩ := (countApps_some hca).2.2.1 idx δ hm hδ
    have := natAbs_mul_cast δ T
    have hle := count_le_max hc hcnt
    obtain ⟨r, hr⟩ := applyPlus_isSome (δ := δ) (n := T) hle (by omega) (by omega)
    exact ⟨r, by rw [entryResult_ne hP, hcnt]; exact congrArg Except.ok hr⟩

theorem setCounts_results {results : List (Index × Nat)}
    (hres : applyRuleResults t T P M rule = .ok (some results)) :
    ∃ t', setCounts t results = .ok t' := by
  obtain ⟨hk, hro⟩ := results_some hres
  refine setCounts_exists fun e he => ?_
  obtain ⟨⟨idx, op⟩, hx, hxk⟩ := List.mem_map.mp (hk ▸ List.mem_map_of_mem (f := Prod.fst) he)
  obtain ⟨δ, rfl⟩ : ∃ δ, op = Op.plus δ := (countApps_some hca).1 _ hx
  obtain ⟨r, _, hr⟩ := hro _ hx
  obtain ⟨c, hc, _⟩ := entryResult_some_exact hnd hca hx hr
  exact hxk ▸ inRange_of_getCount hc

theorem results_no_error (hr : ∀ idx ∈ keys rule, InRange t idx) (e : PErr) :
    applyRuleResults t T P M rule ≠ .error e := by
  intro h
  obtain ⟨pre, pos, op, post, hrule, _, herr⟩ := (results_error_iff rule e).mp h
  have hm : (pos, op) ∈ rule := hrule ▸ List.mem_append_cons_self
  obtain ⟨δ, rfl⟩ : ∃ δ, op = Op.plus δ := (countApps_some hca).1 _ hm
  by_cases hP : pos = P
  · subst hP
    rw [entryResult_min (min_entry hnd hca hm).1] at herr
    cases herr
  · obtain ⟨c, hc⟩ := getCount_inRange (hr pos (mem_keys_of_mem hm))
    rw [entryResult_ne hP, hc] at herr
    cases herr

theorem results_error_iff_of_countApps (hc : CountsInRange t) (e : PErr) :
    applyRuleResults t T P M rule = .error e ↔
      ∃ pre pos δ post, rule = pre ++ (pos, Op.plus δ) :: post ∧ 0 ≤ δ ∧ ¬ InRange t pos ∧
        e = .panic "index out of bounds" ∧
        ∀ idx δ', (idx, Op.plus δ') ∈ pre → 0 ≤ δ' →
          ∃ c, t.getCount idx = .ok c ∧ (c : Int) + δ' * T ≤ countMax := by
  have hplus := (countApps_some hca).1
  rw [results_error_iff]
  constructor
  · rintro ⟨pre, pos, op, post, hr, hpre, herr⟩
    have hm : (pos, op) ∈ rule := hr ▸ List.mem_append_cons_self
    obtain ⟨δ, rfl⟩ : ∃ δ, op = Op.plus δ := hplus _ hm
    by_cases hδ : δ < 0
    · obtain ⟨r, h⟩ := entryResult_dec hca hc hm hδ
      rw [h] at herr
      cases herr
    · rw [entryResult_inc hnd hca hm (by omega)] at herr
      by_cases hin : InRange t pos
      · obtain ⟨c, hcnt⟩ := getCount_inRange hin
        rw [hcnt] at herr
        cases herr
      · rw [getCount_not_inRange hin] at herr
        cases herr
        refine ⟨pre, pos, δ, post, hr, by omega, hin, rfl, fun idx δ' hm' hδ' => ?_⟩
        obtain ⟨r, h⟩ := hpre _ hm'
        rw [entryResult_inc hnd hca (hr ▸ List.mem_append_left _ hm') hδ'] at h
        split at h
        · cases h
        · next c hcnt =>
          have := applyPlus_eq_some_iff.mp (Except.ok.inj h)
          exact ⟨c, hcnt, by omega⟩
  · rintro ⟨pre, pos, δ, post, hr, hδ, hin, rfl, hpre⟩
    refine ⟨pre, pos, .plus δ, post, hr, fun ⟨idx, op⟩ hx => ?_, ?_⟩
    · have hm : (idx, op) ∈ rule := hr ▸ List.mem_append_left _ hx
      obtain ⟨δ', rfl⟩ : ∃ δ', op = Op.plus δ' := hplus _ hm
      by_cases hδ' : δ' < 0
      · exact entryResult_dec hca hc hm hδ'
      · obtain ⟨c, hcnt, hfit⟩ := hpre idx δ' hx (by omega)
        have := natAbs_mul_cast δ' T
        obtain ⟨r, hr⟩ := applyPlus_isSome (δ := δ') (n := T) (count_le_max hc hcnt) (by omega) hfit
        exact ⟨r, by rw [entryResult_inc hnd hca hm (by omega), hcnt]; exact congrArg Except.ok hr⟩
    · rw [entryResult_inc hnd hca (hr ▸ List.mem_append_cons_self) hδ, getCount_not_inRange hin]

theorem applyRule_of_countApps :
    (∃ e, applyRuleResults t T P M rule = .error e ∧ applyRule t rule = .error e) ∨
    (applyRuleResults t T P M rule = .ok none ∧ applyRule t rule = .ok (none, t)) ∨
    ∃ results t', applyRuleResults t T P M rule = .ok (some results) ∧
      setCounts t results = .ok t' ∧ applyRule t rule = .ok (some T, t') := by
  unfold applyRule
  rw [hca]
  simp only
  cases hres : applyRuleResults t T P M rule with
  | error e => exact Or.inl ⟨e, rfl, rfl⟩
  | ok r =>
    cases r with
    | none => exact Or.inr (Or.inl ⟨rfl, rfl⟩)
    | some results =>
      obtain ⟨t', ht'⟩ := setCounts_results hnd hca hres
      exact Or.inr (Or.inr ⟨results, t', rfl, ht', by simp only [ht']⟩)

omit hnd hca

theorem applyRule_phases (t : Tape) {rule : Rule} (hnd : (keys rule).Nodup) :
    (∃ e, countApps t rule = .error e ∧ applyRule t rule = .error e) ∨
    (countApps t rule = .ok none ∧ applyRule t rule = .ok (none, t)) ∨
    ∃ T P M, countApps t rule = .ok (some (T, P, M)) ∧
      ((∃ e, applyRuleResults t T P M rule = .error e ∧ applyRule t rule = .error e) ∨
       (applyRuleResults t T P M rule = .ok none ∧ applyRule t rule = .ok (none, t)) ∨
       ∃ results t', applyRuleResults t T P M rule = .ok (some results) ∧
         setCounts t results = .ok t' ∧ applyRule t rule = .ok (some T, t')) := by
  cases hca : countApps t rule with
  | error e => exact Or.inl ⟨e, rfl, by unfold applyRule; rw [hca]⟩
  | ok a =>
    cases a with
    | none => exact Or.inr (Or.inl ⟨rfl, by unfold applyRule; rw [hca]⟩)
    | some a => exact Or.inr (Or.inr ⟨a.1, a.2.1, a.2.2, rfl, applyRule_of_countApps hnd hca⟩)

theorem applyRule_some {t' : Tape} (hnd : (keys rule).Nodup)
    (h : applyRule t rule = .ok (some T, t')) :
    (∃ pos minRes, countApps t rule = .ok (some (T, pos, minRes))) ∧
      (∀ idx δ, (idx, Op.plus δ) ∈ rule →
        ∃ c c', t.getCount idx = .ok c ∧ t'.getCount idx = .ok c' ∧ (c' : Int) = c + δ * T) ∧
      (∀ s j, (s, j) ∉ keys rule → (tspan t' s)[j]? = (tspan t s)[j]?) ∧
      SameShape t t' := by
  rcases applyRule_phases t hnd with ⟨_, _, h'⟩ | ⟨_, h'⟩ |
    ⟨T', P, M, hca, ⟨_, _, h'⟩ | ⟨_, h'⟩ | ⟨results, t1, hres, hset, h'⟩⟩ <;>
    cases h'.symm.trans h
  -- only the last phase answers `Some`
  obtain ⟨hk, hro⟩ := results_some hres
  obtain ⟨hshape, hother, hwritten⟩ := setCounts_ok hset
  refine ⟨⟨P, M, hca⟩, fun idx δ hm => ?_, hk ▸ hother, hshape⟩
  obtain ⟨r, hr, hro⟩ := hro _ hm
  obtain ⟨c, hc, hrc⟩ := entryResult_some_exact hnd hca hm hro
  exact ⟨c, r, hc, hwritten (hk ▸ hnd) _ hr, hrc⟩

/-- a decreasing block keeps a cell by the choice of `T` (`countApps_some`) -/
theorem applyRule_keeps_positive {t' : Tape} (hnd : (keys rule).Nodup)
    (h : applyRule t rule = .ok (some T, t')) (hp : AllPositive t) : AllPositive t' := by
  unfold AllPositive at hp ⊢
  rw [forall_counts_iff _ (1 ≤ ·)] at hp ⊢
  obtain ⟨⟨P, M, hca⟩, hex, hother, _⟩ := applyRule_some hnd h
  obtain ⟨hplus, _, hdec, _⟩ := countApps_some hca
  intro idx c' hc'
  by_cases hk : idx ∈ keys rule
  · obtain ⟨⟨idx, op⟩, he, rfl⟩ := List.mem_map.mp hk
    obtain ⟨δ, rfl⟩ : ∃ δ, op = Op.plus δ := hplus _ he
    obtain ⟨c, c'', hc, hc'', heq⟩ := hex idx δ he
    cases hc''.symm.trans hc'
    by_cases hneg : δ < 0
    · obtain ⟨c₀, hc₀, hge⟩ := hdec idx δ he hneg
      cases hc.symm.trans hc₀
      omega
    · have := hp idx c hc
      have := natAbs_mul_cast δ T
      omega
  · rw [getCount_eq, hother _ _ hk, ← getCount_eq] at hc'
    exact hp idx c' hc'

end BB.RuleArith
