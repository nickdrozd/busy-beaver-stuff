/-
C05 — segment analysis: the definitions used by the statements of `BB/Props/C05.lean`, and the
cell-level meaning of the segment tape operations: what each does to the unrolled cells of the
window, whatever the cells outside (`Tape.toCfgX`).
-/
import BB.Model.Segment
import BB.Lemmas.LinRec

namespace BB.Segment

open BB

/-- the cells of a span, nearest to the head first -/
def Span.unroll : Span → List Nat
  | [] => []
  | b :: rest => List.replicate b.count b.color ++ Span.unroll rest

/-- The L0 configuration that a segment configuration denotes when it is *exact*: the cells of the
    window are the cells of the two spans, every cell outside the window is blank; when the head is
    outside the window (`scan = none`) it stands on the (blank) cell next to the window, on the side
    whose span is empty. -/
def Config.toCfg (c : Config) : Cfg :=
  ⟨c.state, Span.unroll c.tape.lspan, c.tape.scan.getD 0, Span.unroll c.tape.rspan⟩

/-- `cfg` is, cell for cell, the configuration of the real machine `n` steps after the start from
    the blank tape. -/
def ExactAt (p : ProgF) (cfg : Config) (n : Nat) : Prop :=
  ∃ c, RunAt p n c ∧ c ≈c cfg.toCfg

/-- the invariant of the `init` flag: a flagged configuration is exact at some time -/
def InitExact (p : ProgF) (cfg : Config) : Prop :=
  cfg.init = true → ∃ n, ExactAt p cfg n

/-- Decidable hypothesis on the explicit table size: it has at least the start state 0 and the
    blank colour 0, and every state and every colour that the program mentions — in a key or inside
    an instruction — is below `params`. -/
def paramsCover (p : Prog) (params : Nat × Nat) : Bool :=
  decide (0 < params.1) && decide (0 < params.2) &&
  p.all fun kv =>
    decide (kv.1.1 < params.1) && decide (kv.1.2 < params.2) &&
    decide (kv.2.1 < params.2) && decide (kv.2.2.2 < params.1)

instance instDecidableEqSegRes : DecidableEq (Except Err SegmentResult) := fun a b =>
  match a, b with
  | .ok x, .ok y =>
    if h : x = y then isTrue (by rw [h]) else isFalse (by intro h'; cases h'; exact h rfl)
  | .error x, .error y =>
    if h : x = y then isTrue (by rw [h]) else isFalse (by intro h'; cases h'; exact h rfl)
  | .ok _, .error _ => isFalse (by intro h; cases h)
  | .error _, .ok _ => isFalse (by intro h; cases h)

def Span.Pos (s : Span) : Prop := ∀ b ∈ s, 0 < b.count

/-- block counts positive, and a head outside the window has an empty span on its side -/
structure Tape.WF (t : Tape) : Prop where
  lpos : Span.Pos t.lspan
  rpos : Span.Pos t.rspan
  edge : t.scan = none → t.lspan = [] ∨ t.rspan = []

theorem Span.pos_nil : Span.Pos [] := fun _ h => by cases h

theorem Span.Pos.tail {b : Block} {s : Span} (h : Span.Pos (b :: s)) : Span.Pos s :=
  fun x hx => h x (List.mem_cons_of_mem _ hx)

theorem Span.Pos.head {b : Block} {s : Span} (h : Span.Pos (b :: s)) : 0 < b.count :=
  h b List.mem_cons_self

theorem Span.Pos.cons {b : Block} {s : Span} (hb : 0 < b.count) (h : Span.Pos s) :
    Span.Pos (b :: s) :=
  List.forall_mem_cons.2 ⟨hb, h⟩

@[simp] theorem Span.unroll_nil : Span.unroll [] = [] := rfl

@[simp] theorem Span.unroll_cons (b : Block) (s : Span) :
    Span.unroll (b :: s) = List.replicate b.count b.color ++ Span.unroll s := rfl

@[simp] theorem Span.len_nil : Span.len [] = 0 := rfl

@[simp] theorem Span.len_cons (b : Block) (s : Span) :
    Span.len (b :: s) = b.count + Span.len s := rfl

theorem Span.length_unroll (s : Span) : (Span.unroll s).length = Span.len s := by
  induction s with
  | nil => rfl
  | cons b rest ih => simp [ih]

theorem Span.isEmpty_iff {s : Span} (h : Span.Pos s) : Span.isEmpty s = true ↔ s = [] := by
  cases s with
  | nil => simp [Span.isEmpty]
  | cons b rest =>
    have := h.head
    simp [Span.isEmpty]
    omega

theorem Span.isEmpty_of_ne {s : Span} (hp : Span.Pos s) (hne : s ≠ []) : Span.isEmpty s = false :=
  Bool.eq_false_iff.2 fun h => hne ((Span.isEmpty_iff hp).1 h)

theorem Span.blank_iff (s : Span) (h : Span.Pos s) :
    Span.blank s = true ↔ AllZero (Span.unroll s) := by
  induction s with
  | nil => simp [Span.blank, allZero_nil]
  | cons b rest ih =>
    have hb := h.head
    have ih' := ih h.tail
    simp only [Span.blank, List.all_cons, Bool.and_eq_true, beq_iff_eq, Span.unroll_cons,
      allZero_append] at ih' ⊢
    rw [ih']
    constructor
    · rintro ⟨h1, h2⟩
      exact ⟨by rw [h1]; exact allZero_replicate_zero _, h2⟩
    · rintro ⟨h1, h2⟩
      refine ⟨?_, h2⟩
      have := h1 0
      rwa [cellAt_replicate hb] at this

/-- `push` starts a new block or extends the first one -/
theorem Span.push_cases (U : Span) (pr k : Nat) :
    Span.push U pr k = ⟨pr, k⟩ :: U ∨
      ∃ n rest, U = ⟨pr, n⟩ :: rest ∧ Span.push U pr k = ⟨pr, n + k⟩ :: rest := by
  unfold Span.push
  cases U with
  | nil => exact Or.inl rfl
  | cons b rest =>
    dsimp only
    by_cases hb : (b.color == pr) = true
    · rw [if_pos hb]
      obtain ⟨c, n⟩ := b
      cases beq_iff_eq.1 hb
      exact Or.inr ⟨n, rest, rfl, rfl⟩
    · rw [if_neg hb]; exact Or.inl rfl

theorem Span.unroll_push (U : Span) (pr k : Nat) :
    Span.unroll (Span.push U pr k) = List.replicate k pr ++ Span.unroll U := by
  rcases Span.push_cases U pr k with e | ⟨n, rest, rfl, e⟩ <;> rw [e]
  · rfl
  · simp only [Span.unroll_cons]
    rw [← List.append_assoc, List.replicate_append_replicate, Nat.add_comm]

theorem Span.push_pos {U : Span} (hU : Span.Pos U) (pr : Nat) {k : Nat} (hk : 0 < k) :
    Span.Pos (Span.push U pr k) := by
  rcases Span.push_cases U pr k with e | ⟨n, rest, rfl, e⟩ <;> rw [e]
  · exact Span.Pos.cons hk hU
  · exact Span.Pos.cons (Nat.add_pos_right n hk) hU.tail

theorem Span.len_push (U : Span) (pr k : Nat) : Span.len (Span.push U pr k) = Span.len U + k := by
  rw [← Span.length_unroll, Span.unroll_push, List.length_append, List.length_replicate,
    Span.length_unroll, Nat.add_comm]

theorem Span.push_head (U : Span) (pr k : Nat) : ∃ n rest, Span.push U pr k = ⟨pr, n⟩ :: rest := by
  rcases Span.push_cases U pr k with e | ⟨n, rest, -, e⟩ <;> exact ⟨_, _, e⟩

theorem Span.push_ne_nil (U : Span) (pr k : Nat) : Span.push U pr k ≠ [] := by
  obtain ⟨n, rest, e⟩ := Span.push_head U pr k
  rw [e]; exact List.cons_ne_nil _ _

/-- the `if` is the second half of the body of `Span.pull` -/
theorem Span.pull_cell {s : Span} (h : Span.Pos s) (k : Nat) :
    ∃ x s', (if Span.isEmpty s then ((none : Option Nat), k, s)
        else
          match s with
          | b :: rest =>
            if b.count > 1 then (some b.color, k, ⟨b.color, b.count - 1⟩ :: rest)
            else (some b.color, k, rest)
          | [] => (none, k, s)) = (x, k, s') ∧
      Span.Pos s' ∧ Span.unroll s = x.toList ++ Span.unroll s' ∧ (x = none → s' = []) := by
  cases s with
  | nil => exact ⟨none, [], rfl, h, rfl, fun _ => rfl⟩
  | cons b rest =>
    have hb := h.head
    rw [Span.isEmpty_of_ne h (List.cons_ne_nil _ _)]
    by_cases hc : b.count > 1
    · refine ⟨some b.color, ⟨b.color, b.count - 1⟩ :: rest, by simp only [hc, if_true]; rfl,
        Span.Pos.cons (Nat.sub_pos_of_lt hc) h.tail, ?_, fun hx => by cases hx⟩
      simp only [Span.unroll_cons, Option.toList_some, List.singleton_append, ← List.cons_append,
        ← List.replicate_succ]
      rw [Nat.sub_add_cancel hb]
    · refine ⟨some b.color, rest, by simp only [hc, if_false]; rfl, h.tail, ?_, fun hx => by cases hx⟩
      have h1 : b.count = 1 := by omega
      simp only [Span.unroll_cons, h1, List.replicate_one, Option.toList_some]

theorem Span.pull_spec {P : Span} (hP : Span.Pos P) (scan : Nat) (skip : Bool) :
    ∃ n x P', Span.pull P scan skip = (x, n + 1, P') ∧ (n ≠ 0 → skip = true) ∧ Span.Pos P' ∧
      Span.unroll P = List.replicate n scan ++ (x.toList ++ Span.unroll P') ∧
      (x = none → P' = []) := by
  unfold Span.pull
  cases P with
  | nil => exact ⟨0, none, [], rfl, fun h => absurd rfl h, hP, rfl, fun _ => rfl⟩
  | cons b r =>
    rw [Span.isEmpty_of_ne hP (List.cons_ne_nil _ _)]
    by_cases h : (skip && b.color == scan) = true
    · obtain ⟨x, P', e, h1, h2, h3⟩ := Span.pull_cell hP.tail (1 + b.count)
      simp only [Bool.and_eq_true, beq_iff_eq] at h
      refine ⟨b.count, x, P', ?_, fun _ => h.1, h1, ?_, h3⟩
      · simp only [h.1, h.2, Bool.not_false, Bool.and_true, BEq.rfl, if_true]
        exact e.trans (by rw [Nat.add_comm])
      · rw [Span.unroll_cons, h.2, h2]
    · obtain ⟨x, P', e, h1, h2, h3⟩ := Span.pull_cell hP 1
      refine ⟨0, x, P', ?_, fun h0 => absurd rfl h0, h1, h2, h3⟩
      simp only [Bool.not_false, Bool.and_true, h]
      exact e

theorem Span.take_spec {P : Span} (hP : Span.Pos P) (hne : P ≠ []) :
    ∃ x P', Span.take P = some (x, P') ∧ Span.unroll P = x :: Span.unroll P' ∧ Span.Pos P' ∧
      Span.len P = Span.len P' + 1 := by
  cases P with
  | nil => exact absurd rfl hne
  | cons b rest =>
    have hb := hP.head
    unfold Span.take
    rw [Span.isEmpty_of_ne hP (List.cons_ne_nil _ _)]
    by_cases hc : b.count = 1
    · refine ⟨b.color, rest, by simp only [hc, BEq.rfl, if_true]; rfl, ?_, hP.tail, ?_⟩
      · rw [Span.unroll_cons, hc]; rfl
      · rw [Span.len_cons, hc, Nat.add_comm]
    · refine ⟨b.color, ⟨b.color, b.count - 1⟩ :: rest, by simp only [beq_iff_eq, hc, if_false]; rfl,
        ?_, Span.Pos.cons (by show 0 < b.count - 1; omega) hP.tail, ?_⟩
      · rw [Span.unroll_cons, Span.unroll_cons, ← List.cons_append, ← List.replicate_succ,
          Nat.sub_add_cancel hb]
      · simp only [Span.len_cons]; omega

/-- The L0 configuration in state `q` whose window cells are those of `t`, with `oL` / `oR` the cells
    to the left / right of the window (nearest first).  A head outside the window stands on the
    first outside cell. -/
def Tape.toCfgX (t : Tape) (q : Nat) (oL oR : List Nat) : Cfg :=
  match t.scan with
  | some s => ⟨q, Span.unroll t.lspan ++ oL, s, Span.unroll t.rspan ++ oR⟩
  | none =>
    if Span.isEmpty t.rspan then ⟨q, Span.unroll t.lspan ++ oL, oR.headD 0, oR.tail⟩
    else ⟨q, oL.tail, oL.headD 0, Span.unroll t.rspan ++ oR⟩

theorem Tape.toCfgX_nil {t : Tape} (h : t.WF) (q : Nat) :
    t.toCfgX q [] [] = (⟨q, t, false⟩ : Config).toCfg := by
  unfold Tape.toCfgX Config.toCfg
  cases hs : t.scan with
  | some s => simp
  | none =>
    by_cases he : Span.isEmpty t.rspan = true
    · have := (Span.isEmpty_iff h.rpos).1 he
      rw [if_pos he]
      simp [this]
    · have hr : t.rspan ≠ [] := fun hr => he (by rw [hr]; rfl)
      have hl : t.lspan = [] := (h.edge hs).resolve_right hr
      rw [if_neg he]
      simp [hl]

theorem Config.toCfg_eq (c : Config) (h : c.tape.WF) :
    c.toCfg = c.tape.toCfgX c.state [] [] := by
  rw [Tape.toCfgX_nil h]; rfl

@[simp] theorem Tape.toCfgX_state (t : Tape) (q : Nat) (oL oR : List Nat) :
    (t.toCfgX q oL oR).state = q := by
  unfold Tape.toCfgX
  split
  · rfl
  · split <;> rfl

theorem Tape.toCfgX_scan {t : Tape} {s : Nat} (hs : t.scan = some s) (q : Nat) (oL oR : List Nat) :
    (t.toCfgX q oL oR).scan = s := by
  unfold Tape.toCfgX; rw [hs]

theorem step_dir {p : ProgF} {d : Bool} {q pr q' scan : Nat} {P : Span} (hP : Span.Pos P)
    (hi : p q scan = some (pr, d, q')) (U : Span) (oP oU : List Nat) :
    ∃ n x P', Span.pull P scan (q' == q) = (x, n + 1, P') ∧ Span.Pos P' ∧ (x = none → P' = []) ∧
      Span.len P = n + ((if x.isSome then 1 else 0) + Span.len P') ∧
      (∀ j, j < n + 1 →
        ∃ c, stepN p j (Cfg.ofDir d q (Span.unroll U ++ oU) scan (Span.unroll P ++ oP)) = some c
          ∧ c.state = q ∧ c.scan = scan) ∧
      stepN p (n + 1) (Cfg.ofDir d q (Span.unroll U ++ oU) scan (Span.unroll P ++ oP))
        = some (Cfg.ofDir d q' (Span.unroll (Span.push U pr (n + 1)) ++ oU)
            ((x.toList ++ (Span.unroll P' ++ oP)).headD 0)
            (x.toList ++ (Span.unroll P' ++ oP)).tail) := by
  obtain ⟨n, x, P', e, h3, h5, h2, h4⟩ := Span.pull_spec hP scan (q' == q)
  have hn : n ≠ 0 → q = q' := fun h => (beq_iff_eq.1 (h3 h)).symm
  obtain ⟨s1, s2⟩ := sweep_run hi n hn (Span.unroll U ++ oU) (x.toList ++ (Span.unroll P' ++ oP))
  refine ⟨n, x, P', e, h5, h4, ?_, ?_⟩
  · have hl := congrArg List.length h2
    simp only [Span.length_unroll, List.length_append, List.length_replicate] at hl
    rw [hl]
    cases x <;> rfl
  · rw [h2, List.append_assoc, List.append_assoc]
    refine ⟨s1, ?_⟩
    rw [s2, Span.unroll_push, List.append_assoc]

def Tape.cells (t : Tape) : Nat :=
  Span.len t.lspan + (if t.scan.isSome then 1 else 0) + Span.len t.rspan

theorem Tape.pos_eq (t : Tape) (h : t.scan.isSome = true ∨ 0 < Span.len t.lspan) :
    Tape.pos t = Span.len t.lspan + 1 := by
  simp only [Tape.pos]
  rw [if_pos (by simpa using h)]

theorem Tape.pos_some {t : Tape} {s : Nat} (hs : t.scan = some s) :
    Tape.pos t = Span.len t.lspan + 1 :=
  Tape.pos_eq t (Or.inl (hs ▸ rfl))

theorem Tape.cells_some {t : Tape} {s : Nat} (hs : t.scan = some s) :
    Tape.cells t = Span.len t.lspan + 1 + Span.len t.rspan := by
  unfold Tape.cells
  rw [hs]; rfl

theorem Tape.cells_none {t : Tape} (hs : t.scan = none) :
    Tape.cells t = Span.len t.lspan + Span.len t.rspan := by
  unfold Tape.cells
  rw [hs]; rfl

theorem Tape.step_spec (p : ProgF) (t : Tape) (q pr q' s : Nat) (d : Bool) (oL oR : List Nat)
    (hwf : t.WF) (hs : t.scan = some s) (hi : p q s = some (pr, d, q')) :
    ∃ t' k, Tape.step t d pr (q' == q) = some t' ∧ t'.WF ∧ 0 < k ∧
      (∀ j, j < k → ∃ c, stepN p j (t.toCfgX q oL oR) = some c ∧ c.state = q ∧ c.scan = s) ∧
      stepN p k (t.toCfgX q oL oR) = some (t'.toCfgX q' oL oR) ∧
      Tape.cells t' = Tape.cells t ∧
      (Tape.pos t' : Int) = Tape.pos t + dirI d * k := by
  have hpos0 := Tape.pos_some hs
  cases d with
  | true =>
    obtain ⟨n, x, P', e, hpos, hnone, hlen, hrun, hfin⟩ := step_dir hwf.rpos hi t.lspan oR oL
    have e0 : t.toCfgX q oL oR
        = Cfg.ofDir true q (Span.unroll t.lspan ++ oL) s (Span.unroll t.rspan ++ oR) := by
      simp only [Tape.toCfgX, hs]; rfl
    refine ⟨⟨x, Span.push t.lspan pr (n + 1), P'⟩, n + 1, by simp only [Tape.step, hs, e, if_true],
      ⟨Span.push_pos hwf.lpos pr n.succ_pos, hpos, fun hx => Or.inr (hnone hx)⟩, n.succ_pos,
      e0 ▸ hrun, ?_, ?_, ?_⟩
    · rw [e0, hfin]
      cases x with
      | some a => rfl
      | none => rw [hnone rfl]; rfl
    · simp only [Tape.cells, hs, Span.len_push, Option.isSome_some, if_true]
      omega
    · rw [hpos0, Tape.pos_eq _ (Or.inr (by simp only [Span.len_push]; omega))]
      simp only [Span.len_push, dirI, if_true]
      omega
  | false =>
    obtain ⟨n, x, P', e, hpos, hnone, hlen, hrun, hfin⟩ := step_dir hwf.lpos hi t.rspan oL oR
    have e0 : t.toCfgX q oL oR
        = Cfg.ofDir false q (Span.unroll t.rspan ++ oR) s (Span.unroll t.lspan ++ oL) := by
      simp only [Tape.toCfgX, hs]; rfl
    have hpp := Span.push_pos hwf.rpos pr n.succ_pos
    refine ⟨⟨x, P', Span.push t.rspan pr (n + 1)⟩, n + 1,
      by simp only [Tape.step, hs, e, Bool.false_eq_true, if_false],
      ⟨hpos, hpp, fun hx => Or.inl (hnone hx)⟩, n.succ_pos, e0 ▸ hrun, ?_, ?_, ?_⟩
    · rw [e0, hfin]
      cases x with
      | some a => rfl
      | none =>
        -- the head has left on the left: the right span is not empty
        have hne := Span.isEmpty_of_ne hpp (Span.push_ne_nil _ _ _)
        simp only [Tape.toCfgX, hne, hnone rfl]
        rfl
    · simp only [Tape.cells, hs, Span.len_push, Option.isSome_some, if_true]
      omega
    · rw [hpos0]
      cases x with
      | some a =>
        rw [Tape.pos_eq _ (Or.inl rfl)]
        simp only [dirI, Option.isSome_some, if_true, Bool.false_eq_true, if_false] at hlen ⊢
        omega
      | none =>
        simp only [hnone rfl, Span.len_nil, Option.isSome_none, Bool.false_eq_true, if_false] at hlen
        simp [Tape.pos, hnone rfl, dirI]
        omega

theorem Tape.blank_iff {t : Tape} (hwf : t.WF) :
    Tape.blank t = true ↔
      t.scan.getD 0 = 0 ∧ AllZero (Span.unroll t.lspan) ∧ AllZero (Span.unroll t.rspan) := by
  unfold Tape.blank
  simp only [Bool.and_eq_true, Span.blank_iff _ hwf.lpos, Span.blank_iff _ hwf.rpos]
  cases t.scan with
  | none => simp
  | some c => simp [and_assoc]

/-- the `if` is the span that `Tape.init` puts on either side of the head -/
theorem Span.zeros_spec (n : Nat) :
    Span.Pos (if n > 0 then [⟨0, n⟩] else []) ∧
      Span.blank (if n > 0 then [⟨0, n⟩] else []) = true ∧
      Span.len (if n > 0 then [⟨0, n⟩] else []) = n := by
  by_cases h : n > 0
  · simp only [if_pos h]
    exact ⟨Span.Pos.cons h Span.pos_nil, rfl, Nat.add_zero n⟩
  · simp only [if_neg h]
    exact ⟨Span.pos_nil, rfl, by simp only [Span.len_nil]; omega⟩

theorem Tape.init_cases {seg pos : Nat} {t : Tape} (h : Tape.init seg pos = some t) :
    4 ≤ seg ∧
    ((pos = 0 ∧ t = ⟨none, [], [⟨0, seg - 2⟩]⟩) ∨
      (pos = seg - 1 ∧ t = ⟨none, [⟨0, seg - 2⟩], []⟩) ∨
      (0 < pos ∧ pos ≤ seg - 2 ∧
        t = ⟨some 0, if pos - 1 > 0 then [⟨0, pos - 1⟩] else [],
          if seg - 2 - pos > 0 then [⟨0, seg - 2 - pos⟩] else []⟩)) := by
  unfold Tape.init at h
  by_cases h1 : seg < 4
  · rw [if_pos h1] at h; cases h
  rw [if_neg h1] at h
  by_cases h2 : pos > seg
  · rw [if_pos h2] at h; cases h
  rw [if_neg h2] at h
  simp only at h
  refine ⟨Nat.le_of_not_lt h1, ?_⟩
  by_cases h3 : (pos == 0) = true
  · rw [if_pos h3] at h
    exact Or.inl ⟨beq_iff_eq.1 h3, (Option.some.inj h).symm⟩
  rw [if_neg h3] at h
  by_cases h4 : (pos == seg - 1) = true
  · rw [if_pos h4] at h
    exact Or.inr (Or.inl ⟨beq_iff_eq.1 h4, (Option.some.inj h).symm⟩)
  rw [if_neg h4] at h
  by_cases h5 : pos > seg - 2
  · rw [if_pos h5] at h; cases h
  rw [if_neg h5] at h
  exact Or.inr (Or.inr ⟨Nat.pos_of_ne_zero fun e => h3 (beq_iff_eq.2 e), Nat.le_of_not_lt h5,
    (Option.some.inj h).symm⟩)

theorem Tape.init_spec {seg pos : Nat} {t : Tape} (h : Tape.init seg pos = some t) :
    t.WF ∧ Tape.blank t = true ∧ Tape.cells t = seg - 2 ∧ Tape.pos t = pos := by
  obtain ⟨hseg, ⟨rfl, rfl⟩ | ⟨rfl, rfl⟩ | ⟨h0, hle, rfl⟩⟩ := Tape.init_cases h
  · exact ⟨⟨Span.pos_nil, Span.Pos.cons (by show 0 < seg - 2; omega) Span.pos_nil,
      fun _ => Or.inl rfl⟩, rfl, Nat.zero_add _, rfl⟩
  · have hl : Span.len [(⟨0, seg - 2⟩ : Block)] = seg - 2 := Nat.add_zero _
    refine ⟨⟨Span.Pos.cons (by show 0 < seg - 2; omega) Span.pos_nil, Span.pos_nil,
      fun _ => Or.inr rfl⟩, rfl, ?_⟩
    rw [Tape.cells_none rfl, Tape.pos_eq _ (Or.inr (by rw [hl]; omega)), hl]
    exact ⟨rfl, by omega⟩
  · obtain ⟨l1, l2, l3⟩ := Span.zeros_spec (pos - 1)
    obtain ⟨r1, r2, r3⟩ := Span.zeros_spec (seg - 2 - pos)
    refine ⟨⟨l1, r1, nofun⟩, by simp only [Tape.blank, l2, r2, BEq.rfl, Bool.and_self], ?_⟩
    rw [Tape.cells_some rfl, Tape.pos_some rfl, l3, r3]
    omega

theorem Span.take_some {P P' : Span} {x : Nat} (hP : Span.Pos P) (h : Span.take P = some (x, P')) :
    Span.unroll P = x :: Span.unroll P' ∧ Span.Pos P' ∧ Span.len P = Span.len P' + 1 := by
  obtain ⟨x', P'', h1, h2⟩ := Span.take_spec hP (by rintro rfl; cases h)
  cases h1.symm.trans h
  exact h2

theorem Tape.stepIn_cases {t t' : Tape} {shift : Bool} (h : Tape.stepIn t shift = some t') :
    t.scan = none ∧ ∃ x s',
      (Span.take t.rspan = some (x, s') ∧ t' = ⟨some x, t.lspan, s'⟩) ∨
      (Span.take t.lspan = some (x, s') ∧ t' = ⟨some x, s', t.rspan⟩) := by
  unfold Tape.stepIn Tape.side at h
  cases hsc : t.scan with
  | some s => rw [hsc] at h; cases h
  | none =>
    rw [hsc] at h
    refine ⟨rfl, ?_⟩
    simp only at h
    split at h
    · cases h
    · cases shift with
      | true =>
        simp only [if_true] at h
        cases htk : Span.take t.rspan with
        | none => rw [htk] at h; cases h
        | some xr => rw [htk] at h; exact ⟨xr.1, xr.2, Or.inl ⟨rfl, (Option.some.inj h).symm⟩⟩
      | false =>
        simp only [Bool.false_eq_true, if_false] at h
        cases htk : Span.take t.lspan with
        | none => rw [htk] at h; cases h
        | some xr => rw [htk] at h; exact ⟨xr.1, xr.2, Or.inr ⟨rfl, (Option.some.inj h).symm⟩⟩

/-- stepping in turns the nearest cell of the window into the scanned one -/
theorem Tape.stepIn_spec {t t' : Tape} {shift : Bool} (hwf : t.WF) (h : Tape.stepIn t shift = some t') :
    t'.WF ∧ Tape.blank t' = Tape.blank t ∧ Tape.cells t' = Tape.cells t := by
  obtain ⟨hsc, x, P, ⟨htk, rfl⟩ | ⟨htk, rfl⟩⟩ := Tape.stepIn_cases h
  · obtain ⟨h1, h2, h3⟩ := Span.take_some hwf.rpos htk
    have hwf' : Tape.WF ⟨some x, t.lspan, P⟩ := ⟨hwf.lpos, h2, nofun⟩
    refine ⟨hwf', ?_, ?_⟩
    · rw [Bool.eq_iff_iff, Tape.blank_iff hwf', Tape.blank_iff hwf, hsc, h1, allZero_cons_iff]
      exact ⟨fun ⟨a, b, c⟩ => ⟨rfl, b, a, c⟩, fun ⟨_, b, a, c⟩ => ⟨a, b, c⟩⟩
    · show Span.len t.lspan + 1 + Span.len P = _
      rw [Tape.cells_none hsc, h3]; omega
  · obtain ⟨h1, h2, h3⟩ := Span.take_some hwf.lpos htk
    have hwf' : Tape.WF ⟨some x, P, t.rspan⟩ := ⟨h2, hwf.rpos, nofun⟩
    refine ⟨hwf', ?_, ?_⟩
    · rw [Bool.eq_iff_iff, Tape.blank_iff hwf', Tape.blank_iff hwf, hsc, h1, allZero_cons_iff]
      exact ⟨fun ⟨a, b, c⟩ => ⟨rfl, ⟨a, b⟩, c⟩, fun ⟨_, ⟨a, b⟩, c⟩ => ⟨a, b, c⟩⟩
    · show Span.len P + 1 + Span.len t.rspan = _
      rw [Tape.cells_none hsc, h3]

end BB.Segment
