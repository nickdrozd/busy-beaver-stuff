/-
Lemmas for C13 (program text <-> compiled table round trip), about the L1 model of src/instrs.rs
in BB/Model/Instrs.lean.  The parser is followed through the text of a table (`tableText`): its
splitters give back rows and tokens, every token reads back as its cell, and the accumulator ends
up as `insertRows`.  The printer prints `tableText` of the table a program holds (`rowsOf`).
`insertRows` and `rowsOf` are inverse to each other on rectangular tables and on strictly sorted
programs.
-/
import BB.Lemmas.ProgTable
namespace BB

/-- a table cell: undefined, or an instruction with colour < 10 and state < 26 (what prints in
    three characters) -/
def CellOk : Option Instr → Prop
  | none => True
  | some (c, _, q) => c < 10 ∧ q < 26

namespace Parse

theorem toNat_ofNat {n : Nat} (h : n < 55296) : (Char.ofNat n).toNat = n := by
  rw [Char.ofNat, dif_pos (Or.inl h)]
  rfl

theorem not_ws {ch : Char} (h : 32 < ch.toNat) : isWs ch = false := by
  cases hw : isWs ch
  · rfl
  · simp only [isWs, Bool.or_eq_true, beq_iff_eq, ← Char.toNat_inj, Char.reduceToNat] at hw
    omega

theorem ne_space {ch : Char} (h : isWs ch = false) : ch ≠ ' ' := by
  rintro rfl
  exact absurd h (by decide)

theorem digitChar_lt10 : ∀ c, c < 10 → Nat.digitChar c = Char.ofNat (48 + c) := by decide

theorem natDigits_lt10 (c : Nat) (hc : c < 10) : natDigits c = [Char.ofNat (48 + c)] := by
  rw [natDigits, Nat.toString_eq_repr, Nat.repr_of_lt hc, String.toList_singleton,
    digitChar_lt10 c hc]

theorem readColor_digit (c : Nat) (hc : c < 10) : readColor (Char.ofNat (48 + c)) = .ok c := by
  have ht := toNat_ofNat (n := 48 + c) (by omega)
  have hd : (Char.ofNat (48 + c)).isDigit = true :=
    Char.isDigit_iff_toNat.2 (by rw [ht]; exact ⟨Nat.le_add_right 48 c, (by omega : 48 + c ≤ 57)⟩)
  rw [readColor, if_pos hd, ht, Nat.add_sub_cancel_left]

theorem readState_letter (q : Nat) (hq : q < 26) : readState (Char.ofNat (65 + q)) = .ok q := by
  simp only [readState]
  rw [toNat_ofNat (by omega), Nat.mod_eq_of_lt (by omega), if_neg (by omega),
    Nat.add_sub_cancel_left]

theorem showState_letter (q : Nat) (hq : q < 26) : showState q = .ok (Char.ofNat (65 + q)) := by
  simp only [showState]
  rw [Nat.mod_eq_of_lt (by omega), if_neg (by omega), Nat.add_comm]

/-- the three-character token of a cell -/
def tok : Option Instr → List Char
  | none => ['.', '.', '.']
  | some (co, sh, q) => [Char.ofNat (48 + co), if sh then 'R' else 'L', Char.ofNat (65 + q)]

theorem showInstr_good (x : Option Instr) (h : CellOk x) : showInstr x = .ok (tok x) := by
  rcases x with _ | ⟨c, sh, q⟩
  · rfl
  · simp only [showInstr, showState_letter q h.2, natDigits_lt10 c h.1, tok, List.cons_append,
      List.nil_append]

/-- the characters of an instruction token come after `'.'`, hence after all whitespace -/
theorem tok_some_chars (c : Nat) (sh : Bool) (q : Nat) (h : CellOk (some (c, sh, q))) :
    ∀ ch ∈ tok (some (c, sh, q)), 46 < ch.toNat := by
  intro ch hch
  simp only [tok, List.mem_cons, List.not_mem_nil, or_false] at hch
  rcases hch with rfl | rfl | rfl
  · rw [toNat_ofNat (by have := h.1; omega)]
    omega
  · cases sh <;> decide
  · rw [toNat_ofNat (by have := h.2; omega)]
    omega

theorem tok_not_ws (x : Option Instr) (h : CellOk x) : ∀ ch ∈ tok x, isWs ch = false := by
  rcases x with _ | ⟨c, sh, q⟩
  · decide
  · exact fun ch hch => not_ws (Nat.lt_trans (by decide) (tok_some_chars c sh q h ch hch))

theorem tok_ne_nil (x : Option Instr) : tok x ≠ [] := by
  rcases x with _ | ⟨c, sh, q⟩ <;> exact List.cons_ne_nil _ _

theorem readInstr_tok (x : Option Instr) (h : CellOk x) : readInstr (tok x) = .ok x := by
  rcases x with _ | ⟨c, sh, q⟩
  · rfl
  · have hnc : (tok (some (c, sh, q))).contains '.' = false := by
      rw [List.contains_eq_mem]
      exact decide_eq_false fun hm => absurd (tok_some_chars c sh q h _ hm) (by decide)
    have hs : readShift (if sh then 'R' else 'L') = sh := by cases sh <;> rfl
    simp only [readInstr, hnc, Bool.false_eq_true, if_false]
    simp only [tok, readColor_digit c h.1, readState_letter q h.2, hs]

theorem joinWith_cons_cons (sep x y : List Char) (xs : List (List Char)) :
    joinWith sep (x :: y :: xs) = x ++ sep ++ joinWith sep (y :: xs) := rfl

theorem split_joinWith (split : List Char → List (List Char)) (sep : List Char)
    (P : List Char → Prop) (hend : ∀ x, P x → split x = [x])
    (hsep : ∀ x rest, P x → split (x ++ sep ++ rest) = x :: split rest)
    (xs : List (List Char)) (hne : xs ≠ []) (h : ∀ x ∈ xs, P x) : split (joinWith sep xs) = xs := by
  induction xs with
  | nil => exact absurd rfl hne
  | cons x xs ih =>
    have hx := h x (List.mem_cons_self ..)
    rcases xs with _ | ⟨y, ys⟩
    · exact hend x hx
    · rw [joinWith_cons_cons, hsep x _ hx,
        ih (List.cons_ne_nil _ _) (fun z hz => h z (List.mem_cons_of_mem _ hz))]

/-- `go` is the loop of either splitter: both push a non-space character onto the current piece. -/
theorem go_tok (go : List Char → List Char → List (List Char))
    (hgo : ∀ cur c cs, c ≠ ' ' → go cur (c :: cs) = go (c :: cur) cs)
    (t cur rest : List Char) (h : ∀ ch ∈ t, ch ≠ ' ') :
    go cur (t ++ rest) = go (t.reverse ++ cur) rest := by
  induction t generalizing cur with
  | nil => rfl
  | cons a t ih =>
    rw [List.cons_append, hgo cur a _ (h a (List.mem_cons_self ..)),
      ih _ (fun ch hch => h ch (List.mem_cons_of_mem _ hch)), List.reverse_cons,
      List.append_assoc, List.singleton_append]

theorem splitOne_go_tok (t cur rest : List Char) (h : ∀ ch ∈ t, ch ≠ ' ') :
    splitOne.go cur (t ++ rest) = splitOne.go (t.reverse ++ cur) rest :=
  go_tok splitOne.go (fun cur c cs hc => by rw [splitOne.go, if_neg (by simpa using hc)]) t cur rest h

theorem splitOne_joinWith (toks : List (List Char)) (hne : toks ≠ [])
    (h : ∀ t ∈ toks, ∀ ch ∈ t, ch ≠ ' ') : splitOne (joinWith [' '] toks) = toks := by
  refine split_joinWith splitOne [' '] (fun t => ∀ ch ∈ t, ch ≠ ' ') ?_ ?_ toks hne h
  · intro t ht
    have := splitOne_go_tok t [] [] ht
    rwa [List.append_nil, List.append_nil, splitOne.go, List.reverse_reverse] at this
  · intro t rest ht
    rw [List.append_assoc, splitOne, splitOne_go_tok t [] _ ht, List.append_nil,
      List.singleton_append, splitOne.go, if_pos (beq_self_eq_true _), List.reverse_reverse]
    rfl

theorem splitTwo_go_tok (t cur rest : List Char) (h : ∀ ch ∈ t, ch ≠ ' ') :
    splitTwo.go cur (t ++ rest) = splitTwo.go (t.reverse ++ cur) rest := by
  refine go_tok splitTwo.go (fun cur c cs hc => ?_) t cur rest h
  rcases cs with _ | ⟨d, cs⟩
  · rw [splitTwo.go, splitTwo.go]
  · rw [splitTwo.go, if_neg (by simpa using fun e => absurd e hc)]

def IsRow (r : List Char) : Prop :=
  ∃ toks, toks ≠ [] ∧ (∀ t ∈ toks, t ≠ [] ∧ ∀ ch ∈ t, ch ≠ ' ') ∧ r = joinWith [' '] toks

theorem splitTwo_go_row (r : List Char) (hr : IsRow r) (cur rest : List Char) :
    splitTwo.go cur (r ++ rest) = splitTwo.go (r.reverse ++ cur) rest := by
  obtain ⟨toks, hne, h, rfl⟩ := hr
  induction toks generalizing cur with
  | nil => exact absurd rfl hne
  | cons t ts ih =>
    have ht := (h t (List.mem_cons_self ..)).2
    rcases ts with _ | ⟨u, us⟩
    · exact splitTwo_go_tok t cur rest ht
    · have h' : ∀ t ∈ u :: us, t ≠ [] ∧ ∀ ch ∈ t, ch ≠ ' ' :=
        fun z hz => h z (List.mem_cons_of_mem _ hz)
      obtain ⟨c, u', rfl⟩ := List.exists_cons_of_ne_nil (h' u (List.mem_cons_self ..)).1
      have hc : c ≠ ' ' := (h' _ (List.mem_cons_self ..)).2 c (List.mem_cons_self ..)
      obtain ⟨s, hs⟩ : ∃ s, joinWith [' '] ((c :: u') :: us) = c :: s := by
        cases us <;> exact ⟨_, rfl⟩
      have ih' := ih (' ' :: (t.reverse ++ cur)) (List.cons_ne_nil _ _) h'
      rw [hs, List.cons_append] at ih'
      rw [joinWith_cons_cons, hs, List.append_assoc, List.append_assoc, splitTwo_go_tok t _ _ ht,
        List.singleton_append, List.cons_append, splitTwo.go,
        if_neg (by simpa using hc), ih']
      simp only [List.reverse_append, List.reverse_cons, List.append_assoc, List.nil_append,
        List.cons_append]

theorem splitTwo_joinWith (rows : List (List Char)) (hne : rows ≠ []) (h : ∀ r ∈ rows, IsRow r) :
    splitTwo (joinWith [' ', ' '] rows) = rows := by
  refine split_joinWith splitTwo [' ', ' '] IsRow ?_ ?_ rows hne h
  · intro r hr
    have := splitTwo_go_row r hr [] []
    rwa [List.append_nil, List.append_nil, splitTwo.go, List.reverse_reverse] at this
  · intro r rest hr
    rw [List.append_assoc, splitTwo, splitTwo_go_row r hr, List.append_nil]
    show splitTwo.go r.reverse (' ' :: ' ' :: rest) = _
    rw [splitTwo.go, if_pos (by decide), List.reverse_reverse]
    rfl

/-- nothing for `trimChars` to trim -/
def CleanEnds (s : List Char) : Prop :=
  ∃ a b, s.head? = some a ∧ s.getLast? = some b ∧ isWs a = false ∧ isWs b = false

theorem trimL_of_head (a : Char) (s : List Char) (h : isWs a = false) : trimL (a :: s) = a :: s := by
  rw [trimL, if_neg (by rw [h]; exact Bool.false_ne_true)]

theorem CleanEnds.trim {s : List Char} (h : CleanEnds s) : trimChars s = s := by
  obtain ⟨a, b, ha, hb, hwa, hwb⟩ := h
  obtain ⟨s', rfl⟩ := List.head?_eq_some_iff.1 ha
  obtain ⟨r, hr⟩ := List.head?_eq_some_iff.1 (List.head?_reverse.trans hb)
  rw [trimChars, trimL_of_head a s' hwa, hr, trimL_of_head b r hwb, ← hr, List.reverse_reverse]

theorem CleanEnds.append {x y : List Char} (hx : CleanEnds x) (m : List Char) (hy : CleanEnds y) :
    CleanEnds (x ++ m ++ y) := by
  obtain ⟨a, _, ha, _, hwa, _⟩ := hx
  obtain ⟨_, b, _, hb, _, hwb⟩ := hy
  exact ⟨a, b, by rw [List.append_assoc, List.head?_append, ha, Option.some_or],
    by rw [List.getLast?_append, hb, Option.some_or], hwa, hwb⟩

theorem cleanEnds_joinWith (sep : List Char) (xs : List (List Char)) (hne : xs ≠ [])
    (h : ∀ x ∈ xs, CleanEnds x) : CleanEnds (joinWith sep xs) := by
  induction xs with
  | nil => exact absurd rfl hne
  | cons x xs ih =>
    rcases xs with _ | ⟨y, ys⟩
    · exact h x (List.mem_cons_self ..)
    · exact (h x (List.mem_cons_self ..)).append sep
        (ih (List.cons_ne_nil _ _) (fun z hz => h z (List.mem_cons_of_mem _ hz)))

theorem cleanEnds_of_not_ws {t : List Char} (hne : t ≠ []) (h : ∀ ch ∈ t, isWs ch = false) :
    CleanEnds t :=
  ⟨_, _, List.head?_eq_some_head hne, List.getLast?_eq_some_getLast hne, h _ (List.head_mem hne),
    h _ (List.getLast_mem hne)⟩

theorem slot_beq_self (s : Slot) : (s.1 == s.1 && s.2 == s.2) = true := Tree.slotKey_eq_iff.2 rfl

theorem insert_cons (k : Slot) (v : Instr) (rest : Prog) (s : Slot) (i : Instr) :
    Prog.insert ((k, v) :: rest) s i =
      if k = s then (s, i) :: rest
      else if slotLt s k then (s, i) :: (k, v) :: rest else (k, v) :: Prog.insert rest s i := by
  rw [Prog.insert]
  exact ite_cond_congr (propext Tree.slotKey_eq_iff)

/-- `parseRow`'s step on one cell -/
def put (acc : Prog) (s : Slot) : Option Instr → Prog
  | none => acc
  | some i => acc.insert s i

theorem get_put (acc : Prog) (s : Slot) (x : Option Instr) (s' : Slot) :
    (put acc s x).get s' = if s = s' then x.or (acc.get s') else acc.get s' := by
  cases x with
  | none => rw [put, Option.none_or, ite_self]
  | some i => rw [put, Tree.Prog.get_insert, Option.some_or]

/-- what `parseRow` does to the accumulator, on a row of cells -/
def insertRow (st : Nat) : List (Option Instr) → Nat → Prog → Prog
  | [], _, acc => acc
  | x :: r, co, acc => insertRow st r (co + 1) (put acc (st, co) x)

def insertRows : List (List (Option Instr)) → Nat → Prog → Prog
  | [], _, acc => acc
  | r :: rs, st, acc => insertRows rs (st + 1) (insertRow st r 0 acc)

theorem parseRow_toks (st : Nat) (r : List (Option Instr)) (co : Nat) (acc : Prog)
    (h : ∀ c ∈ r, CellOk c) : parseRow st (r.map tok) co acc = .ok (insertRow st r co acc) := by
  induction r generalizing co acc with
  | nil => rfl
  | cons x r ih =>
    have hx := readInstr_tok x (h x (List.mem_cons_self ..))
    have ih' := fun co acc => ih co acc (fun c hc => h c (List.mem_cons_of_mem _ hc))
    rcases x with _ | i <;> simp only [List.map_cons, parseRow, hx, insertRow, put, ih']

theorem get_insertRow_out (st : Nat) (r : List (Option Instr)) (co : Nat) (acc : Prog) (i j : Nat)
    (h : i ≠ st ∨ j < co) : (insertRow st r co acc).get (i, j) = acc.get (i, j) := by
  induction r generalizing co acc with
  | nil => rfl
  | cons x r ih =>
    rw [insertRow, ih _ _ (by omega), get_put, if_neg]
    intro e
    have := Prod.mk.inj e
    omega

theorem get_insertRow_at (st : Nat) (r : List (Option Instr)) (co : Nat) (acc : Prog) (k : Nat) :
    (insertRow st r co acc).get (st, co + k) = (r.getD k none).or (acc.get (st, co + k)) := by
  induction r generalizing co acc k with
  | nil => rw [insertRow, List.getD_nil, Option.none_or]
  | cons x r ih =>
    cases k with
    | zero =>
      rw [insertRow, Nat.add_zero co, get_insertRow_out _ _ _ _ _ _ (Or.inr (Nat.lt_add_one co)),
        get_put, if_pos rfl, List.getD_cons_zero]
    | succ k =>
      rw [insertRow, ← Nat.add_assoc, Nat.add_right_comm, ih, get_put, if_neg, List.getD_cons_succ]
      intro e
      have := (Prod.mk.inj e).2
      omega

theorem get_insertRows_out (rows : List (List (Option Instr))) (st : Nat) (acc : Prog) (i j : Nat)
    (h : i < st) : (insertRows rows st acc).get (i, j) = acc.get (i, j) := by
  induction rows generalizing st acc with
  | nil => rfl
  | cons r rs ih =>
    rw [insertRows, ih _ _ (by omega), get_insertRow_out _ _ _ _ _ _ (Or.inl (by omega))]

theorem get_insertRows_at (rows : List (List (Option Instr))) (st : Nat) (acc : Prog) (k j : Nat) :
    (insertRows rows st acc).get (st + k, j) =
      ((rows.getD k []).getD j none).or (acc.get (st + k, j)) := by
  induction rows generalizing st acc k with
  | nil => rw [insertRows, List.getD_nil, List.getD_nil, Option.none_or]
  | cons r rs ih =>
    cases k with
    | zero =>
      have := get_insertRow_at st r 0 acc j
      rw [Nat.zero_add] at this
      rw [insertRows, Nat.add_zero st, get_insertRows_out _ _ _ _ _ (Nat.lt_add_one st), this,
        List.getD_cons_zero]
    | succ k =>
      rw [insertRows, ← Nat.add_assoc, Nat.add_right_comm, ih,
        get_insertRow_out _ _ _ _ _ _ (Or.inl (by omega)), List.getD_cons_succ]

theorem get_parsed (rows : List (List (Option Instr))) (i j : Nat) :
    (insertRows rows 0 []).get (i, j) = (rows.getD i []).getD j none := by
  have := get_insertRows_at rows 0 [] i j
  rwa [Nat.zero_add, Prog.get, Option.or_none] at this

def rowText (r : List (Option Instr)) : List Char := joinWith [' '] (r.map tok)

def tableText (rows : List (List (Option Instr))) : List Char :=
  joinWith [' ', ' '] (rows.map rowText)

def GoodRows (rows : List (List (Option Instr))) : Prop :=
  ∀ r ∈ rows, r ≠ [] ∧ ∀ c ∈ r, CellOk c

theorem parseRows_rows (rows : List (List (Option Instr))) (st : Nat) (acc : Prog)
    (h : GoodRows rows) : parseRows (rows.map rowText) st acc = .ok (insertRows rows st acc) := by
  induction rows generalizing st acc with
  | nil => rfl
  | cons r rs ih =>
    obtain ⟨hne, hr⟩ := h r (List.mem_cons_self ..)
    have hsplit : splitOne (rowText r) = r.map tok :=
      splitOne_joinWith _ (mt List.map_eq_nil_iff.1 hne)
        (List.forall_mem_map.2 fun c hc ch hch => ne_space (tok_not_ws c (hr c hc) ch hch))
    simp only [List.map_cons, parseRows, hsplit, parseRow_toks st r 0 acc hr, insertRows]
    exact ih _ _ (fun r hr => h r (List.mem_cons_of_mem _ hr))

theorem isRow_rowText (r : List (Option Instr)) (hne : r ≠ []) (h : ∀ c ∈ r, CellOk c) :
    IsRow (rowText r) :=
  ⟨_, mt List.map_eq_nil_iff.1 hne,
    List.forall_mem_map.2 fun c hc =>
      ⟨tok_ne_nil c, fun ch hch => ne_space (tok_not_ws c (h c hc) ch hch)⟩, rfl⟩

theorem cleanEnds_tableText (rows : List (List (Option Instr))) (hne : rows ≠ [])
    (h : GoodRows rows) : CleanEnds (tableText rows) :=
  cleanEnds_joinWith _ _ (mt List.map_eq_nil_iff.1 hne) <| List.forall_mem_map.2 fun r hr =>
    cleanEnds_joinWith _ _ (mt List.map_eq_nil_iff.1 (h r hr).1) <| List.forall_mem_map.2 fun c hc =>
      cleanEnds_of_not_ws (tok_ne_nil c) (tok_not_ws c ((h r hr).2 c hc))

theorem fromChars_tableText (rows : List (List (Option Instr))) (hne : rows ≠ [])
    (h : GoodRows rows) : Prog.fromChars (tableText rows) = .ok (insertRows rows 0 []) := by
  have hsplit : splitTwo (tableText rows) = rows.map rowText :=
    splitTwo_joinWith _ (mt List.map_eq_nil_iff.1 hne)
      (List.forall_mem_map.2 fun r hr => isRow_rowText r (h r hr).1 (h r hr).2)
  rw [Prog.fromChars, (cleanEnds_tableText rows hne h).trim, hsplit]
  exact parseRows_rows rows 0 [] h

theorem mapM'_ok {α β : Type} (f : α → PRes β) (g : α → β) (l : List α)
    (h : ∀ x ∈ l, f x = .ok (g x)) : mapM' f l = .ok (l.map g) := by
  induction l with
  | nil => rfl
  | cons x xs ih =>
    simp only [mapM', h x (List.mem_cons_self ..),
      ih (fun y hy => h y (List.mem_cons_of_mem _ hy)), List.map_cons]

/-- the `S × C` table a program holds -/
def rowsOf (p : Prog) (S C : Nat) : List (List (Option Instr)) :=
  (List.range S).map fun i => (List.range C).map fun j => p.get (i, j)

theorem showChars_rowsOf (p : Prog) (S C : Nat)
    (h : ∀ r ∈ rowsOf p S C, ∀ c ∈ r, CellOk c) :
    p.showChars (some (S, C)) = .ok (tableText (rowsOf p S C)) := by
  simp only [Prog.showChars, Option.getD_some]
  rw [mapM'_ok (g := fun st => rowText ((List.range C).map fun co => p.get (st, co)))]
  · simp only [tableText, rowsOf, List.map_map]
    rfl
  · intro st hst
    rw [mapM'_ok (g := fun co => tok (p.get (st, co)))]
    · simp only [rowText, List.map_map]
      rfl
    · intro co hco
      exact showInstr_good _ (h _ (List.mem_map_of_mem hst) _ (List.mem_map_of_mem hco))

/-- keys strictly increasing in the lexicographic order: the invariant of the `BTreeMap` that
    `CompProg` is, under which a program is determined by its lookups (`sorted_ext`) -/
abbrev Sorted (p : Prog) : Prop := List.Pairwise (fun a b => slotLt a.1 b.1 = true) p

theorem slotLt_iff (a b : Slot) :
    slotLt a b = true ↔ a.1 < b.1 ∨ (a.1 = b.1 ∧ a.2 < b.2) := by
  simp [slotLt]

theorem slotLt_trans {a b c : Slot} (h1 : slotLt a b = true) (h2 : slotLt b c = true) :
    slotLt a c = true := by
  simp only [slotLt_iff] at *
  omega

theorem slotLt_irrefl (a : Slot) : ¬ slotLt a a = true := by
  simp only [slotLt_iff]
  omega

theorem slotLt_tri (a b : Slot) : slotLt a b = true ∨ a = b ∨ slotLt b a = true := by
  simp only [slotLt_iff, Prod.ext_iff]
  omega

theorem mem_insert {p : Prog} {s : Slot} {i : Instr} {b : Slot × Instr}
    (h : b ∈ p.insert s i) : b = (s, i) ∨ b ∈ p := by
  induction p with
  | nil => exact Or.inl (List.mem_singleton.1 h)
  | cons kv rest ih =>
    rcases kv with ⟨k, v⟩
    rw [insert_cons] at h
    split at h
    · exact (List.mem_cons.1 h).imp_right (List.mem_cons_of_mem _)
    · split at h
      · exact List.mem_cons.1 h
      · rcases List.mem_cons.1 h with e | hm
        · exact Or.inr (e ▸ List.mem_cons_self ..)
        · exact (ih hm).imp_right (List.mem_cons_of_mem _)

theorem sorted_insert (p : Prog) (s : Slot) (i : Instr) (hp : Sorted p) :
    Sorted (p.insert s i) := by
  induction p with
  | nil => exact List.pairwise_singleton _ _
  | cons kv rest ih =>
    rcases kv with ⟨k, v⟩
    have hp1 := List.pairwise_cons.1 hp
    rw [insert_cons]
    split
    · rename_i hk
      subst hk
      exact List.pairwise_cons.2 hp1
    · split
      · rename_i hsk
        refine List.pairwise_cons.2 ⟨fun b hb => ?_, hp⟩
        rcases List.mem_cons.1 hb with rfl | hm
        · exact hsk
        · exact slotLt_trans hsk (hp1.1 b hm)
      · rename_i hk hsk
        have hks : slotLt k s = true := by
          rcases slotLt_tri k s with h | h | h
          · exact h
          · exact absurd h hk
          · exact absurd h hsk
        refine List.pairwise_cons.2 ⟨fun b hb => ?_, ih hp1.2⟩
        rcases mem_insert hb with rfl | hm
        · exact hks
        · exact hp1.1 b hm

theorem get_none_of_forall_ne {p : Prog} {s : Slot} (h : ∀ kv ∈ p, kv.1 ≠ s) : p.get s = none := by
  rcases hg : p.get s with _ | v
  · rfl
  · exact absurd rfl (h _ (Tree.Prog.mem_of_get hg))

theorem get_none_of_all_gt {p : Prog} {s : Slot} (h : ∀ kv ∈ p, slotLt s kv.1 = true) :
    p.get s = none :=
  get_none_of_forall_ne fun kv hkv e => slotLt_irrefl s (e ▸ h kv hkv)

theorem get_lt_head {k s : Slot} {v : Instr} {p : Prog} (hp : Sorted ((k, v) :: p))
    (h : slotLt s k = true) : Prog.get ((k, v) :: p) s = none :=
  get_none_of_all_gt fun kv hkv => by
    rcases List.mem_cons.1 hkv with rfl | hm
    · exact h
    · exact slotLt_trans h ((List.pairwise_cons.1 hp).1 kv hm)

theorem sorted_ext (p q : Prog) (hp : Sorted p) (hq : Sorted q)
    (h : ∀ s, p.get s = q.get s) : p = q := by
  induction p generalizing q with
  | nil =>
    rcases q with _ | ⟨⟨k, v⟩, q'⟩
    · rfl
    · have := h k
      rw [Tree.Prog.get_cons, if_pos rfl] at this
      cases this
  | cons kv p' ih =>
    rcases kv with ⟨k, v⟩
    rcases q with _ | ⟨⟨k', v'⟩, q'⟩
    · have := h k
      rw [Tree.Prog.get_cons, if_pos rfl] at this
      cases this
    · have hk : k = k' := by
        rcases slotLt_tri k k' with hlt | he | hgt
        · have := h k
          rw [Tree.Prog.get_cons, if_pos rfl, get_lt_head hq hlt] at this
          cases this
        · exact he
        · have := h k'
          rw [get_lt_head hp hgt, Tree.Prog.get_cons, if_pos rfl] at this
          cases this
      subst hk
      have hv := h k
      rw [Tree.Prog.get_cons, if_pos rfl, Tree.Prog.get_cons, if_pos rfl] at hv
      cases hv
      have hp1 := List.pairwise_cons.1 hp
      have hq1 := List.pairwise_cons.1 hq
      congr 1
      refine ih q' hp1.2 hq1.2 fun s => ?_
      by_cases hs : k = s
      · subst hs
        rw [get_none_of_all_gt hp1.1, get_none_of_all_gt hq1.1]
      · have := h s
        rwa [Tree.Prog.get_cons, if_neg hs, Tree.Prog.get_cons, if_neg hs] at this

theorem sorted_put (acc : Prog) (s : Slot) (x : Option Instr) (h : Sorted acc) :
    Sorted (put acc s x) := by
  cases x with
  | none => exact h
  | some i => exact sorted_insert _ _ _ h

theorem sorted_insertRow (st : Nat) (r : List (Option Instr)) (co : Nat) (acc : Prog)
    (h : Sorted acc) : Sorted (insertRow st r co acc) := by
  induction r generalizing co acc with
  | nil => exact h
  | cons x r ih => exact ih _ _ (sorted_put _ _ _ h)

theorem sorted_insertRows (rows : List (List (Option Instr))) (st : Nat) (acc : Prog)
    (h : Sorted acc) : Sorted (insertRows rows st acc) := by
  induction rows generalizing st acc with
  | nil => exact h
  | cons r rs ih => exact ih _ _ (sorted_insertRow _ _ _ _ h)

theorem getD_map_range {α : Type} (f : Nat → α) (n i : Nat) (d : α) :
    ((List.range n).map f).getD i d = if i < n then f i else d := by
  by_cases h : i < n
  · rw [if_pos h, List.getD_eq_getElem?_getD, List.getElem?_map, List.getElem?_range h]
    rfl
  · rw [if_neg h, List.getD_eq_getElem?_getD, List.getElem?_eq_none]
    · rfl
    · rw [List.length_map, List.length_range]
      exact Nat.le_of_not_lt h

theorem map_range_getD {α β : Type} (l : List α) (d : α) (g : α → β) :
    (List.range l.length).map (fun j => g (l.getD j d)) = l.map g := by
  apply List.ext_getElem
  · simp
  · intro n h1 h2
    simp only [List.length_map, List.length_range] at h1
    simp [List.getD_eq_getElem?_getD, h1]

theorem rowsOf_insertRows (rows : List (List (Option Instr))) (S C : Nat) (hS : rows.length = S)
    (h : ∀ r ∈ rows, r.length = C) : rowsOf (insertRows rows 0 []) S C = rows := by
  subst hS
  simp only [rowsOf, get_parsed]
  rw [map_range_getD rows [] (fun r => (List.range C).map fun j => r.getD j none)]
  refine (List.map_congr_left fun r hr => ?_).trans (List.map_id _)
  rw [← h r hr]
  exact (map_range_getD r none id).trans (List.map_id _)

theorem showChars_insertRows (rows : List (List (Option Instr))) (S C : Nat) (hS : rows.length = S)
    (h : ∀ r ∈ rows, r.length = C ∧ ∀ c ∈ r, CellOk c) :
    (insertRows rows 0 []).showChars (some (S, C)) = .ok (tableText rows) := by
  have hs := showChars_rowsOf (insertRows rows 0 []) S C
  rw [rowsOf_insertRows rows S C hS fun r hr => (h r hr).1] at hs
  exact hs fun r hr => (h r hr).2

theorem rowsOf_getD (p : Prog) (S C : Nat) (hin : ∀ kv ∈ p, kv.1.1 < S ∧ kv.1.2 < C)
    (i j : Nat) : ((rowsOf p S C).getD i []).getD j none = p.get (i, j) := by
  have hout : ¬ (i < S ∧ j < C) → none = p.get (i, j) := fun hij =>
    (get_none_of_forall_ne fun kv hkv e => hij (by have := hin kv hkv; rwa [e] at this)).symm
  rw [rowsOf, getD_map_range]
  split
  · rw [getD_map_range]
    split
    · rfl
    · exact hout fun hij => absurd hij.2 ‹_›
  · exact hout fun hij => absurd hij.1 ‹_›

theorem insertRows_rowsOf (p : Prog) (S C : Nat) (hp : Sorted p)
    (hin : ∀ kv ∈ p, kv.1.1 < S ∧ kv.1.2 < C) : insertRows (rowsOf p S C) 0 [] = p :=
  sorted_ext _ _ (sorted_insertRows _ _ _ List.Pairwise.nil) hp fun (i, j) => by
    rw [get_parsed, rowsOf_getD p S C hin]

theorem goodRows_rowsOf (p : Prog) (S C : Nat) (hC : 0 < C)
    (h : ∀ kv ∈ p, CellOk (some kv.2)) : GoodRows (rowsOf p S C) := by
  intro r hr
  obtain ⟨i, _, rfl⟩ := List.mem_map.1 hr
  refine ⟨mt List.map_eq_nil_iff.1 (mt List.range_eq_nil.1 (Nat.ne_of_gt hC)), fun c hc => ?_⟩
  obtain ⟨j, _, rfl⟩ := List.mem_map.1 hc
  rcases hg : p.get (i, j) with _ | v
  · trivial
  · exact h _ (Tree.Prog.mem_of_get hg)

end Parse
end BB
