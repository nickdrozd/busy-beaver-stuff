/-
C16 — one `get_instr` of a macro object over a history-independent inner program.
`run_simulator` does over it what it does over the stateless inner program, and the window keeps
its length and holds only legal colours (`runSimulator_pure`); on legal slots `deconstruct_inputs`
and `reconstruct_outputs` agree with their cache-free counterparts (`deconstruct_pure`,
`reconstruct_pure`).  Together: the answer is `pureInstr` of the slot, the invariant is kept, and
the new state extends the old one (`macro_step`).
-/
import BB.Lemmas.MacroHistDefs
import BB.Lemmas.MacroRun
import BB.Lemmas.ProgTable

namespace BB.Macros

open BB.MacroSim (simStep_all)

theorem Win.atLeft_toTape {tape : MTape} {w : Win} (h : Win.atLeft tape = some w) :
    w.toTape = tape := by
  cases tape with
  | nil => cases h
  | cons c rest => cases h; rfl

theorem Win.atRight_toTape {tape : MTape} {w : Win} (h : Win.atRight tape = some w) :
    w.toTape = tape := by
  unfold Win.atRight at h
  split at h
  · cases h
  · next c rest hrev =>
    cases h
    rw [← List.reverse_reverse tape, hrev, List.reverse_cons]; rfl

section Loop

variable {σ : Type} {get : GetFn σ} {f : Slot → Res (Option Instr)}
  {IInv : σ → Prop} {LS LC : σ → Nat → Prop}

def SimPost (IInv : σ → Prop) (LS LC : σ → Nat → Prop) (n : Nat) (st : σ)
    (r : Option Config) (st' : σ) : Prop :=
  IInv st' ∧ Mono LS LC st st' ∧
    ∀ cfg, r = some cfg → LS st' cfg.1 ∧ cfg.2.2.length = n ∧ ∀ x ∈ cfg.2.2, LC st' x

theorem simLoop_pure (H : HistIndep get f IInv LS LC) (n : Nat) :
    ∀ (fuel : Nat) (st : σ) (state : Nat) (w : Win), IInv st → LS st state →
      TapeGood (LC st) n w.toTape →
      Agree (simLoop get fuel st state w) (simLoop (pureGet f) fuel () state w)
        (SimPost IInv LS LC n st) := by
  intro fuel
  induction fuel with
  | zero => exact fun st state w hi _ _ => ⟨st, rfl, hi, Mono.refl .., nofun⟩
  | succ fuel ih =>
    intro st state w hi hs hw
    have hstep := H.step st state w.scan hi hs (hw.2 _ w.scan_mem)
    unfold simLoop
    generalize pureGet f () (state, w.scan) = e at hstep ⊢
    match e, hstep with
    | .error err, hstep => rw [show get st _ = _ from hstep]; exact Agree.error rfl
    | .ok (none, _), ⟨st', hget, hi', hmono, _⟩ => rw [hget]; exact ⟨st', rfl, hi', hmono, nofun⟩
    | .ok (some instr, _), ⟨st', hget, hi', hmono, hans⟩ =>
      simp only [hget]
      obtain ⟨hlc, hls⟩ := hans _ _ _ rfl
      -- every cell written is the legal colour `instr.1`, every state entered the legal `instr.2.2`
      have hgood := simStep_all (P := fun q t => LS st' q ∧ TapeGood (LC st') n t) state w instr
        (fun _ _ _ _ _ hp h => by cases hp; exact ⟨hls, h.2.set hlc⟩)
        ⟨hmono.1 _ hs, hw.imp hmono.2⟩
      generalize simStep state w instr = r at hgood ⊢
      match r, hgood with
      | .exit (_, _, _), hgood => exact Agree.ok st' rfl ⟨hi', hmono, fun _ h => by cases h; exact hgood⟩
      | .cont state' w', ⟨hs', hw'⟩ =>
        exact (ih st' state' w' hi' hs' hw').imp fun _ _ ⟨h2, h3, h4⟩ => ⟨h2, hmono.trans h3, h4⟩

theorem runSimulator_pure (H : HistIndep get f IInv LS LC)
    (simLim : Nat) (st : σ) (cfg : Config) (hi : IInv st) (hs : LS st cfg.1)
    (ht : ∀ x ∈ cfg.2.2, LC st x) :
    Agree (runSimulator get simLim st cfg) (runSimulator (pureGet f) simLim () cfg)
      (SimPost IInv LS LC cfg.2.2.length st) := by
  obtain ⟨state, rightEdge, tape⟩ := cfg
  have hgood : ∀ w : Win, w.toTape = tape → TapeGood (LC st) tape.length w.toTape :=
    fun w hw => by rw [hw]; exact ⟨rfl, ht⟩
  cases rightEdge with
  | true =>
    simp only [runSimulator, if_true]
    cases hw : Win.atRight tape with
    | none => exact Agree.error rfl
    | some w => exact simLoop_pure H _ simLim st state w hi hs (hgood w (Win.atRight_toTape hw))
  | false =>
    simp only [runSimulator, Bool.false_eq_true, if_false]
    cases hw : Win.atLeft tape with
    | none =>
      simp only
      split
      · exact Agree.ok st rfl ⟨hi, Mono.refl .., nofun⟩
      · exact Agree.error rfl
    | some w => exact simLoop_pure H _ simLim st state w hi hs (hgood w (Win.atLeft_toTape hw))

end Loop

/-- number of cells of the simulated window: the block, or the back-span and the scanned cell -/
def LogicParams.window (lp : LogicParams) : Nat :=
  match lp.kind with
  | .block => lp.cells
  | .backsymbol => lp.cells + 1

theorem handedOut_iff {σ : Type} (m : MacroProg σ) (c : Nat) :
    handedOut m c = true ↔ ∃ t, m.logic.converter.colorToTapeCache.get c = some t := by
  unfold handedOut
  cases m.logic.converter.colorToTapeCache.get c <;> simp

theorem pow_pos' {b n : Nat} (hb : 0 < b) : 0 < b ^ n := Nat.pow_pos hb

/-- the block macro writes a macro state as `2 * s + bit`, the backsymbol macro as `bit + 2 * s` -/
theorem half_bit (b : Bool) (s : Nat) :
    (2 * s + if b then 0 else 1) / 2 = s ∧ ((if b then 1 else 0) + 2 * s) / 2 = s := by
  have h0 : (2 * s + 0) / 2 = s := Nat.mul_add_div (Nat.succ_pos 1) s 0
  have h1 : (2 * s + 1) / 2 = s := Nat.mul_add_div (Nat.succ_pos 1) s 1
  cases b
  · exact ⟨h1, Nat.add_comm .. ▸ h0⟩
  · exact ⟨h0, Nat.add_comm .. ▸ h1⟩

theorem splitAt_append (t u : MTape) : splitAt (t ++ u) t.length = .ok (t, u) := by
  rw [splitAt, if_neg (by rw [List.length_append]; omega), List.take_left', List.drop_left']
  all_goals rfl

theorem backsymbolSplit_snoc (t : MTape) (c : Nat) :
    backsymbolSplit t.length true (t ++ [c]) true = .ok (t, c) := by
  simp only [backsymbolSplit, if_true, Bool.not_true, Bool.false_and, Bool.false_eq_true, if_false,
    splitAt_append, head0]

theorem backsymbolSplit_cons (cells : Nat) (t : MTape) (c : Nat) (fixF3 : Bool) :
    backsymbolSplit cells false (c :: t) fixF3 = .ok (t, c) := by
  simp only [backsymbolSplit, Bool.false_eq_true, if_false,
    show splitAt (c :: t) 1 = .ok ([c], t) from splitAt_append [c] t, head0]

theorem backsymbolSplit_fix (cells : Nat) (shift : Bool) (tape : MTape)
    (hl : tape.length = cells + 1) :
    ∃ backspan mc, backsymbolSplit cells shift tape true = .ok (backspan, mc) ∧
      backspan.length = cells ∧ (∀ x ∈ backspan, x ∈ tape) ∧ mc ∈ tape := by
  cases shift with
  | true =>
    rcases List.eq_nil_or_concat tape with rfl | ⟨t, c, rfl⟩
    · cases hl
    · rw [List.concat_eq_append] at hl ⊢
      rw [List.length_append, List.length_singleton, Nat.add_right_cancel_iff] at hl
      subst hl
      exact ⟨t, c, backsymbolSplit_snoc t c, rfl, fun x hx => List.mem_append_left _ hx,
        List.mem_append_right _ (List.mem_singleton_self c)⟩
  | false =>
    cases tape with
    | nil => cases hl
    | cons c t =>
      exact ⟨t, c, backsymbolSplit_cons .., Nat.succ.inj hl, fun x hx => List.mem_cons_of_mem _ hx,
        List.mem_cons_self ..⟩

section Step

variable {σ : Type} {get : GetFn σ} {f : Slot → Res (Option Instr)}
  {IInv : σ → Prop} {LS LC : σ → Nat → Prop} {lp : LogicParams} {fixF3 : Bool}

theorem ownLegal_of_legal {m : MacroProg σ} (q c : Nat) (hq : MLS LS m q) (hc : MLC LC m c) :
    ownLegal m (q, c) = true := by
  unfold ownLegal slotColor
  unfold MLS at hq
  unfold MLC at hc
  split
  · rename_i hk; rw [hk] at hc; exact hc
  · rename_i hk; rw [hk] at hq; exact hq.1

theorem pureDeconstruct_ok (lp : LogicParams) (hb : 0 < lp.baseColors) (slot : Slot) :
    ∃ cfg, pureDeconstructInputs lp slot = .ok cfg ∧ cfg.2.2.length = lp.window := by
  unfold pureDeconstructInputs LogicParams.window
  cases lp.kind with
  | block => exact ⟨_, rfl, decode_length ..⟩
  | backsymbol =>
    have hbs : (lp.backsymbols == 0) = false := by
      have : 0 < lp.backsymbols := Nat.pow_pos hb
      simp only [beq_eq_false_iff_ne]; omega
    simp only [hbs, Bool.false_eq_true, if_false]
    refine ⟨_, rfl, ?_⟩
    split
    · simp only [List.length_cons, decode_length]
    · simp only [List.length_append, List.length_singleton, decode_length]

theorem deconstruct_pure {m : MacroProg σ} (hI : MInv f lp fixF3 IInv LS LC m)
    (hb : 0 < lp.baseColors) (q c : Nat) (hq : MLS LS m q) (hc : MLC LC m c) :
    ∃ cfg, m.logic.deconstructInputs (q, c) = .ok cfg ∧
      pureDeconstructInputs lp (q, c) = .ok cfg ∧ LS m.prog cfg.1 ∧
      ∀ x ∈ cfg.2.2, LC m.prog x := by
  have hp := hI.params
  -- the colour looked up is cached: its tape is the positional decoding, `cells` legal cells
  obtain ⟨t, ht⟩ := (handedOut_iff m _).1 (ownLegal_of_legal q c hq hc)
  have hdec := (hI.cache.decode ht).1
  have hmem := hI.cells _ t ht
  unfold MLS at hq
  unfold MLC at hc
  unfold slotColor at ht hdec
  unfold Logic.deconstructInputs pureDeconstructInputs
  rw [hp] at hq hc ht hdec ⊢
  cases hk : lp.kind with
  | block =>
    simp only [hk] at hq hc ht hdec ⊢
    refine ⟨(q / 2, (q % 2 == 1, t)), ?_, by rw [hdec], hq, hmem⟩
    simp only [blockDeconstructInputs, TapeColorConverter.colorToTape, ht]
  | backsymbol =>
    simp only [hk] at hq hc ht hdec ⊢
    have hbs : (lp.backsymbols == 0) = false := beq_false_of_ne (Nat.ne_of_gt (Nat.pow_pos hb))
    refine ⟨(q / 2 / lp.backsymbols, if q % 2 == 1 then (false, c :: t) else (true, t ++ [c])),
      ?_, ?_, hq.2, ?_⟩
    · simp only [backsymbolDeconstructInputs, hbs, Bool.false_eq_true, if_false,
        TapeColorConverter.colorToTape, ht]
    · simp only [hbs, Bool.false_eq_true, if_false, ← hdec]
    · split
      · exact List.forall_mem_cons.2 ⟨hc, hmem⟩
      · exact List.forall_mem_append.2 ⟨hmem, List.forall_mem_singleton.2 hc⟩

/-- `color_to_tape_cache[&color]` panics on a colour that is not a key -/
theorem Logic.deconstructInputs_panic (l : Logic) (slot : Slot)
    (h : l.converter.colorToTapeCache.get (slotColor l.params slot) = none) :
    l.deconstructInputs slot = .error .panic := by
  unfold Logic.deconstructInputs
  unfold slotColor at h
  cases hk : l.params.kind with
  | block =>
    simp only [hk] at h
    simp only [blockDeconstructInputs, TapeColorConverter.colorToTape, h]
  | backsymbol =>
    simp only [hk] at h
    simp only [backsymbolDeconstructInputs, TapeColorConverter.colorToTape, h, ite_self]

theorem reconstruct_pure {m : MacroProg σ} (hI : MInv f lp fixF3 IInv LS LC m)
    (hfix : lp.kind = .backsymbol → fixF3 = true) (st' : σ) (out : Config)
    (hs : LS st' out.1) (hlen : out.2.2.length = lp.window)
    (hcells : ∀ x ∈ out.2.2, LC st' x) (hrange : ∀ x ∈ out.2.2, x < lp.baseColors) :
    ∃ instr logic' t, m.logic.reconstructOutputs out fixF3 = .ok (instr, logic') ∧
      pureReconstructOutputs lp out fixF3 = .ok instr ∧ logic'.params = lp ∧
      CacheInv lp.baseColors lp.cells logic'.converter ∧ (∀ x ∈ t, LC st' x) ∧
      (∀ c, logic'.converter.colorToTapeCache.get c =
        if encode lp.baseColors t = c then some t else m.logic.converter.colorToTapeCache.get c) ∧
      ∀ ins : Prog, MLC LC ⟨st', logic', ins⟩ instr.1 ∧ MLS LS ⟨st', logic', ins⟩ instr.2.2 := by
  have hp := hI.params
  have hcache := hI.cache
  obtain ⟨state, rightEdge, tape⟩ := out
  obtain ⟨kind, cells, bstates, base⟩ := lp
  cases kind with
  | block =>
    obtain ⟨h1, h2, hupd⟩ := hcache.tapeToColor tape hlen hrange
    refine ⟨(encode base tape, rightEdge, 2 * state + (if rightEdge then 0 else 1)),
      { m.logic with converter := (m.logic.converter.tapeToColor tape).2 }, tape, ?_, rfl, hp, h2,
      hcells, hupd, fun ins => ⟨?_, ?_⟩⟩
    · simp only [Logic.reconstructOutputs, hp, blockReconstructOutputs, h1]
    · simp only [MLC, hp, handedOut, hupd, if_true, Option.isSome_some]
    · simp only [MLS, hp, (half_bit _ _).1]; exact hs
  | backsymbol =>
    cases hfix rfl
    obtain ⟨backspan, mc, hsplit, hbl, hbmem, hmc⟩ := backsymbolSplit_fix cells (!rightEdge) tape hlen
    have hbrange := fun x hx => hrange x (hbmem x hx)
    obtain ⟨h1, h2, hupd⟩ := hcache.tapeToColor backspan hbl hbrange
    have hbc : encode base backspan < base ^ cells := hbl ▸ (encode_lt_and_decode base backspan hbrange).1
    refine ⟨(mc, !rightEdge, (if (!rightEdge) = true then 1 else 0) +
        2 * (state * base ^ cells + encode base backspan)),
      { m.logic with converter := (m.logic.converter.tapeToColor backspan).2 }, backspan, ?_, ?_, hp,
      h2, fun x hx => hcells x (hbmem x hx), hupd, fun ins => ⟨?_, ?_⟩⟩
    · simp only [Logic.reconstructOutputs, hp, backsymbolReconstructOutputs, hsplit, h1,
        LogicParams.backsymbols]
    · simp only [pureReconstructOutputs, hsplit, LogicParams.backsymbols]
    · simp only [MLC, hp]; exact hcells mc hmc
    · obtain ⟨hd, hm⟩ := mul_add_div_mod (a := state) hbc
      simp only [MLS, hp, LogicParams.backsymbols, (half_bit _ _).2, hm, hd, handedOut, hupd, if_true,
        Option.isSome_some, true_and]
      exact hs

/-- `m'` has the parameters of `m`, all its handed-out colours, and a later inner state -/
def Ext (LS LC : σ → Nat → Prop) (m m' : MacroProg σ) : Prop :=
  m'.logic.params = m.logic.params ∧ (∀ c, handedOut m c = true → handedOut m' c = true) ∧
    Mono LS LC m.prog m'.prog

theorem Ext.mono {m m' : MacroProg σ} (h : Ext LS LC m m') : Mono (MLS LS) (MLC LC) m m' := by
  obtain ⟨hp, hk, hm⟩ := h
  constructor
  · intro q hq
    unfold MLS at hq ⊢
    rw [hp]
    split at hq
    · exact hm.1 _ hq
    · exact ⟨hk _ hq.1, hm.1 _ hq.2⟩
  · intro c hc
    unfold MLC at hc ⊢
    rw [hp]
    split at hc
    · exact hk _ hc
    · exact hm.2 _ hc

theorem Ext.own {m m' : MacroProg σ} (h : Ext LS LC m m') (slot : Slot)
    (hl : ownLegal m slot = true) : ownLegal m' slot = true := by
  unfold ownLegal at hl ⊢
  rw [h.1]; exact h.2.1 _ hl

theorem MInv.memo_ext {m m' : MacroProg σ} (hI : MInv f lp fixF3 IInv LS LC m)
    (h : Ext LS LC m m') (slot : Slot) (instr : Instr) (hg : m.instrs.get slot = some instr) :
    pureInstr f lp fixF3 slot = .ok (some instr) ∧ ownLegal m' slot = true ∧
      MLC LC m' instr.1 ∧ MLS LS m' instr.2.2 := by
  obtain ⟨h1, h2, h3, h4⟩ := hI.memo slot instr hg
  exact ⟨h1, h.own slot h2, h.mono.2 _ h3, h.mono.1 _ h4⟩

theorem macro_step (H : HistIndep get f IInv LS LC)
    (hbound : ∀ st c, IInv st → LC st c → c < lp.baseColors) (hb : 0 < lp.baseColors)
    (hfix : lp.kind = .backsymbol → fixF3 = true)
    {m : MacroProg σ} (hI : MInv f lp fixF3 IInv LS LC m) (q c : Nat)
    (hq : MLS LS m q) (hc : MLC LC m c) :
    Agree (MacroProg.getInstr get m (q, c) fixF3) (pureGet (pureInstr f lp fixF3) () (q, c))
      (fun a m' => MInv f lp fixF3 IInv LS LC m' ∧ Ext LS LC m m' ∧
        AnsLegal (MLS LS) (MLC LC) m' a) := by
  have hp := hI.params
  cases hmemo : m.instrs.get (q, c) with
  | some instr =>
    obtain ⟨hpure, _, hlc, hls⟩ := hI.memo _ _ hmemo
    simp only [pureGet, hpure]
    refine Agree.ok m (by simp only [MacroProg.getInstr, hmemo]) ⟨hI, ⟨rfl, fun _ h => h, Mono.refl ..⟩, ?_⟩
    intro pr sh nx h; cases h; exact ⟨hlc, hls⟩
  | none =>
    obtain ⟨cfg, hdec, hpdec, hcs, hccells⟩ := deconstruct_pure hI hb q c hq hc
    obtain ⟨_, hpdec', hclen⟩ := pureDeconstruct_ok lp hb (q, c)
    cases hpdec.symm.trans hpdec'
    have hrun := runSimulator_pure H lp.simLim m.prog cfg hI.inner hcs hccells
    cases hpr : runSimulator (pureGet f) lp.simLim () cfg with
    | error e =>
      rw [hpr] at hrun
      have hrun' : runSimulator get lp.simLim m.prog cfg = .error e := hrun
      simp only [pureGet, pureInstr, hpdec, hpr]
      refine Agree.error ?_
      simp only [MacroProg.getInstr, hmemo, MacroProg.calculateInstr, hdec, hp, hrun']
    | ok pr =>
      rcases pr with ⟨r, u⟩
      rw [hpr] at hrun
      obtain ⟨st', hrun', hi', hmono, hpost⟩ := hrun
      cases r with
      | none =>
        simp only [pureGet, pureInstr, hpdec, hpr]
        have hext : Ext LS LC m { m with prog := st', logic := m.logic } :=
          ⟨rfl, fun _ h => h, hmono⟩
        refine Agree.ok { m with prog := st', logic := m.logic } ?_ ⟨?_, hext, ?_⟩
        · simp only [MacroProg.getInstr, hmemo, MacroProg.calculateInstr, hdec, hp, hrun']
        · exact ⟨hp, hi', hI.cache, fun c t h x hx => hmono.2 x (hI.cells c t h x hx),
            fun slot instr hg => hI.memo_ext hext slot instr hg⟩
        · intro pr sh nx h; cases h
      | some out =>
        obtain ⟨hos, holen, hocells⟩ := hpost out rfl
        rw [hclen] at holen
        obtain ⟨instr, logic', t, hrec, hprec, hp', hcache', ht, hupd, hans⟩ :=
          reconstruct_pure hI hfix st' out hos holen hocells
            (fun x hx => hbound st' x hi' (hocells x hx))
        simp only [pureGet, pureInstr, hpdec, hpr, hprec]
        have hext : Ext LS LC m ⟨st', logic', m.instrs.insert (q, c) instr⟩ :=
          ⟨by rw [hp', hp], fun c h => by unfold handedOut at h ⊢; rw [hupd]; split; rfl; exact h,
            hmono⟩
        refine Agree.ok ⟨st', logic', m.instrs.insert (q, c) instr⟩ ?_ ⟨?_, hext, ?_⟩
        · simp only [MacroProg.getInstr, hmemo, MacroProg.calculateInstr, hdec, hp, hrun', hrec]
        · refine ⟨hp', hi', hcache', ?_, ?_⟩
          · intro c' t' h x hx
            rw [hupd] at h
            split at h
            · cases h; exact ht x hx
            · exact hmono.2 x (hI.cells c' t' h x hx)
          · intro slot i hg
            by_cases hsl : (q, c) = slot
            · subst hsl
              rw [Tree.Prog.get_insert_self] at hg
              cases hg
              refine ⟨?_, hext.own _ (ownLegal_of_legal q c hq hc), (hans _).1, (hans _).2⟩
              simp only [pureInstr, hpdec, hpr, hprec]
            · rw [Tree.Prog.get_insert_ne _ _ _ _ hsl] at hg
              exact hI.memo_ext hext slot i hg
        · intro pr sh nx h; cases h; exact hans _

end Step

end BB.Macros
