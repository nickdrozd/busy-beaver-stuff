/-
Monotonicity in the cycle limit of `quick_term_or_rec` (part of C15).
-/
import BB.Model.Machine

namespace BB

theorem recLoop_mono (p : Prog) {fuel fuel' cycle : Nat} {s : RState}
    (hne : recLoop p fuel cycle s ≠ .limit) (hle : fuel ≤ fuel') :
    recLoop p fuel' cycle s = recLoop p fuel cycle s := by
  induction fuel generalizing fuel' cycle s with
  | zero => exact absurd rfl hne
  | succ n ih =>
    cases fuel' with
    | zero => exact absurd hle (Nat.not_succ_le_zero n)
    | succ m =>
      simp only [recLoop] at hne ⊢
      cases hi : recIter p cycle s with
      | inl res => rfl
      | inr s' => rw [hi] at hne; exact ih hne (Nat.le_of_succ_le_succ hle)

end BB
