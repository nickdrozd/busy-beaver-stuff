/-
Helper lemmas for C03 (last section): the tape printer `Tape.show` (BB/Model/Tape.lean) and the
tape parser `Tape.parse` (BB/Model/Validate.lean) are inverse to each other.

Everything is done on `List Char`: `D n` is the decimal digit list of `n` (what `toString n` prints),
`blockTok b` / `scanTok s` are the tokens of a block / of the scanned cell, and the printed tape is
`joinWith [' ']` of the tokens, which `splitOne` takes apart again (BB/Lemmas/Parse.lean).
-/
import BB.Model.Validate
import BB.Lemmas.Parse

namespace BB
namespace TapeParse

/-- the characters `toString n` prints -/
abbrev D (n : Nat) : List Char := Nat.toDigits 10 n

theorem toString_toList (n : Nat) : (toString n).toList = D n := by
  simp only [Nat.toString_eq_repr, Nat.toList_repr]

theorem D_ne_nil (n : Nat) : D n ≠ [] := Nat.toDigits_ne_nil

theorem D_isDigit (n : Nat) : ∀ c ∈ D n, c.isDigit = true :=
  fun _ hc => Nat.isDigit_of_mem_toDigits (by decide) (by decide) hc

theorem D_ne {n : Nat} {c x : Char} (hc : c ∈ D n) (hx : x.isDigit = false) : c ≠ x := by
  rintro rfl
  rw [D_isDigit n c hc] at hx
  cases hx

theorem D_bne {n : Nat} {x : Char} (hx : x.isDigit = false) : ∀ c ∈ D n, (c != x) = true :=
  fun _ hc => bne_iff_ne.2 (D_ne hc hx)

theorem foldl_eq_ofDigitChars (l : List Char) (init : Nat) :
    l.foldl (fun acc c => acc * 10 + (c.toNat - 48)) init = Nat.ofDigitChars 10 l init := by
  induction l generalizing init with
  | nil => rfl
  | cons c cs ih =>
    rw [List.foldl_cons, ih, Nat.ofDigitChars_cons, Nat.mul_comm]
    rfl

theorem parseNat_D (n : Nat) : parseNat? (D n) = some n := by
  have hne : (D n).isEmpty = false := by
    cases h : D n with
    | nil => exact absurd h (D_ne_nil n)
    | cons _ _ => rfl
  have hall : (D n).all Char.isDigit = true := List.all_eq_true.mpr (D_isDigit n)
  simp only [parseNat?, hne, hall, Bool.not_true, Bool.or_self, Bool.false_eq_true, if_false]
  rw [foldl_eq_ofDigitChars, Nat.ofDigitChars_ten_toDigits]

theorem span_loop_append {α : Type} {p : α → Bool} (l r acc : List α) (h : ∀ c ∈ l, p c = true) :
    List.span.loop p (l ++ r) acc = List.span.loop p r (l.reverse ++ acc) := by
  induction l generalizing acc with
  | nil => rfl
  | cons a l ih =>
    rw [List.cons_append, List.span.loop, h a List.mem_cons_self,
      ih _ fun c hc => h c (List.mem_cons_of_mem _ hc), List.reverse_cons, List.append_assoc]
    rfl

theorem span_all {α : Type} {p : α → Bool} (l : List α) (h : ∀ c ∈ l, p c = true) :
    l.span p = (l, []) := by
  have := span_loop_append l [] [] h
  rw [List.append_nil] at this
  rw [List.span, this, List.span.loop, List.append_nil, List.reverse_reverse]

theorem span_stop {α : Type} {p : α → Bool} (l r : List α) (x : α) (h : ∀ c ∈ l, p c = true)
    (hx : p x = false) : (l ++ x :: r).span p = (l, x :: r) := by
  rw [List.span, span_loop_append l _ [] h, List.span.loop, hx, List.append_nil,
    List.reverse_reverse]

/-- what `Block.show` puts after the colour -/
def countTok (k : Nat) : List Char :=
  if k == 1 then [] else if k == 0 then ['.', '.'] else '^' :: D k

/-- the characters of `Block.show b` -/
def blockTok (b : Block) : List Char := D b.color ++ countTok b.count

/-- the characters of the scan token `[s]` -/
def scanTok (s : Nat) : List Char := '[' :: (D s ++ [']'])

theorem Block_show_toList (b : Block) : (Block.show b).toList = blockTok b := by
  unfold Block.show blockTok countTok
  split
  · rw [toString_toList, List.append_nil]
  · split
    · rw [String.toList_append, toString_toList]; rfl
    · rw [String.toList_append, String.toList_append, toString_toList, toString_toList,
        List.append_assoc]
      rfl

theorem scan_show_toList (s : Nat) : ("[" ++ toString s ++ "]").toList = scanTok s := by
  rw [String.toList_append, String.toList_append, toString_toList]
  rfl

theorem parseBlock_plain (co : Nat) : parseBlock (D co) = some ⟨co, 1⟩ := by
  unfold parseBlock
  rw [span_all _ (D_bne (by decide))]
  have hdd : ((D co).drop ((D co).length - 2) == ['.', '.']) = false := by
    apply Bool.eq_false_iff.mpr
    intro h
    have hm : '.' ∈ (D co).drop ((D co).length - 2) := by
      rw [eq_of_beq h]; exact List.mem_cons_self
    exact D_ne (List.mem_of_mem_drop hm) (by decide) rfl
  simp only [hdd, Bool.and_false, Bool.false_eq_true, if_false, parseNat_D, Option.map_some]

theorem parseBlock_dots (co : Nat) : parseBlock (D co ++ ['.', '.']) = some ⟨co, 0⟩ := by
  have hall : ∀ c ∈ D co ++ ['.', '.'], (c != '^') = true := by
    intro c hc
    rcases List.mem_append.mp hc with hc | hc
    · exact D_bne (by decide) c hc
    · simp only [List.mem_cons, List.not_mem_nil, or_false] at hc
      rcases hc with rfl | rfl <;> decide
  have hpos : 0 < (D co).length := List.length_pos_iff.mpr (D_ne_nil co)
  unfold parseBlock
  rw [span_all _ hall]
  simp only
  rw [List.length_append, show ['.', '.'].length = 2 from rfl, Nat.add_sub_cancel, List.drop_left,
    List.take_left, decide_eq_true (Nat.lt_add_of_pos_left hpos)]
  simp only [BEq.rfl, Bool.and_self, if_true, parseNat_D, Option.map_some]

theorem parseBlock_caret (co k : Nat) : parseBlock (D co ++ '^' :: D k) = some ⟨co, k⟩ := by
  unfold parseBlock
  rw [span_stop _ _ _ (D_bne (by decide)) (by decide)]
  simp only [parseNat_D]

theorem parseBlock_blockTok (b : Block) : parseBlock (blockTok b) = some b := by
  obtain ⟨co, k⟩ := b
  unfold blockTok countTok
  simp only
  split
  · next h => rw [List.append_nil, parseBlock_plain, eq_of_beq h]
  · split
    · next h => rw [parseBlock_dots, eq_of_beq h]
    · exact parseBlock_caret co k

theorem blockTok_head (b : Block) : ∃ d rest, blockTok b = d :: rest ∧ d ≠ '[' := by
  unfold blockTok
  cases h : D b.color with
  | nil => exact absurd h (D_ne_nil _)
  | cons d ds =>
    exact ⟨d, ds ++ countTok b.count, rfl, D_ne (n := b.color) (h ▸ List.mem_cons_self) (by decide)⟩

theorem blockTok_no_blank (b : Block) : ∀ ch ∈ blockTok b, ch ≠ ' ' := by
  intro ch hc
  rcases List.mem_append.mp hc with hc | hc
  · exact D_ne hc (by decide)
  · unfold countTok at hc
    split at hc
    · cases hc
    · split at hc
      · simp only [List.mem_cons, List.not_mem_nil, or_false] at hc
        rcases hc with rfl | rfl <;> decide
      · rcases List.mem_cons.mp hc with rfl | hc
        · decide
        · exact D_ne hc (by decide)

theorem scanTok_no_blank (s : Nat) : ∀ ch ∈ scanTok s, ch ≠ ' ' := by
  intro ch hc
  rcases List.mem_cons.mp hc with rfl | hc
  · decide
  · rcases List.mem_append.mp hc with hc | hc
    · exact D_ne hc (by decide)
    · rw [List.mem_singleton.mp hc]
      decide

theorem parseBlocks_map (r : List Block) : parseBlocks (r.map blockTok) = some r := by
  induction r with
  | nil => rfl
  | cons b bs ih => simp only [List.map_cons, parseBlocks, parseBlock_blockTok, ih]

theorem parseTapeToks_scan (s : Nat) (rest : List (List Char)) (acc : List Block) :
    parseTapeToks (scanTok s :: rest) acc = some (acc, s, rest) := by
  have htw : (D s ++ [']']).takeWhile (· != ']') = D s := by
    rw [List.takeWhile_append_of_pos (D_bne (by decide)), List.takeWhile_cons_of_neg (by decide),
      List.append_nil]
  simp only [scanTok, parseTapeToks, htw, parseNat_D]

theorem parseTapeToks_block (b : Block) (rest : List (List Char)) (acc : List Block) :
    parseTapeToks (blockTok b :: rest) acc = parseTapeToks rest (b :: acc) := by
  obtain ⟨d, tl, htok, hd⟩ := blockTok_head b
  have hp := parseBlock_blockTok b
  rw [htok] at hp ⊢
  rw [parseTapeToks]
  · simp only [hp]
  · intro inner heq
    exact hd (List.cons.inj heq).1

theorem parseTapeToks_left (l : List Block) (s : Nat) (rest : List (List Char))
    (acc : List Block) :
    parseTapeToks (l.map blockTok ++ scanTok s :: rest) acc = some (l.reverse ++ acc, s, rest) := by
  induction l generalizing acc with
  | nil => simp only [List.map_nil, List.nil_append, List.reverse_nil, parseTapeToks_scan]
  | cons b bs ih =>
    rw [List.map_cons, List.cons_append, parseTapeToks_block, ih]
    simp only [List.reverse_cons, List.append_assoc, List.singleton_append]

/-- the tokens of a tape, in printing order -/
def tapeToks (t : Tape) : List (List Char) :=
  t.lspan.reverse.map blockTok ++ scanTok t.scan :: t.rspan.map blockTok

theorem joinWith_eq_intercalate (toks : List (List Char)) :
    joinWith [' '] toks = [' '].intercalate toks := by
  induction toks with
  | nil => rfl
  | cons x xs ih =>
    cases xs with
    | nil => simp only [joinWith, List.intercalate_singleton]
    | cons y ys => rw [Parse.joinWith_cons_cons, ih, List.intercalate_cons_cons]

theorem Tape_show_toList (t : Tape) : t.show.toList = joinWith [' '] (tapeToks t) := by
  rw [joinWith_eq_intercalate, Tape.show, String.toList_intercalate]
  congr 1
  have hf : String.toList ∘ Block.show = blockTok := funext Block_show_toList
  simp only [tapeToks, List.map_append, List.map_reverse, List.map_map, List.map_cons,
    scan_show_toList, List.append_assoc, List.singleton_append, hf]

theorem splitOne_show (t : Tape) : splitOne t.show.toList = tapeToks t := by
  rw [Tape_show_toList]
  apply Parse.splitOne_joinWith
  · simp only [tapeToks, ne_eq, List.append_eq_nil_iff, reduceCtorEq, and_false, not_false_eq_true]
  · intro tok htok
    simp only [tapeToks, List.mem_append, List.mem_map, List.mem_cons] at htok
    rcases htok with ⟨b, _, rfl⟩ | rfl | ⟨b, _, rfl⟩
    · exact blockTok_no_blank b
    · exact scanTok_no_blank _
    · exact blockTok_no_blank b

end TapeParse
end BB
