/-
C16 — lazily compiled macro programs are history-independent.
The definitions the C16 statements are made of (invariants, legality of queries, the abstract notion
"history-independent stateful program"), and the two association-list caches of the
`TapeColorConverter` with their invariant `CacheInv`.
-/
import BB.Lemmas.Positional
import BB.Lemmas.MonoBase

namespace BB.Macros

/-- The base table as a stateless program (`pureChain p params fix []`). -/
def progFn (p : Prog) : Slot → Res (Option Instr) := fun s => .ok (p.get s)

/-- Every instruction the (stateless) inner program can answer prints a colour below `base`.
    Without this, `encode` is not injective on the tapes the simulator produces and two different
    tapes are handed the same macro colour (see `get_instr_bigcolor_witness`). -/
def ColorsLt (f : Slot → Res (Option Instr)) (base : Nat) : Prop :=
  ∀ s pr sh nx, f s = .ok (some (pr, sh, nx)) → pr < base

/-- decidable form of `ColorsLt (progFn p) base` -/
def progColorsLt (p : Prog) (base : Nat) : Bool := p.all fun kv => decide (kv.2.1 < base)

/-- The two caches of a `TapeColorConverter` are pieces of the graph of the positional code on
    tapes of length `cells` with entries `< base`, and are inverse to each other. -/
structure CacheInv (base cells : Nat) (cv : TapeColorConverter) : Prop where
  base_eq : cv.baseColors = base
  /-- colour 0 is always present and is the blank block -/
  zero : cv.colorToTapeCache.get 0 = some (List.replicate cells 0)
  /-- `color_to_tape` ⊆ graph of `decode` (see `CacheInv.decode`) -/
  c2t : ∀ c t, cv.colorToTapeCache.get c = some t →
    t.length = cells ∧ (∀ x ∈ t, x < base) ∧ encode base t = c
  /-- `tape_to_color` ⊆ inverse of `color_to_tape` (hence ⊆ graph of `encode`) -/
  t2c : ∀ t c, cv.tapeToColorCache.get t = some c → cv.colorToTapeCache.get c = some t
  /-- and conversely, except for the initial entry `0 ↦ blank` -/
  c2t_t2c : ∀ c t, cv.colorToTapeCache.get c = some t →
    c = 0 ∨ cv.tapeToColorCache.get t = some c

/-- "`color` was handed out by this object" (or is 0): it is a key of `color_to_tape_cache`. -/
def handedOut {σ : Type} (m : MacroProg σ) (color : Nat) : Bool :=
  (m.logic.converter.colorToTapeCache.get color).isSome

/-- The macro colour that `deconstruct_inputs` looks up for a slot. -/
def slotColor (lp : LogicParams) (slot : Slot) : Nat :=
  match lp.kind with
  | .block => slot.2
  | .backsymbol => slot.1 / 2 % lp.backsymbols

/-- The colour that `get_instr slot` will look up was handed out by this object (or is 0).
    When this is `false` the real code panics (`get_instr_not_handed_out_panics`). -/
def ownLegal {σ : Type} (m : MacroProg σ) (slot : Slot) : Bool :=
  handedOut m (slotColor m.logic.params slot)

/-- Legality of a query to a macro over a BASE program: the looked-up colour was handed out,
    and, for the backsymbol macro, the scanned colour is a base colour. -/
def slotLegal {σ : Type} (m : MacroProg σ) (slot : Slot) : Bool :=
  ownLegal m slot &&
    (match m.logic.params.kind with
     | .block => true
     | .backsymbol => decide (slot.2 < m.logic.params.baseColors))

/-- Every slot of the sequence is legal (`legal`) in the state in which it is queried.
    (After an error nothing more is queried.) -/
def legalSeq {σ : Type} (get : GetFn σ) (legal : σ → Slot → Bool) : σ → List Slot → Bool
  | _, [] => true
  | st, s :: rest =>
    legal st s &&
      match get st s with
      | .error _ => true
      | .ok (_, st') => legalSeq get legal st' rest

/-- the answers of a run of `getInstrs`, the final state forgotten -/
def answers {σ : Type} (r : Res (List (Option Instr) × σ)) : Res (List (Option Instr)) :=
  match r with
  | .error e => .error e
  | .ok (as, _) => .ok as

/-- The stateless reference: the answers `f` gives to the slots, up to the first error. -/
def pureAnswers (f : Slot → Res (Option Instr)) (slots : List Slot) : Res (List (Option Instr)) :=
  answers (getInstrs (pureGet f) () slots)

/-! ### History-independent stateful programs (for nesting)

`HistIndep get f Inv LS LC`: in every state satisfying `Inv`, a query `(q, c)` whose state `q` is
legal (`LS st q`) and whose colour `c` is legal (`LC st c`) is answered exactly as the stateless
function `f` answers it (errors included); the new state satisfies `Inv` again, legal states and
colours stay legal, and the colour printed and the state entered by the answer are legal. -/

/-- legal states / colours of `st` are legal in `st'` -/
def Mono {σ : Type} (LS LC : σ → Nat → Prop) (st st' : σ) : Prop :=
  (∀ q, LS st q → LS st' q) ∧ (∀ c, LC st c → LC st' c)

/-- `r` is `e` plus some new state `st'` with `Q a st'` (errors agree exactly). -/
def Agree {α τ σ : Type} (r : Res (α × σ)) (e : Res (α × τ)) (Q : α → σ → Prop) : Prop :=
  match e with
  | .error err => r = .error err
  | .ok (a, _) => ∃ st', r = .ok (a, st') ∧ Q a st'

/-- the instruction `a` prints a legal colour and enters a legal state -/
def AnsLegal {σ : Type} (LS LC : σ → Nat → Prop) (st : σ) (a : Option Instr) : Prop :=
  ∀ pr sh nx, a = some (pr, sh, nx) → LC st pr ∧ LS st nx

structure HistIndep {σ : Type} (get : GetFn σ) (f : Slot → Res (Option Instr))
    (Inv : σ → Prop) (LS LC : σ → Nat → Prop) : Prop where
  /-- state 0 and colour 0 are always legal -/
  zero : ∀ st, Inv st → LS st 0 ∧ LC st 0
  step : ∀ st q c, Inv st → LS st q → LC st c →
    Agree (get st (q, c)) (pureGet f () (q, c))
      (fun a st' => Inv st' ∧ Mono LS LC st st' ∧ AnsLegal LS LC st' a)

/-- legal macro states of a macro object, given the legal states of the inner program -/
def MLS {σ : Type} (LS : σ → Nat → Prop) (m : MacroProg σ) (q : Nat) : Prop :=
  match m.logic.params.kind with
  | .block => LS m.prog (q / 2)
  | .backsymbol =>
    handedOut m (q / 2 % m.logic.params.backsymbols) = true ∧
      LS m.prog (q / 2 / m.logic.params.backsymbols)

/-- legal macro colours of a macro object, given the legal colours of the inner program -/
def MLC {σ : Type} (LC : σ → Nat → Prop) (m : MacroProg σ) (c : Nat) : Prop :=
  match m.logic.params.kind with
  | .block => handedOut m c = true
  | .backsymbol => LC m.prog c

/-- **The invariant** of a macro object with parameters `lp` over an inner program that is
    history-independent with stateless answers `f` (`IInv`, `LS`, `LC`: invariant and legal
    states/colours of the inner program; all `True` for a base table). -/
structure MInv {σ : Type} (f : Slot → Res (Option Instr)) (lp : LogicParams) (fixF3 : Bool)
    (IInv : σ → Prop) (LS LC : σ → Nat → Prop) (m : MacroProg σ) : Prop where
  params : m.logic.params = lp
  inner : IInv m.prog
  cache : CacheInv lp.baseColors lp.cells m.logic.converter
  /-- cells of cached tapes are legal colours of the inner program -/
  cells : ∀ c t, m.logic.converter.colorToTapeCache.get c = some t → ∀ x ∈ t, LC m.prog x
  /-- the memo table ⊆ graph of `pureInstr`; memoised slots looked up a handed-out colour;
      memoised answers are legal -/
  memo : ∀ slot instr, m.instrs.get slot = some instr →
    pureInstr f lp fixF3 slot = .ok (some instr) ∧ ownLegal m slot = true ∧
      MLC LC m instr.1 ∧ MLS LS m instr.2.2

/-- trivial invariant / legality of a stateless inner program -/
abbrev TrueInv {σ : Type} : σ → Prop := fun _ => True
abbrev TrueLeg {σ : Type} : σ → Nat → Prop := fun _ _ => True
/-- the legal colours of a base program with `base` colours -/
abbrev LtLeg {σ : Type} (base : Nat) : σ → Nat → Prop := fun _ c => c < base

/-- The invariant of a macro object over a base table `p` (the inner "state" is the
    table itself and never changes; every state is legal; the legal colours are `< baseColors`). -/
abbrev Inv (p : Prog) (lp : LogicParams) (fixF3 : Bool) (m : MacroProg Prog) : Prop :=
  MInv (progFn p) lp fixF3 (fun st => st = p) TrueLeg (LtLeg lp.baseColors) m

theorem Agree.error {α τ σ : Type} {r : Res (α × σ)} {err : Err} {Q : α → σ → Prop}
    (h : r = .error err) : Agree r (.error err : Res (α × τ)) Q := h

theorem Agree.ok {α τ σ : Type} {r : Res (α × σ)} {a : α} {u : τ} {Q : α → σ → Prop}
    (st' : σ) (h : r = .ok (a, st')) (hq : Q a st') : Agree r (.ok (a, u) : Res (α × τ)) Q :=
  ⟨st', h, hq⟩

theorem Agree.imp {α τ σ : Type} {r : Res (α × σ)} {e : Res (α × τ)} {Q Q' : α → σ → Prop}
    (h : Agree r e Q) (himp : ∀ a st, Q a st → Q' a st) : Agree r e Q' :=
  match e, h with
  | .error _, h => h
  | .ok (_, _), ⟨st', h1, h2⟩ => ⟨st', h1, himp _ _ h2⟩

theorem Agree.of_ok {α τ σ : Type} {r : Res (α × σ)} {e : Res (α × τ)} {Q : α → σ → Prop}
    (h : Agree r e Q) {a : α} {st' : σ} (hr : r = .ok (a, st')) : ∃ u, e = .ok (a, u) ∧ Q a st' := by
  cases e with
  | error err => rw [show r = .error err from h] at hr; cases hr
  | ok x =>
    obtain ⟨a0, u⟩ := x
    obtain ⟨st0, h1, h2⟩ := h
    rw [h1] at hr
    cases hr
    exact ⟨u, rfl, h2⟩

theorem Mono.refl {σ : Type} (LS LC : σ → Nat → Prop) (st : σ) : Mono LS LC st st :=
  ⟨fun _ h => h, fun _ h => h⟩

theorem Mono.trans {σ : Type} {LS LC : σ → Nat → Prop} {a b c : σ} (h1 : Mono LS LC a b)
    (h2 : Mono LS LC b c) : Mono LS LC a c :=
  ⟨fun q h => h2.1 q (h1.1 q h), fun q h => h2.2 q (h1.2 q h)⟩

theorem pureGet_ok {f : Slot → Res (Option Instr)} {s : Slot} {a : Option Instr} {u : Unit}
    (h : pureGet f () s = .ok (a, u)) : f s = .ok a := by
  simp only [pureGet] at h
  split at h
  · cases h
  · cases h; assumption

theorem ColorToTape.get_cons (k : Nat) (v : MTape) (m : ColorToTape) (c : Nat) :
    ColorToTape.get ((k, v) :: m) c = if k = c then some v else m.get c := by
  simp only [ColorToTape.get, beq_iff_eq]

theorem ColorToTape.get_insert (m : ColorToTape) (c c' : Nat) (t : MTape) :
    (m.insert c t).get c' = if c = c' then some t else m.get c' := by
  induction m with
  | nil => rw [ColorToTape.insert, get_cons]
  | cons kv rest ih =>
    obtain ⟨k, v⟩ := kv
    rw [ColorToTape.insert]
    split
    next h =>
      rw [get_cons, get_cons, beq_iff_eq.1 h]
      split <;> rfl
    · split
      · rw [get_cons]
      next h _ =>
        rw [get_cons, get_cons, ih]
        split
        next hk => rw [if_neg fun e => h (beq_iff_eq.2 (hk.trans e.symm))]
        · rfl

theorem tapeCmp_eq_iff (a b : MTape) : tapeCmp a b = .eq ↔ a = b := by
  induction a generalizing b with
  | nil => cases b <;> simp only [tapeCmp, reduceCtorEq]
  | cons x a ih =>
    cases b with
    | nil => simp only [tapeCmp, reduceCtorEq]
    | cons y b =>
      rw [tapeCmp, List.cons.injEq, ← ih]
      rcases Nat.lt_trichotomy x y with h | h | h
      · rw [if_pos h]; exact ⟨nofun, fun e => absurd e.1 (Nat.ne_of_lt h)⟩
      · rw [h, if_neg (Nat.lt_irrefl y), if_neg (Nat.lt_irrefl y)]; exact ⟨fun e => ⟨rfl, e⟩, (·.2)⟩
      · rw [if_neg (Nat.lt_asymm h), if_pos h]; exact ⟨nofun, fun e => absurd e.1.symm (Nat.ne_of_lt h)⟩

theorem TapeToColor.get_cons (k : MTape) (v : Nat) (m : TapeToColor) (t : MTape) :
    TapeToColor.get ((k, v) :: m) t = if k = t then some v else m.get t := by
  simp only [TapeToColor.get, beq_iff_eq]

theorem TapeToColor.get_insert (m : TapeToColor) (t t' : MTape) (c : Nat) :
    (m.insert t c).get t' = if t = t' then some c else m.get t' := by
  induction m with
  | nil => rw [TapeToColor.insert, get_cons]
  | cons kv rest ih =>
    obtain ⟨k, v⟩ := kv
    rw [TapeToColor.insert]
    split
    next h =>
      rw [get_cons, get_cons, ← (tapeCmp_eq_iff t k).1 h]
      split <;> rfl
    · rw [get_cons]
    next h =>
      rw [get_cons, get_cons, ih]
      split
      next hk =>
        rw [if_neg fun e => by rw [(tapeCmp_eq_iff t k).2 (e.trans hk.symm)] at h; cases h]
      · rfl

theorem CacheInv.new (base cells : Nat) (hb : 0 < base) :
    CacheInv base cells (TapeColorConverter.new base cells) := by
  -- the only entry is `0 ↦ blank`
  have hget : ∀ c t, (TapeColorConverter.new base cells).colorToTapeCache.get c = some t →
      c = 0 ∧ t = List.replicate cells 0 := by
    intro c t h
    simp only [TapeColorConverter.new, ColorToTape.get] at h
    split at h
    next hc => exact ⟨(beq_iff_eq.1 hc).symm, (Option.some.inj h).symm⟩
    · cases h
  refine ⟨rfl, rfl, ?_, nofun, fun c t h => Or.inl (hget c t h).1⟩
  intro c t h
  obtain ⟨rfl, rfl⟩ := hget c t h
  exact ⟨List.length_replicate, fun x hx => List.eq_of_mem_replicate hx ▸ hb,
    encode_replicate_zero ..⟩

theorem CacheInv.decode {base cells : Nat} {cv : TapeColorConverter} (h : CacheInv base cells cv)
    {c : Nat} {t : MTape} (hc : cv.colorToTapeCache.get c = some t) :
    t = decode base cells c ∧ c < base ^ cells := by
  obtain ⟨hl, hr, he⟩ := h.c2t c t hc
  obtain ⟨hlt, hdec⟩ := encode_lt_and_decode base t hr
  rw [he, hl] at hlt hdec
  exact ⟨hdec.symm, hlt⟩

theorem CacheInv.tapeToColor {base cells : Nat} {cv : TapeColorConverter}
    (h : CacheInv base cells cv) (t : MTape) (hl : t.length = cells) (hr : ∀ x ∈ t, x < base) :
    (cv.tapeToColor t).1 = encode base t ∧ CacheInv base cells (cv.tapeToColor t).2 ∧
    ∀ c, (cv.tapeToColor t).2.colorToTapeCache.get c =
      if encode base t = c then some t else cv.colorToTapeCache.get c := by
  -- a cached tape with the colour of `t` is `t`
  have inj : ∀ c t', cv.colorToTapeCache.get c = some t' → encode base t = c → t = t' := by
    intro c t' hc he
    obtain ⟨hl', hr', he'⟩ := h.c2t c t' hc
    exact encode_inj base t t' (hl.trans hl'.symm) hr hr' (he.trans he'.symm)
  cases hget : cv.tapeToColorCache.get t with
  | some color =>
    have h1 := h.t2c t color hget
    have h2 := (h.c2t color t h1).2.2
    simp only [TapeColorConverter.tapeToColor, hget]
    refine ⟨h2.symm, h, fun c => ?_⟩
    split
    next hc => rw [← hc, h2]; exact h1
    · rfl
  | none =>
    simp only [TapeColorConverter.tapeToColor, hget, h.base_eq]
    have hc2t := fun c => ColorToTape.get_insert cv.colorToTapeCache (encode base t) c t
    have ht2c := fun t' => TapeToColor.get_insert cv.tapeToColorCache t t' (encode base t)
    refine ⟨trivial, ⟨rfl, ?_, ?_, ?_, ?_⟩, hc2t⟩
    · rw [hc2t]; split
      next hz => rw [inj 0 _ h.zero hz]
      · exact h.zero
    · intro c t' hc
      rw [hc2t] at hc; split at hc
      next hcc => cases hc; exact ⟨hl, hr, hcc⟩
      · exact h.c2t c t' hc
    · intro t' c hc
      rw [ht2c] at hc; rw [hc2t]; split at hc
      next htt => cases hc; rw [if_pos rfl, htt]
      · have h1 := h.t2c t' c hc
        split
        next hcc => rw [inj c t' h1 hcc]
        · exact h1
    · intro c t' hc
      rw [hc2t] at hc; rw [ht2c]; split at hc
      next hcc => cases hc; exact Or.inr (by rw [if_pos rfl, hcc])
      · refine (h.c2t_t2c c t' hc).imp_right fun h1 => ?_
        rw [if_neg (fun e => by rw [e, h1] at hget; cases hget)]; exact h1

end BB.Macros
