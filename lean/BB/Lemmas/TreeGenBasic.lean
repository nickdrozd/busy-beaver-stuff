/-
C10 support: facts about the functions of the model taken one by one.
-/
import BB.Lemmas.TreeGenDefs
import BB.Lemmas.ProgTable

namespace BB.Tree

open BB

theorem nodup_flatMap_of_tag {α β : Type} {l : List α} {f : α → List β} (tag : β → Option α)
    (hl : l.Nodup) (hf : ∀ a ∈ l, (f a).Nodup) (ht : ∀ a ∈ l, ∀ x ∈ f a, tag x = some a) :
    (l.flatMap f).Nodup :=
  List.pairwise_flatMap.mpr ⟨hf, hl.imp_of_mem fun ha hb hab x hx y hy hxy =>
    hab (Option.some.inj ((ht _ ha x hx).symm.trans (hxy ▸ ht _ hb y hy)))⟩

theorem mem_makeInstrs {s c : Nat} {i : Instr} : i ∈ makeInstrs s c ↔ i.2.2 < s ∧ i.1 < c := by
  obtain ⟨co, sh, st⟩ := i
  simp only [makeInstrs, shifts, List.mem_flatMap, List.mem_range, List.mem_map, List.mem_cons,
    List.not_mem_nil, or_false, Prod.mk.injEq]
  constructor
  · rintro ⟨a, ha, b, _, d, hd, rfl, rfl, rfl⟩
    exact ⟨hd, ha⟩
  · rintro ⟨h1, h2⟩
    refine ⟨co, h2, sh, ?_, st, h1, rfl, rfl, rfl⟩
    cases sh <;> simp

theorem nodup_makeInstrs (s c : Nat) : (makeInstrs s c).Nodup := by
  refine nodup_flatMap_of_tag (fun i => some i.1) List.nodup_range (fun co _ => ?_) ?_
  · refine nodup_flatMap_of_tag (fun i => some i.2.1) (by decide) (fun sh _ => ?_) ?_
    · exact List.nodup_range.map _ fun a b hab he => hab (by injection he with _ he; injection he)
    · intro sh _ i hi
      obtain ⟨_, _, rfl⟩ := List.mem_map.mp hi
      rfl
  · intro co _ i hi
    simp only [List.mem_flatMap, List.mem_map] at hi
    obtain ⟨_, _, _, _, rfl⟩ := hi
    rfl

theorem makeInstrs_ne_nil {s c : Nat} (hs : 1 ≤ s) (hc : 1 ≤ c) : makeInstrs s c ≠ [] :=
  List.ne_nil_of_mem (a := ((0, false, 0) : Instr)) (mem_makeInstrs.mpr ⟨hs, hc⟩)

theorem splitLast_spec (l : List Instr) (h : l ≠ []) :
    ∃ x ini, splitLast l = some (x, ini) ∧ ini ++ [x] = l := by
  induction l with
  | nil => exact absurd rfl h
  | cons a l ih =>
    cases l with
    | nil => exact ⟨a, [], rfl, rfl⟩
    | cons b l =>
      obtain ⟨x, ini, h1, h2⟩ := ih (List.cons_ne_nil _ _)
      exact ⟨x, a :: ini, by rw [splitLast, h1], by rw [List.cons_append, h2]⟩

theorem collect_ok (f : Instr → PRes (List Prog)) (g : Instr → List Prog) (l : List Instr)
    (h : ∀ i ∈ l, f i = .ok (g i)) : collect f l = .ok (l.flatMap g) := by
  induction l with
  | nil => rfl
  | cons a l ih =>
    rw [collect, h a (List.mem_cons_self ..), ih fun i hi => h i (List.mem_cons_of_mem _ hi),
      List.flatMap_cons]

theorem sequenceTasks_ok_iff (rs : List (PRes (List Prog))) (ls : List (List Prog)) :
    sequenceTasks rs = .ok ls ↔ rs = ls.map .ok := by
  induction rs generalizing ls with
  | nil => cases ls <;> simp [sequenceTasks]
  | cons r rs ih =>
    cases r with
    | error e => cases ls <;> simp [sequenceTasks]
    | ok a =>
      rw [sequenceTasks]
      cases ls with
      | nil => cases sequenceTasks rs <;> simp
      | cons b ls =>
        rw [List.map_cons, List.cons.injEq, Except.ok.injEq, ← ih]
        cases sequenceTasks rs <;> simp

theorem sequenceTasks_error_iff (rs : List (PRes (List Prog))) :
    (∃ e, sequenceTasks rs = .error e) ↔ ∃ r ∈ rs, ∃ e, r = .error e := by
  induction rs with
  | nil => simp [sequenceTasks]
  | cons r rs ih =>
    cases r with
    | error e => simp [sequenceTasks]
    | ok a =>
      simp only [sequenceTasks, List.mem_cons, exists_eq_or_imp, reduceCtorEq, exists_false,
        false_or, ← ih]
      cases sequenceTasks rs <;> simp

theorem map_eq_of_map_ok {α β : Type} {f : α → PRes β} {g : α → β} {l : List α} {ls : List β}
    (hg : ∀ a ∈ l, ∀ b, f a = .ok b → b = g a) (h : l.map f = ls.map .ok) : ls = l.map g := by
  induction l generalizing ls with
  | nil => cases ls with
    | nil => rfl
    | cons => cases h
  | cons a l ih =>
    cases ls with
    | nil => cases h
    | cons b ls =>
      injection h with h1 h2
      rw [List.map_cons, hg a (List.mem_cons_self ..) b h1,
        ih (fun a ha => hg a (List.mem_cons_of_mem _ ha)) h2]

/-- A run that ends at an undefined slot is a chain of defined steps: what holds at the slot and
    is carried backwards over a step holds at the start. -/
@[elab_as_elim]
theorem run_undefined_induction {p : Prog} {slot : Slot} {t' : Tape} {motive : Nat → Tape → Prop}
    (base : p.get slot = none → t'.scan = slot.2 → motive slot.1 t')
    (step : ∀ q t c sh nx, p.get (q, t.scan) = some (c, sh, nx) →
      motive nx (t.step sh c (q == nx)).1 → motive q t)
    {q : Nat} {t : Tape} {lim : Nat} (h : runForUndefined p q t lim = (.undefined slot, t')) :
    motive q t := by
  fun_induction runForUndefined p q t lim with
  | case1 => cases h
  | case2 q t n hg =>
    cases h
    exact base hg rfl
  | case3 => cases h
  | case4 => cases h
  | case5 q t n c sh nx hg _ _ _ _ ih => exact step _ _ _ _ _ hg (ih h)

theorem run_undefined_get {p : Prog} {q : Nat} {t : Tape} {lim : Nat} {slot : Slot} {t' : Tape}
    (h : runForUndefined p q t lim = (.undefined slot, t')) : p.get slot = none :=
  run_undefined_induction (fun h _ => h) (fun _ _ _ _ _ _ h => h) h

theorem run_undefined_scan {p : Prog} {q : Nat} {t : Tape} {lim : Nat} {slot : Slot} {t' : Tape}
    (h : runForUndefined p q t lim = (.undefined slot, t')) : t'.scan = slot.2 :=
  run_undefined_induction (fun _ h => h) (fun _ _ _ _ _ _ h => h) h

theorem growAvail_ge (a m s i : Nat) : a ≤ growAvail a m s i := by
  unfold growAvail; split <;> omega

theorem growAvail_le_max {a m : Nat} (h : a ≤ m) (s i : Nat) : growAvail a m s i ≤ m := by
  unfold growAvail
  split
  · rename_i hc
    rw [Bool.and_eq_true, decide_eq_true_eq] at hc
    exact hc.1
  · exact h

theorem leafSkip_eq_false_iff (p : Prog) (S C : Nat) :
    leafSkip p (S, C) = false ↔ UsesLast S C p := by
  simp only [leafSkip, UsesLast, Bool.or_eq_false_iff, List.all_eq_false, decide_eq_true_eq,
    Nat.not_lt, Nat.add_comm 1]

theorem mem_leaf {p q : Prog} {S C : Nat} : q ∈ leaf p (S, C) ↔ q = p ∧ UsesLast S C q := by
  rw [← leafSkip_eq_false_iff, leaf]
  cases h : leafSkip p (S, C)
  · rw [if_neg Bool.false_ne_true, List.mem_singleton]
    exact ⟨fun e => ⟨e, e ▸ h⟩, And.left⟩
  · rw [if_pos rfl]
    exact ⟨nofun, fun ⟨e, h'⟩ => by rw [e, h] at h'; cases h'⟩

theorem nodup_leaf (p : Prog) (params : Nat × Nat) : (leaf p params).Nodup := by
  unfold leaf; split
  · exact List.nodup_nil
  · exact List.nodup_cons.mpr ⟨List.not_mem_nil, List.nodup_nil⟩

end BB.Tree
