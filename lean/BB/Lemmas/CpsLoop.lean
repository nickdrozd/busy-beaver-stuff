/-
C06, second half: a `true` run of `cps_cant_reach` ends in a closed triple.

Invariant of the work-list loop: every configuration in `seen` is still on the work-list or has had
its push-side window registered.  At a pass boundary the work-list is empty, so the next pass starts
with every push-side window registered; if it makes no update, nothing it does changes `seen` or
the span maps, and what it has tested on each configuration is what `checkConfig` tests.
-/
import BB.Lemmas.CpsClosed

namespace BB.Cps

open BB

def Configs.WF (cs : Configs) : Prop := ∀ c, cs.contains c = true ↔ c ∈ cs.seen

theorem Configs.WF.insert {cs : Configs} (h : cs.WF) (c : Config) : (cs.insert c).WF := fun c' =>
  (contains_insert_key cs.index c c').trans ((or_congr_right (h c')).trans List.mem_cons.symm)

/-- `push_spans.add_span(push)` -/
def regPush (cs : Configs) (sh : Bool) (s : Span) : Configs :=
  if sh then { cs with lspans := addSpan cs.lspans s } else { cs with rspans := addSpan cs.rspans s }

theorem regPush_mono (cs : Configs) (sh : Bool) (s : Span) {d : Bool} {t : Span}
    (h : hasColor (if d then cs.lspans else cs.rspans) t = true) :
    hasColor (if d then (regPush cs sh s).lspans else (regPush cs sh s).rspans) t = true := by
  cases sh <;> cases d
  · exact hasColor_addSpan (Or.inr h)
  · exact h
  · exact h
  · exact hasColor_addSpan (Or.inr h)

theorem regPush_self (cs : Configs) (sh : Bool) (s : Span) :
    hasColor (if sh then (regPush cs sh s).lspans else (regPush cs sh s).rspans) s = true := by
  cases sh <;> exact hasColor_addSpan (Or.inl rfl)

theorem regPush_of_hasColor {cs : Configs} {sh : Bool} {s : Span}
    (h : hasColor (if sh then cs.lspans else cs.rspans) s = true) : regPush cs sh s = cs := by
  cases sh <;> simp only [regPush, Bool.false_eq_true, if_false, if_true] at h ⊢ <;>
    rw [addSpan_of_hasColor h]

/-- the push-side window of `c` (with respect to the instruction at `c`) is registered -/
def PushReg (p : Prog) (ls rs : Spans) (c : Config) : Prop :=
  ∀ pr sh nx, p.get (c.state, c.tape.scan) = some (pr, sh, nx) →
    hasColor (if sh then ls else rs) (if sh then c.tape.lspan else c.tape.rspan) = true

/-- the invariant of the work-list loop -/
structure MidInv (p : Prog) (rad : Nat) (cs : Configs) (todo : List Config) : Prop where
  wf : cs.WF
  init : Config.init rad ∈ cs.seen
  initL : hasColor cs.lspans (Span.init rad) = true
  initR : hasColor cs.rspans (Span.init rad) = true
  reg : ∀ c ∈ cs.seen, c ∈ todo ∨ PushReg p cs.lspans cs.rspans c

theorem MidInv.weaken {p : Prog} {rad : Nat} {cs : Configs} {todo todo' : List Config}
    (h : MidInv p rad cs todo) (ht : ∀ c ∈ todo, c ∈ todo' ∨ PushReg p cs.lspans cs.rspans c) :
    MidInv p rad cs todo' :=
  ⟨h.wf, h.init, h.initL, h.initR, fun c hc => (h.reg c hc).elim (ht c) Or.inr⟩

theorem MidInv.insert {p : Prog} {rad : Nat} {cs : Configs} {todo : List Config}
    (h : MidInv p rad cs todo) (c : Config) : MidInv p rad (cs.insert c) (c :: todo) :=
  ⟨h.wf.insert c, List.mem_cons_of_mem _ h.init, h.initL, h.initR, fun c0 hc0 => by
    rcases List.mem_cons.1 hc0 with rfl | hc0
    · exact Or.inl (List.mem_cons_self ..)
    · exact (h.reg c0 hc0).imp (List.mem_cons_of_mem _) id⟩

theorem MidInv.addNexts {p : Prog} {rad : Nat} {mk : Nat → Config} {colors : List Nat}
    {cs : Configs} {todo : List Config} {upd : Bool} {cs' : Configs} {todo' : List Config}
    {upd' : Bool} (h : MidInv p rad cs todo)
    (he : Cps.addNexts mk colors cs todo upd = (cs', todo', upd')) : MidInv p rad cs' todo' := by
  induction colors generalizing cs todo upd with
  | nil => cases he; exact h
  | cons color rest ih =>
    rw [Cps.addNexts] at he
    split at he
    · exact ih h he
    · exact ih (h.insert _) he

theorem MidInv.regPush {p : Prog} {rad : Nat} {cs : Configs} {todo : List Config}
    (h : MidInv p rad cs todo) (sh : Bool) (s : Span) : MidInv p rad (regPush cs sh s) todo :=
  ⟨by cases sh <;> exact h.wf, by cases sh <;> exact h.init, regPush_mono cs sh s (d := true) h.initL,
    regPush_mono cs sh s (d := false) h.initR, fun c hc =>
      (h.reg c (by cases sh <;> exact hc)).imp id fun hr pr sh' nx hi =>
        regPush_mono cs sh s (hr pr sh' nx hi)⟩

theorem MidInv.pop {p : Prog} {rad : Nat} {cs : Configs} {c : Config} {todo : List Config}
    (h : MidInv p rad cs (c :: todo)) (hc : PushReg p cs.lspans cs.rspans c) :
    MidInv p rad cs todo :=
  h.weaken fun _ hm => (List.mem_cons.1 hm).elim (fun e => Or.inr (e ▸ hc)) Or.inl

theorem addNexts_append (mk : Nat → Config) (a b : List Nat) (cs : Configs) (todo : List Config)
    (upd : Bool) :
    addNexts mk (a ++ b) cs todo upd =
      addNexts mk b (addNexts mk a cs todo upd).1 (addNexts mk a cs todo upd).2.1
        (addNexts mk a cs todo upd).2.2 := by
  induction a generalizing cs todo upd with
  | nil => rfl
  | cons x a ih =>
    by_cases hc : cs.contains (mk x) = true
    · simp only [List.cons_append, addNexts, hc, if_true]; exact ih ..
    · simp only [List.cons_append, addNexts, hc]; exact ih ..

theorem addNexts_false {mk : Nat → Config} {colors : List Nat} {cs : Configs} {todo : List Config}
    {upd : Bool} (h : (addNexts mk colors cs todo upd).2.2 = false) :
    upd = false ∧ addNexts mk colors cs todo upd = (cs, todo, upd) ∧
      ∀ color ∈ colors, cs.contains (mk color) = true := by
  induction colors generalizing cs todo upd with
  | nil => exact ⟨h, rfl, nofun⟩
  | cons color rest ih =>
    by_cases hc : cs.contains (mk color) = true
    · simp only [addNexts, hc, if_true] at h ⊢
      obtain ⟨h1, h2, h3⟩ := ih h
      exact ⟨h1, h2, List.forall_mem_cons.2 ⟨hc, h3⟩⟩
    · simp only [addNexts, hc] at h
      cases (ih h).1

theorem splitLast?_spec {l ic : List Nat} {lc : Nat} (h : splitLast? l = some (ic, lc)) :
    l = ic ++ [lc] := by
  cases l with
  | nil => cases h
  | cons x xs =>
    have := splitLast_spec x xs
    rw [Option.some.inj h] at this
    exact this.symm

/-- `stepConfig` after `push_spans.add_span(push)`; `pullM` is the span map of the pull side and
    `mk` builds the successor for a colour.  It is that part of `stepConfig` word for word, so that
    `stepConfig_cont` can hand its hypothesis to `stepTail_cont` as it stands. -/
def stepTail (goal : Goal) (maxDepth : Nat) (cs1 : Configs) (todo : List Config) (update : Bool)
    (pullM : Spans) (scan : Nat) (pull push : Span) (state next : Nat) (mk : Nat → Config) :
    StepRes :=
  match getColors pullM pull with
  | none => .panic
  | some colors =>
    if goalTest goal colors scan pull push state next then .retFalse
    else
      match splitLast? colors with
      | none => .panic
      | some (initColors, lastColor) =>
        let r := addNexts mk initColors cs1 todo update
        let nc := mk lastColor
        if r.1.contains nc then .cont r.1 r.2.1 r.2.2
        else
          let cs3 := r.1.insert nc
          if cs3.size > maxDepth then .retFalse
          else .cont cs3 (nc :: r.2.1) true

/-- a continuing pop went through all the colours offered for the pulled span (the `MAX_DEPTH`
    test can only end the run) -/
theorem stepTail_cont {goal : Goal} {md : Nat} {cs1 : Configs} {todo : List Config} {upd : Bool}
    {pullM : Spans} {scan : Nat} {pull push : Span} {st nx : Nat} {mk : Nat → Config}
    {cs' : Configs} {todo' : List Config} {upd' : Bool}
    (h : stepTail goal md cs1 todo upd pullM scan pull push st nx mk = .cont cs' todo' upd') :
    ∃ colors, getColors pullM pull = some colors ∧
      goalTest goal colors scan pull push st nx = false ∧
      addNexts mk colors cs1 todo upd = (cs', todo', upd') := by
  unfold stepTail at h
  cases hgc : getColors pullM pull with
  | none => rw [hgc] at h; cases h
  | some colors =>
    rw [hgc] at h
    dsimp only at h
    cases hg : goalTest goal colors scan pull push st nx with
    | true => rw [hg] at h; cases h
    | false =>
      rw [hg] at h
      cases hsl : splitLast? colors with
      | none => rw [hsl] at h; cases h
      | some ilc =>
        obtain ⟨ic, lc⟩ := ilc
        rw [hsl] at h
        dsimp only at h
        refine ⟨colors, rfl, hg, ?_⟩
        rw [splitLast?_spec hsl, addNexts_append]
        simp only [addNexts]
        by_cases hcon : (addNexts mk ic cs1 todo upd).1.contains (mk lc) = true
        · rw [if_pos hcon] at h ⊢
          cases h; rfl
        · rw [if_neg hcon] at h ⊢
          by_cases hsz : ((addNexts mk ic cs1 todo upd).1.insert (mk lc)).size > md
          · rw [if_pos hsz] at h; cases h
          · rw [if_neg hsz] at h; cases h; rfl

theorem stepConfig_cont {p : Prog} {goal : Goal} {md : Nat} {cs : Configs} {todo : List Config}
    {upd : Bool} {c : Config} {cs' : Configs} {todo' : List Config} {upd' : Bool}
    (h : stepConfig p goal md cs todo upd c = .cont cs' todo' upd') :
    (p.get (c.state, c.tape.scan) = none ∧ goal ≠ .halt ∧ cs' = cs ∧ todo' = todo ∧ upd' = upd) ∨
    ∃ pr sh nx colors,
      p.get (c.state, c.tape.scan) = some (pr, sh, nx) ∧
      getColors
        (if sh then (regPush cs sh (if sh then c.tape.lspan else c.tape.rspan)).rspans
          else (regPush cs sh (if sh then c.tape.lspan else c.tape.rspan)).lspans)
        (if sh then c.tape.rspan else c.tape.lspan).pull.2 = some colors ∧
      goalTest goal colors (if sh then c.tape.rspan else c.tape.lspan).pull.1
        (if sh then c.tape.rspan else c.tape.lspan).pull.2
        ((if sh then c.tape.lspan else c.tape.rspan).push pr) c.state nx = false ∧
      addNexts
        (mkNext nx (if sh then c.tape.rspan else c.tape.lspan).pull.1
          ((if sh then c.tape.lspan else c.tape.rspan).push pr)
          (if sh then c.tape.rspan else c.tape.lspan).pull.2 sh)
        colors (regPush cs sh (if sh then c.tape.lspan else c.tape.rspan)) todo upd =
          (cs', todo', upd') := by
  cases hi : p.get (c.state, c.tape.scan) with
  | none =>
    unfold stepConfig at h
    rw [hi] at h
    left
    cases goal
    · cases h
    · cases h; exact ⟨rfl, nofun, rfl, rfl, rfl⟩
    · cases h; exact ⟨rfl, nofun, rfl, rfl, rfl⟩
  | some ins =>
    obtain ⟨pr, sh, nx⟩ := ins
    unfold stepConfig at h
    rw [hi] at h
    obtain ⟨colors, h1, h2, h3⟩ :=
      stepTail_cont (cs1 := regPush cs sh (if sh then c.tape.lspan else c.tape.rspan)) h
    exact Or.inr ⟨pr, sh, nx, colors, rfl, h1, h2, h3⟩

theorem MidInv.step {p : Prog} {goal : Goal} {md rad : Nat} {cs : Configs} {todo : List Config}
    {upd : Bool} {c : Config} {cs' : Configs} {todo' : List Config} {upd' : Bool}
    (hinv : MidInv p rad cs (c :: todo))
    (h : stepConfig p goal md cs todo upd c = .cont cs' todo' upd') : MidInv p rad cs' todo' := by
  rcases stepConfig_cont h with ⟨hi, _, rfl, rfl, _⟩ | ⟨pr, sh, nx, colors, hi, _, _, he⟩
  · exact hinv.pop fun pr sh nx hi' => by rw [hi] at hi'; cases hi'
  · have hreg : PushReg p (Cps.regPush cs sh (if sh then c.tape.lspan else c.tape.rspan)).lspans
        (Cps.regPush cs sh (if sh then c.tape.lspan else c.tape.rspan)).rspans c := by
      intro pr' sh' nx' hi'
      rw [hi] at hi'
      cases hi'
      exact regPush_self cs sh _
    exact ((hinv.regPush sh _).pop hreg).addNexts he

theorem runPass_inv {p : Prog} {goal : Goal} {md rad : Nat} :
    ∀ (fuel : Nat) (cs : Configs) (todo : List Config) (upd : Bool) (cs' : Configs) (upd' : Bool),
      MidInv p rad cs todo → runPass p goal md fuel cs todo upd = .done cs' upd' →
      MidInv p rad cs' [] := by
  intro fuel cs todo upd cs' upd' hinv h
  fun_induction runPass p goal md fuel cs todo upd
  · cases h; exact hinv
  · cases h
  · cases h
  · cases h
  · rename_i hst ih
    exact ih (hinv.step hst) h

theorem stepConfig_static {p : Prog} {goal : Goal} {md : Nat} {cs : Configs} {todo : List Config}
    {upd : Bool} {c : Config} {cs' : Configs} {todo' : List Config}
    (h : stepConfig p goal md cs todo upd c = .cont cs' todo' false) :
    upd = false ∧ (PushReg p cs.lspans cs.rspans c → cs.WF →
      cs' = cs ∧ todo' = todo ∧ ConfigOK p goal cs.seen cs.lspans cs.rspans c) := by
  rcases stepConfig_cont h with ⟨hi, hg, rfl, rfl, hu⟩ | ⟨pr, sh, nx, colors, hi, hgc, hgt, he⟩
  · exact ⟨hu.symm, fun _ _ => ⟨rfl, rfl, (configOK_none hi).2 hg⟩⟩
  · obtain ⟨hu, he', hall⟩ := addNexts_false (by rw [he])
    refine ⟨hu, fun hreg hwf => ?_⟩
    have hp := hreg pr sh nx hi
    rw [regPush_of_hasColor hp] at hgc he he' hall
    cases he.symm.trans he'
    exact ⟨rfl, rfl, (configOK_some hi).2 ⟨hp, colors, hgc, hgt, fun color hc =>
      (hwf _).1 (hall color hc)⟩⟩

theorem runPass_static {p : Prog} {goal : Goal} {md : Nat} :
    ∀ (fuel : Nat) (cs : Configs) (todo : List Config) (upd : Bool) (cs' : Configs),
      runPass p goal md fuel cs todo upd = .done cs' false →
      upd = false ∧ ((∀ c ∈ todo, PushReg p cs.lspans cs.rspans c) → cs.WF →
        cs' = cs ∧ ∀ c ∈ todo, ConfigOK p goal cs.seen cs.lspans cs.rspans c) := by
  intro fuel cs todo upd cs' h
  fun_induction runPass p goal md fuel cs todo upd
  · cases h; exact ⟨rfl, fun _ _ => ⟨rfl, nofun⟩⟩
  · cases h
  · cases h
  · cases h
  · rename_i c todo upd cs1 todo1 upd1 hst ih
    obtain ⟨rfl, ih2⟩ := ih h
    obtain ⟨hu, hs⟩ := stepConfig_static hst
    refine ⟨hu, fun hreg hwf => ?_⟩
    obtain ⟨rfl, rfl, hok⟩ := hs (hreg c (List.mem_cons_self ..)) hwf
    obtain ⟨e, hall⟩ := ih2 (fun c0 hc0 => hreg c0 (List.mem_cons_of_mem _ hc0)) hwf
    exact ⟨e, List.forall_mem_cons.2 ⟨hok, hall⟩⟩

theorem cpsLoop_yes {p : Prog} {goal : Goal} {md fuel rad : Nat}
    {order : List Config → List Config} (hord : OrderOK order) :
    ∀ (loops : Nat) (cs cs' : Configs), MidInv p rad cs [] →
      cpsLoop p goal md fuel order loops cs = .yes cs' →
      Closed p goal rad cs'.seen cs'.lspans cs'.rspans := by
  intro loops
  induction loops with
  | zero => intro cs cs' _ h; cases h
  | succ loops ih =>
    intro cs cs' hinv h
    have hreg : ∀ c ∈ cs.seen, PushReg p cs.lspans cs.rspans c := fun c hc =>
      (hinv.reg c hc).resolve_left nofun
    rw [cpsLoop] at h
    cases hrp : runPass p goal md fuel cs (order cs.seen) false with
    | retFalse => rw [hrp] at h; cases h
    | panic => rw [hrp] at h; cases h
    | fuel => rw [hrp] at h; cases h
    | done cs1 upd1 =>
      rw [hrp] at h
      have hinv1 := runPass_inv fuel cs (order cs.seen) false cs1 upd1 (hinv.weaken nofun) hrp
      cases upd1 with
      | true => exact ih cs1 cs' hinv1 h
      | false =>
        obtain rfl : cs1 = cs' := CpsRes.yes.inj h
        obtain ⟨rfl, hall⟩ := (runPass_static fuel cs (order cs.seen) false cs1 hrp).2
          (fun c hc => hreg c ((hord _ _).1 hc)) hinv.wf
        exact ⟨hinv.init, hinv.initL, hinv.initR, fun c hc => hall c ((hord _ _).2 hc)⟩

theorem midInv_init (p : Prog) (rad : Nat) : MidInv p rad (Configs.init rad) [] := by
  have hs : hasColor (addSpan {} (Span.init rad)) (Span.init rad) = true :=
    hasColor_addSpan (Or.inl rfl)
  have h0 : Configs.WF ⟨[], {}, 0, addSpan {} (Span.init rad), addSpan {} (Span.init rad)⟩ :=
    fun c => by simp [Configs.contains, TMap.contains, TMap.find?_empty]
  refine ⟨h0.insert _, List.mem_cons_self .., hs, hs, fun c hc => Or.inr ?_⟩
  cases List.mem_singleton.1 hc
  intro pr sh nx _
  cases sh <;> exact hs

theorem cpsCantReach_closed {p : Prog} {rad : Nat} {goal : Goal} {maxLoops maxDepth innerFuel : Nat}
    {order : List Config → List Config} (hord : OrderOK order) {cs : Configs}
    (h : cpsCantReach p rad goal maxLoops maxDepth innerFuel order = .yes cs) :
    Closed p goal rad cs.seen cs.lspans cs.rspans := by
  unfold cpsCantReach at h
  split at h
  · cases h
  · exact cpsLoop_yes hord maxLoops _ cs (midInv_init p rad) h

end BB.Cps
