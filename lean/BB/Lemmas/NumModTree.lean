/-
C18: `BB.NumModTree.modE` (the model of the whole `%` operator of tm/num.py) returns the residue of
the tree's value.  Each node kind's `__mod__` returns the residue of the node's value provided the
recursive `%` calls do; `modE_residue` assembles them by induction on the tree.  For a symbolic
exponent the recursive calls `exp % K` are abstracted as a function `rec` with `RecOk rec k` (`k`
the exponent's value), and the stages of `Exp.__mod__` are those of BB/Lemmas/NumMod.lean with
`rec` in place of `%`.  The literal tables of `exp_mod_special_cases` come in through
`specialTables_sound` of the generated BB/Generated/NumTables.lean.  Core Lean only.
-/
import BB.Model.NumModTree
import BB.Lemmas.NumMod
import BB.Generated.NumTables

namespace BB.NumModTree

open BB.NumEval BB.NumMod BB.PowMod

/-- `Div.__mod__`: `(a / d) % m` from `x = a % (m * d)` when `d` divides `a` -/
theorem div_res (a d m : Int) (hd : 0 < d) (ha : a % d = 0) :
    (a / d) % m = ((a % (m * d)) / d) % m := by
  obtain ⟨q, rfl⟩ := Int.dvd_of_emod_eq_zero ha
  rw [Int.mul_comm m d, Int.mul_emod_mul_of_pos _ _ hd,
    Int.mul_ediv_cancel_left _ (Int.ne_of_gt hd), Int.mul_ediv_cancel_left _ (Int.ne_of_gt hd),
    Int.emod_emod]

theorem pow_emod (b : Int) (k : Nat) (m : Int) : b ^ k % m = (b % m) ^ k % m := by
  induction k with
  | zero => simp
  | succ k ih =>
    rw [Int.pow_succ, Int.pow_succ, Int.mul_emod, ih, Int.mul_emod ((b % m) ^ k), Int.emod_emod]

theorem pow_cast (B k m : Nat) : ((B ^ k % m : Nat) : Int) = (B : Int) ^ k % (m : Int) := by
  rw [Int.natCast_emod, Int.natCast_pow]

/-- the model runs `find_period` and the loop on `base % mod` when `base < 0` -/
theorem pow_cast_neg (b : Int) (k m : Nat) (hm : 0 < m) :
    (((b % (m : Int)).toNat ^ k % m : Nat) : Int) = b ^ k % (m : Int) := by
  have hnn : 0 ≤ b % (m : Int) := Int.emod_nonneg b (by omega)
  rw [pow_cast, Int.toNat_of_nonneg hnn, ← pow_emod]

theorem neg_mod_two (b : Int) (k : Nat) (hk : 1 ≤ k) :
    (((b % 2).toNat : Nat) : Int) = b ^ k % ((2 : Nat) : Int) := by
  have h := pow_cast_neg b k 2 (by omega)
  rw [← h, pow_mod_two _ k (by omega)]
  have : (b % ((2 : Nat) : Int)).toNat < 2 := by omega
  rw [Nat.mod_eq_of_lt this]
  rfl

/-- the recursive `%` calls on the exponent tree return residues of the exponent's value `k` -/
def RecOk (rec : Nat → Option Int) (k : Nat) : Prop :=
  ∀ K ρ, rec K = some ρ → ρ = ((k % K : Nat) : Int)

theorem RecOk.toNat {rec : Nat → Option Int} {k K : Nat} {ρ : Int} (hrec : RecOk rec k)
    (h : rec K = some ρ) : ρ.toNat = k % K := by
  rw [hrec K ρ h, Int.toNat_natCast]

theorem finish_correct (B m e : Nat) (hm : 2 ≤ m) : finish B m e = B ^ e % m :=
  sqMul_pow B m e hm

theorem intTail_correct (B m e r : Nat) (per : Option Nat) (hm : 2 ≤ m)
    (hp : ∀ p, per = some p → 0 < p → B ^ p % m = 1)
    (h : intTail B m per e = some r) : r = B ^ e % m := by
  cases per with
  | none => exact absurd h nofun
  | some p =>
    rw [← Option.some.inj h, finish_correct B m _ hm]
    exact reduce_by_period B m p e (hp p rfl)

theorem findPeriodRaw_one (B m p : Nat) (h : findPeriodRaw B m = some p) (hp : 0 < p) :
    B ^ p % m = 1 := by
  unfold findPeriodRaw at h
  split at h
  · exact absurd h nofun
  · exact ((findPeriodGo_order B m p (Option.some.inj h)).1 hp).1

/-- `if period > 0: exp %= period`, then the loop, for a symbolic exponent: `exp % period` is a
    recursive `%`; with period 0 the exponent stays symbolic and `zero` is what happens then -/
def symTail (b mod : Nat) (period : Option Nat) (rec : Nat → Option Int) (zero : Option Nat) :
    Option Nat :=
  match period with
  | none => none
  | some p =>
    if p > 0 then
      match rec p with
      | none => none
      | some e => some (finish b mod e.toNat)
    else zero

theorem symTail_correct (B m k r : Nat) (per : Option Nat) (rec : Nat → Option Int)
    (zero : Option Nat) (hrec : RecOk rec k) (hm : 2 ≤ m)
    (hp : ∀ p, per = some p → 0 < p → B ^ p % m = 1) (hzero : zero = some r → r = B ^ k % m)
    (h : symTail B m per rec zero = some r) : r = B ^ k % m := by
  unfold symTail at h
  cases per with
  | none => exact absurd h nofun
  | some p =>
    dsimp only at h
    by_cases hpos : p > 0
    · rw [if_pos hpos] at h
      cases he : rec p with
      | none => rw [he] at h; exact absurd h nofun
      | some e =>
        rw [he] at h
        rw [← Option.some.inj h, finish_correct B m _ hm, hrec.toNat he]
        exact pow_mod_order B m p k hpos (hp p rfl hpos)
    · rw [if_neg hpos] at h
      exact hzero h

/-- `assert 1 < exp` through the sign heuristic (`gtOneH`) -/
def assertGt (gt1 : Option Bool) (rest : Option Nat) : Option Nat :=
  match gt1 with
  | none => none
  | some false => none
  | some true => rest

theorem assertGt_some {gt1 : Option Bool} {rest : Option Nat} {r : Nat}
    (h : assertGt gt1 rest = some r) : rest = some r := by
  cases gt1 with
  | none => exact absurd h nofun
  | some b =>
    cases b with
    | false => exact absurd h nofun
    | true => exact h

theorem lookupNat_mem {α : Type} (k : Nat) : ∀ (l : List (Nat × α)) (v : α),
    lookupNat k l = some v → (k, v) ∈ l := by
  intro l
  induction l with
  | nil => intro v h; simp [lookupNat] at h
  | cons hd tl ih =>
    intro v h
    obtain ⟨k', v'⟩ := hd
    unfold lookupNat at h
    rcases ite_beq_eq_some h with ⟨rfl, h'⟩ | ⟨_, h⟩
    · rw [Option.some.inj h']
      exact List.mem_cons_self
    · exact List.mem_cons_of_mem _ (ih v h)

theorem table_entry (m per idx v : Nat) (tbl : List (Nat × Nat))
    (h1 : lookupNat m BB.NumTablesData.specialTables = some (per, tbl))
    (h2 : lookupNat idx tbl = some v) :
    ∀ e : Nat, 1 < e → e % per = idx → BB.NumTablesData.specialBase ^ e % m = v := by
  have hm := lookupNat_mem m _ _ h1
  have hi := lookupNat_mem idx _ _ h2
  have hflat : (m, per, idx, v) ∈ BB.NumTablesData.specialFlat := by
    unfold BB.NumTablesData.specialFlat
    rw [List.mem_flatMap]
    exact ⟨(m, per, tbl), hm, List.mem_map.mpr ⟨(idx, v), hi, rfl⟩⟩
  exact BB.NumTables.specialTables_sound _ hflat

theorem expModSpecial_correct (B m k r : Nat) (rec : Nat → Option Int) (hrec : RecOk rec k)
    (hk : 2 ≤ k) (h : expModSpecial B m rec = some r) : r = B ^ k % m := by
  unfold expModSpecial at h
  split at h
  · exact absurd h nofun
  · rename_i hg
    have hB : B = BB.NumTablesData.specialBase := by
      simp only [Bool.or_eq_true, bne_iff_ne, ne_eq, not_or, Decidable.not_not] at hg
      exact hg.1
    split at h
    · exact absurd h nofun
    · rename_i per tbl hl
      split at h
      · exact absurd h nofun
      · rename_i idx hidx
        rw [hB]
        exact (table_entry m per idx.toNat r tbl hl h k (by omega) (hrec.toNat hidx).symm).symm

theorem specialSym_eq (base mod : Nat) (rec : Nat → Option Int) :
    specialSym base mod rec = literalCases base mod (some 0)
      ((rec 2).map fun r => if r == 0 then 4 else 2) ((rec 2).map fun r => if r == 0 then 4 else 8)
      ((rec 4).map fun r => match r.toNat with | 3 => 8 | 0 => 16 | 1 => 2 | _ => 4)
      (some 3) (some 6) ((rec 2).map fun r => if r == 0 then 1 else 7) := rfl

theorem specialSym_special (B m k r : Nat) (rec : Nat → Option Int) (hrec : RecOk rec k)
    (h : specialSym B m rec = some (some r)) : special B m k = some r := by
  rw [specialSym_eq] at h
  -- `x if exp % K == 0 else y`
  have hite {K a b : Nat}
      (hx : (rec K).map (fun ρ => if ρ == 0 then a else b) = some r) :
      some (if k % K == 0 then a else b) = some r := by
    obtain ⟨ρ, hρ, hf⟩ := Option.map_eq_some_iff.mp hx
    have hb : (((k % K : Nat) : Int) == 0) = (k % K == 0) := by
      rw [Bool.eq_iff_iff, beq_iff_eq, beq_iff_eq]
      exact Int.natCast_eq_zero
    rw [← hf, hrec K ρ hρ, hb]
  refine literalCases_elim (P := fun b m x => x = some r → special b m k = some r) h
    id hite hite (fun hx => ?_) id id hite rfl
  obtain ⟨ρ, hρ, hf⟩ := Option.map_eq_some_iff.mp hx
  rw [hrec.toNat hρ] at hf
  exact congrArg some hf

/-- `Exp.__mod__` for a base `≥ 0` and a symbolic exponent, below the early returns and
    `assert 1 < exp` -/
def expSymMain (base mod : Nat) (rec : Nat → Option Int) : Option Nat :=
  match specialSym base mod rec with
  | some r => r
  | none =>
    match (if base == 3 then log2Exact (mod + 1) mod else none) with
    | some n =>
      match rec (2 ^ (max (n - 2) 1)) with
      | none => none
      | some e => intTail base mod (findPeriod base mod) e.toNat
    | none => symTail base mod (findPeriod base mod) rec (expModSpecial base mod rec)

theorem expSymNat_eq (base mod : Nat) (gt1 : Option Bool) (rec : Nat → Option Int) :
    expSymNat base mod gt1 rec = guarded base mod (assertGt gt1 (expSymMain base mod rec)) := rfl

theorem expSymMain_correct (B m k r : Nat) (rec : Nat → Option Int) (hrec : RecOk rec k)
    (hk : 2 ≤ k) (hm : 3 ≤ m) (h : expSymMain B m rec = some r) : r = B ^ k % m := by
  unfold expSymMain at h
  cases hs : specialSym B m rec with
  | some r' =>
    rw [hs] at h
    subst h
    exact special_sound B m k r hk (specialSym_special B m k r rec hrec hs)
  | none =>
    rw [hs] at h
    cases hl : (if B == 3 then log2Exact (m + 1) m else none) with
    | some n =>
      rw [hl] at h
      dsimp only at h
      obtain ⟨hb, hlog⟩ : B = 3 ∧ log2Exact (m + 1) m = some n := by
        rcases ite_beq_eq_some hl with hl | ⟨_, hl⟩
        · exact hl
        · exact absurd hl nofun
      subst hb
      cases he : rec (2 ^ (max (n - 2) 1)) with
      | none => rw [he] at h; exact absurd h nofun
      | some e =>
        rw [he] at h
        rw [intTail_correct 3 m e.toNat r _ (by omega) (fun p => findPeriod_one 3 m p) h,
          hrec.toNat he]
        exact reduce3_of_log2 m n k hm hlog
    | none =>
      rw [hl] at h
      dsimp only at h
      exact symTail_correct B m k r _ rec _ hrec (by omega) (fun p => findPeriod_one B m p)
        (expModSpecial_correct B m k r rec hrec hk) h

/-- the early returns and assertions of `Exp.__mod__` as the model reads them for `base < 0`;
    `rest` gets `base % mod` -/
def guardedNeg (base : Int) (mod : Nat) (rest : Nat → Option Nat) : Option Nat :=
  if mod == 1 then some 0
  else if mod == 2 then some (base % 2).toNat
  else if mod == 0 then none
  else if (base % (mod : Int)).toNat == 0 then none
  else rest (base % (mod : Int)).toNat

theorem guardedNeg_correct {base : Int} {mod r : Nat} {rest : Nat → Option Nat} (k : Nat)
    (hk : 1 ≤ k) (h : guardedNeg base mod rest = some r)
    (hrest : ∀ b, 3 ≤ mod → rest b = some r → r = b ^ k % mod) :
    (r : Int) = base ^ k % (mod : Int) := by
  unfold guardedNeg at h
  rcases ite_beq_eq_some h with ⟨rfl, h'⟩ | ⟨h1, h⟩
  · rw [← Option.some.inj h']
    omega
  rcases ite_beq_eq_some h with ⟨rfl, h'⟩ | ⟨h2, h⟩
  · rw [← Option.some.inj h']
    exact neg_mod_two base k hk
  rcases ite_beq_eq_some h with ⟨_, h⟩ | ⟨h0, h⟩
  · exact absurd h nofun
  · rw [hrest _ (by omega) (ite_none_eq_some h).2]
    exact pow_cast_neg base k mod (by omega)

theorem expNegInt_eq (base exp : Int) (mod : Nat) : expNegInt base exp mod =
    guardedNeg base mod fun b =>
      if exp ≤ 1 then none else intTail b mod (findPeriodRaw b mod) exp.toNat := rfl

theorem expNegSym_eq (base : Int) (mod : Nat) (gt1 : Option Bool) (rec : Nat → Option Int) :
    expNegSym base mod gt1 rec =
    guardedNeg base mod fun b => assertGt gt1 (symTail b mod (findPeriodRaw b mod) rec none) := rfl

theorem natRes_some {o : Option Nat} {res : Int} (h : natRes o = some res) :
    ∃ r : Nat, o = some r ∧ (r : Int) = res :=
  Option.map_eq_some_iff.mp h

theorem expLit_correct (b n : Int) (m : Nat) (res : Int) (hn : 1 ≤ n)
    (h : natRes (expLit b n m) = some res) : res = b ^ n.toNat % (m : Int) := by
  obtain ⟨r, hr, rfl⟩ := natRes_some h
  unfold expLit at hr
  split at hr
  · rename_i hb
    rw [expModInt_residue b.toNat n.toNat m r (by omega) hr, pow_cast,
      Int.toNat_of_nonneg hb]
  · rw [expNegInt_eq] at hr
    exact guardedNeg_correct n.toNat (by omega) hr fun B hm hB =>
      intTail_correct B m n.toNat r _ (by omega) (fun p => findPeriodRaw_one B m p)
        (ite_none_eq_some hB).2

theorem expSym_correct (b : Int) (m k : Nat) (res : Int) (gt1 : Option Bool)
    (rec : Nat → Option Int) (hrec : RecOk rec k) (hk : 2 ≤ k)
    (h : natRes (expSym b m gt1 rec) = some res) : res = b ^ k % (m : Int) := by
  obtain ⟨r, hr, rfl⟩ := natRes_some h
  unfold expSym at hr
  split at hr
  · rename_i hb
    rw [expSymNat_eq] at hr
    rw [guarded_correct k (by omega) hr fun hm hB =>
      expSymMain_correct b.toNat m k r rec hrec hk hm (assertGt_some hB), pow_cast,
      Int.toNat_of_nonneg hb]
  · rw [expNegSym_eq] at hr
    exact guardedNeg_correct k (by omega) hr fun B hm hB =>
      symTail_correct B m k r _ rec none hrec (by omega) (fun p => findPeriodRaw_one B m p) nofun
        (assertGt_some hB)

theorem eval_add {l r : NExpr} {v : Int} (h : eval (.add l r) = some v) :
    ∃ a b, eval l = some a ∧ eval r = some b ∧ a + b = v := by
  rw [eval] at h
  split at h
  · rename_i a b ha hb
    exact ⟨a, b, ha, hb, Option.some.inj h⟩
  · exact absurd h nofun

theorem eval_mul {l r : NExpr} {v : Int} (h : eval (.mul l r) = some v) :
    ∃ a b, eval l = some a ∧ eval r = some b ∧ a * b = v := by
  rw [eval] at h
  split at h
  · rename_i a b ha hb
    exact ⟨a, b, ha, hb, Option.some.inj h⟩
  · exact absurd h nofun

theorem eval_div {n : NExpr} {d v : Int} (h : eval (.div n d) = some v) :
    ∃ a, eval n = some a ∧ d ≠ 0 ∧ a % d = 0 ∧ a / d = v := by
  rw [eval] at h
  split at h
  · rename_i a ha
    split at h
    · exact absurd h nofun
    · rename_i hd
      split at h
      · rename_i hrem
        exact ⟨a, ha, hd, hrem, Option.some.inj h⟩
      · exact absurd h nofun
  · exact absurd h nofun

theorem eval_exp {b : Int} {x : NExpr} {v : Int} (h : eval (.exp b x) = some v) :
    ∃ k, eval x = some k ∧ 0 ≤ k ∧ b ^ k.toNat = v := by
  rw [eval] at h
  split at h
  · rename_i k hk
    split at h
    · exact absurd h nofun
    · rename_i hnn
      exact ⟨k, hk, Int.not_lt.mp hnn, Option.some.inj h⟩
  · exact absurd h nofun

theorem modE_int {n : Int} {m : Nat} {res : Int} (h : modE (.int n) m = some res) :
    res = n % (m : Int) := by
  rw [modE] at h
  exact (Option.some.inj (ite_none_eq_some h).2).symm

theorem modE_add {l r : NExpr} {m : Nat} {res : Int} (h : modE (.add l r) m = some res) :
    m = 1 ∧ res = 0 ∨
    ∃ x y, modE l m = some x ∧ modE r m = some y ∧ res = (x + y) % (m : Int) := by
  rw [modE] at h
  rcases ite_beq_eq_some h with ⟨h1, h⟩ | ⟨_, h⟩
  · exact .inl ⟨h1, (Option.some.inj h).symm⟩
  · split at h
    · rename_i x y hx hy
      exact .inr ⟨x, y, hx, hy, (Option.some.inj (ite_none_eq_some h).2).symm⟩
    · exact absurd h nofun

/-- `Mul.__mod__`: the right operand is not reduced when the left residue is 0; a right residue 0
    needs no case of its own, `x * 0 % m = 0` -/
theorem modE_mul {l r : NExpr} {m : Nat} {res : Int} (h : modE (.mul l r) m = some res) :
    m = 1 ∧ res = 0 ∨ ∃ x, modE l m = some x ∧
      (x = 0 ∧ res = 0 ∨ ∃ y, modE r m = some y ∧ res = (x * y) % (m : Int)) := by
  rw [modE] at h
  rcases ite_beq_eq_some h with ⟨h1, h⟩ | ⟨_, h⟩
  · exact .inl ⟨h1, (Option.some.inj h).symm⟩
  · cases hx : modE l m with
    | none => rw [hx] at h; exact absurd h nofun
    | some x =>
      rw [hx] at h
      refine .inr ⟨x, rfl, ?_⟩
      rcases ite_beq_eq_some h with ⟨hx0, h⟩ | ⟨_, h⟩
      · exact .inl ⟨hx0, (Option.some.inj h).symm⟩
      cases hy : modE r m with
      | none => rw [hy] at h; exact absurd h nofun
      | some y =>
        rw [hy] at h
        refine .inr ⟨y, rfl, ?_⟩
        rcases ite_beq_eq_some h with ⟨hy0, h⟩ | ⟨_, h⟩
        · rw [← Option.some.inj h, hy0, Int.mul_zero, Int.zero_emod]
        · exact (Option.some.inj (ite_none_eq_some h).2).symm

theorem modE_div {n : NExpr} {d : Int} {m : Nat} {res : Int}
    (h : modE (.div n d) m = some res) :
    m = 1 ∧ res = 0 ∨ ∃ x, 0 < d ∧ modE n (m * d.toNat) = some x ∧ res = (x / d) % (m : Int) := by
  rw [modE] at h
  rcases ite_beq_eq_some h with ⟨h1, h⟩ | ⟨_, h⟩
  · exact .inl ⟨h1, (Option.some.inj h).symm⟩
  obtain ⟨hd, h⟩ := ite_none_eq_some (ite_none_eq_some (ite_none_eq_some h).2).2
  cases hx : modE n (m * d.toNat) with
  | none => rw [hx] at h; exact absurd h nofun
  | some x =>
    rw [hx] at h
    exact .inr ⟨x, by omega, rfl,
      (Option.some.inj (ite_none_eq_some (ite_none_eq_some h).2).2).symm⟩

theorem asInt_some (x : NExpr) (n : Int) (h : asInt x = some n) : x = .int n := by
  cases x <;> simp [asInt] at h
  subst h
  rfl

theorem modE_exp_correct (b : Int) (x : NExpr) (m : Nat) (res kx : Int)
    (hok : expsOk (.exp b x) = true) (hkx : eval x = some kx) (hnn : 0 ≤ kx)
    (ih : expsOk x = true → ∀ K ρ, modE x K = some ρ → ρ = kx % (K : Int))
    (h : modE (.exp b x) m = some res) : res = b ^ kx.toNat % (m : Int) := by
  rw [modE] at h
  rw [expsOk] at hok
  cases hx : asInt x with
  | some n =>
    rw [hx] at h hok
    rw [asInt_some x n hx, eval] at hkx
    rw [← Option.some.inj hkx]
    exact expLit_correct b n m res (of_decide_eq_true hok) h
  | none =>
    rw [hx] at h hok
    rw [hkx, Bool.and_eq_true, decide_eq_true_eq] at hok
    have hrec : RecOk (fun K => modE x K) kx.toNat := by
      intro K ρ hρ
      rw [ih hok.1 K ρ hρ, Int.natCast_emod, Int.toNat_of_nonneg hnn]
    exact expSym_correct b m kx.toNat res _ _ hrec (by omega) h

/-- whatever `a % m` returns is the residue of the value of `a`; the modulus may be anything (for
    `m = 0` the operator returns a value only where `v % 0 = v` is that value) -/
theorem modE_residue (e : NExpr) (m : Nat) (r v : Int) (hwf : expsOk e = true)
    (h : modE e m = some r) (hv : eval e = some v) : r = v % (m : Int) := by
  induction e generalizing m r v with
  | int n =>
    rw [← Option.some.inj hv]
    exact modE_int h
  | add l r' ihl ihr =>
    rw [expsOk, Bool.and_eq_true] at hwf
    obtain ⟨a, b, ha, hb, rfl⟩ := eval_add hv
    rcases modE_add h with ⟨rfl, rfl⟩ | ⟨x, y, hx, hy, rfl⟩
    · omega
    · rw [ihl m x a hwf.1 hx ha, ihr m y b hwf.2 hy hb, ← Int.add_emod]
  | mul l r' ihl ihr =>
    rw [expsOk, Bool.and_eq_true] at hwf
    obtain ⟨a, b, ha, hb, rfl⟩ := eval_mul hv
    rcases modE_mul h with ⟨rfl, rfl⟩ | ⟨x, hx, hres⟩
    · omega
    · have hxa := ihl m x a hwf.1 hx ha
      rcases hres with ⟨hx0, rfl⟩ | ⟨y, hy, rfl⟩
      · rw [Int.mul_emod, ← hxa, hx0, Int.zero_mul, Int.zero_emod]
      · rw [hxa, ihr m y b hwf.2 hy hb, ← Int.mul_emod]
  | div n d ih =>
    rw [expsOk] at hwf
    obtain ⟨a, ha, _, hrem, rfl⟩ := eval_div hv
    rcases modE_div h with ⟨rfl, rfl⟩ | ⟨x, hd, hx, rfl⟩
    · omega
    · have hx' := ih (m * d.toNat) x a hwf hx ha
      rw [Int.natCast_mul, Int.toNat_of_nonneg (by omega)] at hx'
      rw [hx', div_res a d m hd hrem]
  | exp b x ih =>
    obtain ⟨kx, hkx, hnn, rfl⟩ := eval_exp hv
    exact modE_exp_correct b x m r kx hwf hkx hnn (fun hok K ρ hρ => ih K ρ kx hok hρ hkx) h

end BB.NumModTree
