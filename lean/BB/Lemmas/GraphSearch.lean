/-
The bounded stack search of `is_connected` and the function as a whole: on a well-formed table it
never panics, its fuel never runs out, and it answers `true` exactly when every state has a listed
exit and the last state reaches state 0.
-/
import BB.Lemmas.GraphExitpoints

namespace BB.Graph

open BB

theorem length_lt_of_nodup_of_not_mem {l : List Nat} {n q : Nat} (hn : l.Nodup)
    (hlt : ∀ x ∈ l, x < n) (hq : q < n) (hql : q ∉ l) : l.length < n := by
  have := (List.nodup_cons.mpr ⟨hql, hn⟩).length_le_of_subset (l₂ := List.range n) fun x hx =>
    List.mem_range.mpr ((List.mem_cons.mp hx).elim (· ▸ hq) (hlt x))
  rwa [List.length_range] at this

theorem pushExits_cons (r : List Nat) (e : Nat) (rest todo : List Nat) :
    pushExits r (e :: rest) todo =
      pushExits r rest (if e ∈ r ∨ e ∈ todo then todo else e :: todo) := by
  simp only [pushExits, Bool.and_eq_true, Bool.not_eq_true', List.contains_eq_mem,
    decide_eq_false_iff_not]
  by_cases h : e ∈ r ∨ e ∈ todo
  · rw [if_neg (fun hc => h.elim hc.1 hc.2), if_pos h]
  · rw [if_pos (not_or.mp h), if_neg h]

theorem mem_pushExits (r exits todo : List Nat) (x : Nat) :
    x ∈ pushExits r exits todo ↔ x ∈ todo ∨ (x ∈ exits ∧ x ∉ r) := by
  induction exits generalizing todo with
  | nil => exact ⟨.inl, fun h => h.elim id fun h => nomatch h.1⟩
  | cons e rest ih =>
    have step : x ∈ (if e ∈ r ∨ e ∈ todo then todo else e :: todo) ↔
        x ∈ todo ∨ (x = e ∧ x ∉ r) := by
      split
      · rename_i hc
        refine ⟨.inl, ?_⟩
        rintro (h | ⟨rfl, h⟩)
        · exact h
        · exact hc.resolve_left h
      · rename_i hc
        rw [List.mem_cons]
        refine ⟨?_, fun h => h.elim .inr fun h => .inl h.1⟩
        rintro (rfl | h)
        · exact .inr ⟨rfl, fun h => hc (.inl h)⟩
        · exact .inl h
    rw [pushExits_cons, ih, step, List.mem_cons, or_assoc, or_and_right]

theorem nodup_pushExits (r exits todo : List Nat) (h : todo.Nodup) :
    (pushExits r exits todo).Nodup := by
  induction exits generalizing todo with
  | nil => exact h
  | cons e rest ih =>
    rw [pushExits_cons]
    split
    · exact ih _ h
    · rename_i hc
      exact ih _ (List.nodup_cons.mpr ⟨fun he => hc (.inr he), h⟩)

/-- The invariant of the loop.  `n` = number of states. -/
structure SearchInv (ex : Exitpoints) (n fuel : Nat) (todo reached : List Nat) : Prop where
  todoNodup : todo.Nodup
  reachedNodup : reached.Nodup
  disjoint : ∀ x ∈ todo, x ∉ reached
  todoLt : ∀ x ∈ todo, x < n
  reachedRange : ∀ x ∈ reached, 0 < x ∧ x < n
  fuelOk : n ≤ fuel + reached.length
  closed : ∀ u ∈ reached, ∀ x, ExE ex u x → x ∈ reached ∨ x ∈ todo

theorem SearchInv.step {ex : Exitpoints} {n fuel state : Nat} {todo reached exits : List Nat}
    (inv : SearchInv ex n (fuel + 1) (state :: todo) reached) (h0 : state ≠ 0)
    (hget : ex.get state = some exits) (hlt : ∀ x ∈ exits, x < n) :
    SearchInv ex n fuel (pushExits (insertSorted state reached) exits todo)
      (insertSorted state reached) := by
  have htn := List.nodup_cons.mp inv.todoNodup
  have hnr : state ∉ reached := inv.disjoint state (List.mem_cons_self ..)
  have hperm := insertSorted_perm state reached
  refine ⟨nodup_pushExits _ _ _ htn.2,
    hperm.nodup_iff.mpr (List.nodup_cons.mpr ⟨hnr, inv.reachedNodup⟩), ?_, ?_, ?_, ?_, ?_⟩
  · intro x hx
    rcases (mem_pushExits ..).mp hx with hx1 | ⟨_, hx2⟩
    · rw [mem_insertSorted]
      rintro (h | h)
      · exact htn.1 (h ▸ hx1)
      · exact inv.disjoint x (List.mem_cons_of_mem _ hx1) h
    · exact hx2
  · intro x hx
    rcases (mem_pushExits ..).mp hx with hx | ⟨hx, _⟩
    · exact inv.todoLt x (List.mem_cons_of_mem _ hx)
    · exact hlt x hx
  · intro x hx
    rcases (mem_insertSorted ..).mp hx with rfl | hx
    · exact ⟨Nat.pos_of_ne_zero h0, inv.todoLt x (List.mem_cons_self ..)⟩
    · exact inv.reachedRange x hx
  · rw [hperm.length_eq, List.length_cons, Nat.add_comm reached.length 1, ← Nat.add_assoc]
    exact inv.fuelOk
  · intro u hu x hux
    rw [mem_pushExits, mem_insertSorted]
    rcases (mem_insertSorted ..).mp hu with rfl | hu
    · obtain ⟨v, hv, hxv⟩ := hux
      cases hget.symm.trans hv
      exact Classical.byCases .inl fun hx => .inr (.inr ⟨hxv, hx⟩)
    · rcases inv.closed u hu x hux with h | h
      · exact .inl (.inr h)
      · exact (List.mem_cons.mp h).elim (fun h => .inl (.inl h)) fun h => .inr (.inl h)

/-- state 0 is reachable from a stacked or marked state -/
def Live (ex : Exitpoints) (todo reached : List Nat) : Prop :=
  ∃ s, (s ∈ todo ∨ s ∈ reached) ∧ Reach (ExE ex) s 0

theorem live_step {ex : Exitpoints} {state : Nat} {todo reached exits : List Nat}
    (hget : ex.get state = some exits) :
    Live ex (pushExits (insertSorted state reached) exits todo) (insertSorted state reached) ↔
      Live ex (state :: todo) reached := by
  constructor
  · rintro ⟨s, hs | hs, hr⟩
    · rcases (mem_pushExits ..).mp hs with hs | ⟨hs, _⟩
      · exact ⟨s, .inl (List.mem_cons_of_mem _ hs), hr⟩
      · exact ⟨state, .inl (List.mem_cons_self ..), .head ⟨exits, hget, hs⟩ hr⟩
    · rcases (mem_insertSorted ..).mp hs with rfl | hs
      · exact ⟨s, .inl (List.mem_cons_self ..), hr⟩
      · exact ⟨s, .inr hs, hr⟩
  · rintro ⟨s, hs | hs, hr⟩
    · rcases List.mem_cons.mp hs with rfl | hs
      · exact ⟨s, .inr ((mem_insertSorted ..).mpr (.inl rfl)), hr⟩
      · exact ⟨s, .inl ((mem_pushExits ..).mpr (.inl hs)), hr⟩
    · exact ⟨s, .inr ((mem_insertSorted ..).mpr (.inr hs)), hr⟩

/-- The search never runs out of fuel with work left: each pop marks a new state of `1..n-1`.  When
    the stack is empty the marked set is closed and does not contain 0. -/
theorem search_spec (ex : Exitpoints) (n : Nat) (hn : 0 < n)
    (hkeys : ∀ q, q < n → (ex.get q).isSome = true)
    (hlt : ∀ q x, ExE ex q x → x < n)
    (fuel : Nat) (todo reached : List Nat) (inv : SearchInv ex n fuel todo reached) :
    ∃ b, search ex fuel todo reached = .ok b ∧ (b = true ↔ Live ex todo reached) := by
  fun_induction search ex fuel todo reached with
  | case1 todo reached =>
    have := length_lt_of_nodup_of_not_mem inv.reachedNodup (fun x hx => (inv.reachedRange x hx).2)
      hn fun h0 => Nat.lt_irrefl 0 (inv.reachedRange 0 h0).1
    have hf := inv.fuelOk
    rw [Nat.zero_add] at hf
    exact absurd hf (Nat.not_le.mpr this)
  | case2 fuel reached =>
    refine ⟨false, rfl, fun h => (nomatch h), fun ⟨s, hs, hr⟩ => ?_⟩
    have h0 : 0 ∈ reached := Reach.closed (· ∈ reached)
      (fun a b ha hab => (inv.closed a ha b hab).resolve_right List.not_mem_nil) hr
      (hs.resolve_left List.not_mem_nil)
    exact absurd (inv.reachedRange 0 h0).1 (Nat.lt_irrefl 0)
  | case3 fuel state todo reached h0 =>
    cases beq_iff_eq.mp h0
    exact ⟨true, rfl, fun _ => ⟨0, .inl (List.mem_cons_self ..), .refl 0⟩, fun _ => rfl⟩
  | case4 fuel state todo reached h0 hr ih =>
    -- a stacked state is not marked
    exact absurd (List.contains_iff_mem.mp hr) (inv.disjoint state (List.mem_cons_self ..))
  | case5 fuel state todo reached h0 hr hget =>
    -- a stacked state is a key
    have := hkeys state (inv.todoLt state (List.mem_cons_self ..))
    rw [hget] at this
    cases this
  | case6 fuel state todo reached h0 hr exits hget reached' ih =>
    rw [← live_step hget]
    exact ih (inv.step (mt beq_iff_eq.mpr h0) hget fun x hx => hlt state x ⟨exits, hget, hx⟩)

theorem search_ne_overflow (ex : Exitpoints) (fuel : Nat) (todo reached : List Nat) :
    search ex fuel todo reached ≠ .overflow := by
  fun_induction search ex fuel todo reached with
  | case1 | case2 | case3 | case5 => nofun
  | case4 _ _ _ _ _ _ ih => exact ih
  | case6 _ _ _ _ _ _ _ _ _ ih => exact ih

/-- The whole function on well-formed input.  The length test stands for "every state is a key":
    the keys are distinct states `< n`. -/
theorem isConnected_spec (p : Prog) (n : Nat) (hn : 0 < n) (hwf : wf p n = true) :
    ∃ b, isConnected p n = .ok b ∧ (b = true ↔ Passes (EdgeL p) n) := by
  have hE := exE_iff p
  have hkey := getExitpoints_isSome p
  have hlt : ∀ q x, ExE (getExitpoints p) q x → x < n := fun q x h =>
    (edgeL_lt hwf ((hE q x).mp h).1).2
  have hkeysLt : ∀ x ∈ (getExitpoints p).map Prod.fst, x < n := fun x hx =>
    have ⟨_, hy⟩ := (hkey x).mp ((mem_keys_iff _ x).mp hx)
    (edgeL_lt hwf hy.1).1
  by_cases hlen : (getExitpoints p).length < n
  · -- fewer keys than states: not every state can have an exit
    refine ⟨false, by simp only [isConnected, if_pos hlen], fun h => (nomatch h),
      fun ⟨hall, _⟩ => ?_⟩
    have := List.nodup_range.length_le_of_subset (l₂ := (getExitpoints p).map Prod.fst)
      fun q hq => (mem_keys_iff _ q).mpr ((hkey q).mpr (hall q (List.mem_range.mp hq)))
    rw [List.length_range, List.length_map] at this
    exact absurd hlen (Nat.not_lt.mpr this)
  · -- at least `n` distinct keys `< n`: every state is a key
    have hkeys : ∀ q, q < n → ((getExitpoints p).get q).isSome = true := fun q hq =>
      Classical.byContradiction fun hno =>
        hlen (List.length_map (as := getExitpoints p) Prod.fst ▸
          length_lt_of_nodup_of_not_mem (getExitpoints_keys_nodup p) hkeysLt hq
            fun h => hno ((mem_keys_iff _ q).mp h))
    have hall : ∀ q, q < n → ∃ x, EdgeL p q x ∧ x ≠ q := fun q hq => (hkey q).mp (hkeys q hq)
    have hn2 : 1 < n :=
      have ⟨x, hx, hx0⟩ := hall 0 hn
      Nat.lt_of_le_of_lt (Nat.pos_of_ne_zero hx0) (edgeL_lt hwf hx).2
    obtain ⟨first, hfirst⟩ :=
      Option.isSome_iff_exists.mp (hkeys (n - 1) (Nat.sub_one_lt (Nat.ne_of_gt hn)))
    have heq : isConnected p n = search (getExitpoints p) n first.reverse [] := by
      simp only [isConnected, if_neg hlen, beq_iff_eq, if_neg (Nat.ne_of_gt hn), hfirst]
    have inv : SearchInv (getExitpoints p) n n first.reverse [] :=
      ⟨(List.reverse_perm first).nodup_iff.mpr (getExitpoints_val_nodup hfirst), .nil,
        fun _ _ => List.not_mem_nil, fun x hx => hlt _ x ⟨first, hfirst, List.mem_reverse.mp hx⟩,
        fun _ h => (nomatch h), Nat.le_refl n, fun _ h => (nomatch h)⟩
    obtain ⟨b, hb, hiff⟩ := search_spec _ n hn hkeys hlt n _ _ inv
    refine ⟨b, heq ▸ hb, hiff.trans ⟨?_, ?_⟩⟩
    · rintro ⟨s, hs, hr⟩
      have hs := List.mem_reverse.mp (hs.resolve_right List.not_mem_nil)
      exact ⟨hall, (Reach.head ⟨first, hfirst, hs⟩ hr).mono fun a b h => ((hE a b).mp h).1⟩
    · rintro ⟨_, hr⟩
      obtain ⟨x, hx, hne, hr⟩ := hr.exit_of_ne (Nat.sub_ne_zero_of_lt hn2)
      obtain ⟨v, hv, hxv⟩ := (hE _ x).mpr ⟨hx, hne⟩
      cases hfirst.symm.trans hv
      exact ⟨x, .inl (List.mem_reverse.mpr hxv), hr.mono_or_eq fun a b h =>
        Classical.byCases .inl fun hb => .inr ((hE a b).mpr ⟨h, hb⟩)⟩

theorem isConnected_true_iff_passes {p : Prog} {n : Nat} (hn : 0 < n) (hwf : wf p n = true) :
    isConnected p n = .ok true ↔ Passes (EdgeL p) n := by
  obtain ⟨b, hb, hiff⟩ := isConnected_spec p n hn hwf
  rw [hb, ← hiff]
  exact ⟨fun h => Out.ok.inj h, fun h => h ▸ rfl⟩

theorem isConnected_false_iff_not_passes {p : Prog} {n : Nat} (hn : 0 < n) (hwf : wf p n = true) :
    isConnected p n = .ok false ↔ ¬ Passes (EdgeL p) n := by
  obtain ⟨b, hb, hiff⟩ := isConnected_spec p n hn hwf
  rw [hb, ← hiff]
  cases b
  · exact ⟨fun _ => nofun, fun _ => rfl⟩
  · exact ⟨nofun, fun h => absurd rfl h⟩

end BB.Graph
