/-
C10 support: `branch`, `buildTask`, `buildTreeLists`, `buildTreeSeq` in terms of the plain-list
form `branchL`, and exactly when they fail (panics in the overflow-checked build).
-/
import BB.Lemmas.TreeGenBasic

namespace BB.Tree

open BB

theorem branch_zero (params : Nat × Nat) (lim : Nat) (n : Node) :
    branch n.instr n.prog n.state n.tape lim n.availS n.availC params 0 =
      match runForUndefined n.prog n.state n.tape lim with
      | (.undefined _, _) => .error (.overflow "remaining_slots - 1")
      | _ => .ok (branchL params lim n 0) := by
  unfold branch branchL
  rcases h : runForUndefined n.prog n.state n.tape lim with ⟨res, t'⟩
  cases res <;> rfl

/-- the counters stay positive, so `split_last` finds an instruction -/
theorem branch_eq (params : Nat × Nat) (lim : Nat) (n : Node) (r : Nat) (hS : 1 ≤ n.availS)
    (hC : 1 ≤ n.availC) :
    branch n.instr n.prog n.state n.tape lim n.availS n.availC params (r + 1) =
      .ok (branchL params lim n (r + 1)) := by
  induction r generalizing n with
  | zero =>
    unfold branch branchL
    rcases h : runForUndefined n.prog n.state n.tape lim with ⟨res, t'⟩
    cases res <;> simp
  | succ r ih =>
    unfold branch
    rw [branchL]
    rcases h : runForUndefined n.prog n.state n.tape lim with ⟨res, t'⟩
    cases res with
    | limit => rfl
    | blank => rfl
    | spinout => rfl
    | undefined slot =>
      have hS' : 1 ≤ growAvail n.availS params.1 slot.1 n.instr.2.2 :=
        Nat.le_trans hS (growAvail_ge ..)
      have hC' : 1 ≤ growAvail n.availC params.2 slot.2 n.instr.1 :=
        Nat.le_trans hC (growAvail_ge ..)
      obtain ⟨x, ini, hsl, hini⟩ := splitLast_spec _ (makeInstrs_ne_nil hS' hC')
      simp only [Nat.add_eq_zero_iff, Nat.succ_ne_self, and_false, beq_iff_eq, ↓reduceIte, hsl,
        hini]
      exact collect_ok _ _ _ (fun i _ => ih (n.child params slot t' i) hS' hC')

/-- the failure is the underflow of `remaining_slots - 1` -/
theorem branch_error_iff (params : Nat × Nat) (lim : Nat) (n : Node) (r : Nat)
    (hS : 1 ≤ n.availS) (hC : 1 ≤ n.availC) :
    (∃ e, branch n.instr n.prog n.state n.tape lim n.availS n.availC params r = .error e) ↔
      r = 0 ∧ ∃ slot t', runForUndefined n.prog n.state n.tape lim = (.undefined slot, t') := by
  cases r with
  | zero =>
    rw [branch_zero]
    rcases runForUndefined n.prog n.state n.tape lim with ⟨res, t'⟩
    cases res <;> simp
  | succ r => simp [branch_eq params lim n r hS hC]

theorem branch_ok {params : Nat × Nat} {lim : Nat} {n : Node} {r : Nat} {l : List Prog}
    (hS : 1 ≤ n.availS) (hC : 1 ≤ n.availC)
    (h : branch n.instr n.prog n.state n.tape lim n.availS n.availC params r = .ok l) :
    l = branchL params lim n r := by
  cases r with
  | zero =>
    rw [branch_zero] at h
    split at h
    · cases h
    · exact (Except.ok.inj h).symm
  | succ r => exact (Except.ok.inj ((branch_eq params lim n r hS hC).symm.trans h)).symm

/-- the slot budget of a task -/
def slots0 (S C : Nat) (halt : Bool) : Nat := S * C - 2 - (if halt then 1 else 0)

/-- the budget computation `(states * colors) - 1 - (1 + halt)` neither overflows nor underflows -/
def BudgetOk (S C : Nat) (halt : Bool) : Prop :=
  S * C < u64Size ∧ 2 + (if halt then 1 else 0) ≤ S * C

theorem initSlots_ok_iff (S C : Nat) (halt : Bool) (k : Nat) :
    initSlots S C halt = .ok k ↔ BudgetOk S C halt ∧ k = slots0 S C halt := by
  unfold BudgetOk slots0
  fun_cases initSlots S C halt with
  | case1 prod h1 => exact iff_of_false nofun fun h => by omega
  | case2 prod h1 h2 => exact iff_of_false nofun fun h => by omega
  | case3 prod h1 h2 sub h3 => exact iff_of_false nofun fun h => by omega
  | case4 prod h1 h2 sub h3 =>
    rw [Except.ok.injEq]
    omega

theorem BudgetOk.one_le {S C : Nat} {halt : Bool} (h : BudgetOk S C halt) : 1 ≤ S * C :=
  Nat.le_trans (by omega) h.2

theorem mul_eq_small {S C k : Nat} (h : S * C = k) (hk : 1 ≤ k) : 1 ≤ S ∧ 1 ≤ C :=
  ⟨Nat.pos_of_mul_pos_right (h ▸ hk), Nat.pos_of_mul_pos_left (h ▸ hk)⟩

/-- the first run of the top-level task for `i` reaches an undefined slot -/
def RootUndefined (lim : Nat) (i : Instr) : Prop :=
  ∃ slot t', runForUndefined (initProg i) 1 Tape.initStepped lim = (.undefined slot, t')

theorem buildTask_of_guard {S C : Nat} {halt : Bool} (lim : Nat) (i : Instr)
    (hg : BudgetOk S C halt) :
    buildTask S C halt lim i =
      branch i (initProg i) 1 Tape.initStepped lim (min 3 S) (min 3 C) (S, C) (slots0 S C halt) := by
  unfold buildTask
  rw [(initSlots_ok_iff S C halt _).mpr ⟨hg, rfl⟩]

theorem buildTask_of_not_guard {S C : Nat} {halt : Bool} (lim : Nat) (i : Instr)
    (hg : ¬ BudgetOk S C halt) :
    ∃ e, buildTask S C halt lim i = .error e := by
  unfold buildTask
  cases hi : initSlots S C halt with
  | error e => exact ⟨e, rfl⟩
  | ok k => exact absurd ((initSlots_ok_iff S C halt k).mp hi).1 hg

theorem rootNode_avail_pos {S C : Nat} (i : Instr) (h : 1 ≤ S * C) :
    1 ≤ (rootNode S C i).availS ∧ 1 ≤ (rootNode S C i).availC :=
  have ⟨hS, hC⟩ := mul_eq_small rfl h
  ⟨Nat.le_min.mpr ⟨by decide, hS⟩, Nat.le_min.mpr ⟨by decide, hC⟩⟩

theorem buildTask_error_iff (S C : Nat) (halt : Bool) (lim : Nat) (i : Instr) :
    (∃ e, buildTask S C halt lim i = .error e) ↔
      ¬ BudgetOk S C halt ∨
      (slots0 S C halt = 0 ∧ RootUndefined lim i) := by
  by_cases hg : BudgetOk S C halt
  · obtain ⟨hS, hC⟩ := rootNode_avail_pos i hg.one_le
    rw [buildTask_of_guard lim i hg, or_iff_right (not_not_intro hg)]
    exact branch_error_iff (S, C) lim (rootNode S C i) _ hS hC
  · exact iff_of_true (buildTask_of_not_guard lim i hg) (.inl hg)

theorem buildTask_ok {S C : Nat} {halt : Bool} {lim : Nat} {i : Instr} {l : List Prog}
    (h : buildTask S C halt lim i = .ok l) :
    l = branchL (S, C) lim (rootNode S C i) (slots0 S C halt) := by
  by_cases hg : BudgetOk S C halt
  · obtain ⟨hS, hC⟩ := rootNode_avail_pos i hg.one_le
    exact branch_ok (n := rootNode S C i) hS hC (buildTask_of_guard lim i hg ▸ h)
  · obtain ⟨e, he⟩ := buildTask_of_not_guard lim i hg
    rw [he] at h
    cases h

def roots (S C : Nat) : List Instr := makeInstrs (min 3 S) (min 3 C)

theorem buildTreeLists_ok {S C : Nat} {halt : Bool} {lim : Nat} {ls : List (List Prog)}
    (h : buildTreeLists S C halt lim = .ok ls) :
    ls = (roots S C).map fun i => branchL (S, C) lim (rootNode S C i) (slots0 S C halt) :=
  map_eq_of_map_ok (fun _ _ _ => buildTask_ok) ((sequenceTasks_ok_iff _ _).mp h)

theorem buildTreeSeq_ok_iff (S C : Nat) (halt : Bool) (lim : Nat) (l : List Prog) :
    buildTreeSeq S C halt lim = .ok l ↔
      ∃ ls, buildTreeLists S C halt lim = .ok ls ∧ l = ls.flatten := by
  unfold buildTreeSeq
  cases buildTreeLists S C halt lim with
  | error e => simp
  | ok ls => simp [eq_comm]

theorem buildTreeSeq_ok {S C : Nat} {halt : Bool} {lim : Nat} {l : List Prog}
    (h : buildTreeSeq S C halt lim = .ok l) :
    l = (roots S C).flatMap fun i => branchL (S, C) lim (rootNode S C i) (slots0 S C halt) := by
  obtain ⟨ls, hls, rfl⟩ := (buildTreeSeq_ok_iff S C halt lim l).mp h
  rw [buildTreeLists_ok hls, List.flatMap_def]

/-- whatever the schedule, a panic in any task makes the whole call panic -/
theorem buildTreeLists_error_iff_task (S C : Nat) (halt : Bool) (lim : Nat) :
    (∃ e, buildTreeLists S C halt lim = .error e) ↔
      ∃ i ∈ roots S C, ∃ e, buildTask S C halt lim i = .error e := by
  unfold buildTreeLists buildTree
  rw [sequenceTasks_error_iff]
  exact ⟨fun ⟨_, hr, he⟩ => (List.mem_map.mp hr).elim fun i hi => ⟨i, hi.1, hi.2 ▸ he⟩,
    fun ⟨i, hi, he⟩ => ⟨_, List.mem_map_of_mem hi, he⟩⟩

theorem initProg_get (i : Instr) : (initProg i).get (1, 0) = some i :=
  Prog.get_insert_self ..

/-- the task of `B0 ↦ 0LA` reaches the undefined slot `A1` -/
theorem rootUndefined_zero : ∀ {lim : Nat}, 2 ≤ lim → RootUndefined lim (0, false, 0)
  | _ + 2, _ => ⟨(0, 1), ⟨1, [], []⟩, rfl⟩

/-- `B0` is defined in every task, so one cycle reaches no undefined slot -/
theorem two_le_of_rootUndefined {i : Instr} : ∀ {lim : Nat}, RootUndefined lim i → 2 ≤ lim
  | 0, ⟨_, _, h⟩ => by cases h
  | 1, ⟨_, _, h⟩ => by
    obtain ⟨c, sh, nx⟩ := i
    simp only [runForUndefined, show Tape.initStepped.scan = 0 from rfl, initProg_get] at h
    split at h
    · cases h
    · split at h <;> cases h
  | _ + 2, _ => Nat.le_add_left ..

theorem mem_roots_zero {S C : Nat} (h : 1 ≤ S * C) : ((0, false, 0) : Instr) ∈ roots S C :=
  have ⟨hS, hC⟩ := mul_eq_small rfl h
  mem_makeInstrs.mpr ⟨Nat.lt_min.mpr ⟨by decide, hS⟩, Nat.lt_min.mpr ⟨by decide, hC⟩⟩

theorem mul_pos_of_mem_roots {S C : Nat} {i : Instr} (h : i ∈ roots S C) : 1 ≤ S * C :=
  have ⟨h1, h2⟩ := mem_makeInstrs.mp h
  Nat.mul_pos (Nat.zero_lt_of_lt (Nat.lt_min.mp h1).2) (Nat.zero_lt_of_lt (Nat.lt_min.mp h2).2)

/-- **exactly when `build_tree` fails**: the product overflows, the budget underflows, or the
    budget is zero and the task of `B0 ↦ 0LA` gets far enough to need it. -/
theorem buildTreeLists_error_iff (S C : Nat) (halt : Bool) (lim : Nat) :
    (∃ e, buildTreeLists S C halt lim = .error e) ↔
      u64Size ≤ S * C ∨ (1 ≤ S * C ∧ S * C < 2 + (if halt then 1 else 0)) ∨
      (S * C = 2 + (if halt then 1 else 0) ∧ 2 ≤ lim) := by
  simp only [buildTreeLists_error_iff_task, buildTask_error_iff, BudgetOk, slots0]
  constructor
  · rintro ⟨i, hi, h⟩
    have hpos := mul_pos_of_mem_roots hi
    rcases h with h | ⟨h0, hu⟩
    · omega
    · have := two_le_of_rootUndefined hu
      omega
  · intro h
    have : 0 < u64Size := by decide
    refine ⟨_, mem_roots_zero (by omega), ?_⟩
    by_cases h2 : S * C = 2 + (if halt then 1 else 0) ∧ 2 ≤ lim
    · exact .inr ⟨by omega, rootUndefined_zero h2.2⟩
    · exact .inl (by omega)

theorem buildTreeLists_ok_of_sizeOk {S C : Nat} {halt : Bool} (lim : Nat) (h : SizeOk S C halt) :
    ∃ ls, buildTreeLists S C halt lim = .ok ls := by
  cases hr : buildTreeLists S C halt lim with
  | ok ls => exact ⟨ls, rfl⟩
  | error e =>
    have := (buildTreeLists_error_iff S C halt lim).mp ⟨e, hr⟩
    unfold SizeOk at h
    omega

end BB.Tree
