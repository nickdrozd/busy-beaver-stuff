/-
C04: soundness of `refuted` for the repaired backward reasoner (`fixF1 = true`), under the side
condition that the instrumented run never prunes a blank tape unjustifiably.  By strong induction
on the real time of a run that reaches a configuration in γ of a configuration of the search.
-/
import BB.Lemmas.ReasonGamma
import BB.Lemmas.ReasonInstr
import BB.Lemmas.ReasonEntry
import BB.Lemmas.ReasonSweep
import BB.Lemmas.ReasonStep

namespace BB.Reason

open BB

theorem gammaT_time_zero {p : ProgF} {c : Cfg} (hr : RunAt p 0 c) {q : Nat} {t : Backstepper}
    (h : GammaT q t c) : q = 0 ∧ t.blank = true := by
  cases Option.some.inj hr
  exact gammaT_init h

theorem run_pred (p : Prog) (t : Nat) (c : Cfg) (h : RunAt p.toF (t + 1) c) :
    ∃ c₁ pr sh, RunAt p.toF t c₁ ∧ p.get (c₁.state, c₁.scan) = some (pr, sh, c.state) ∧
      IsPred c₁ c pr sh := by
  obtain ⟨c₁, h1, h2⟩ := runAt_succ.1 h
  obtain ⟨pr, sh, q, hg, rfl⟩ := step1_eq_some h2
  refine ⟨c₁, pr, sh, h1, ?_, isPred_move c₁ pr sh q⟩
  rw [Cfg.move_state]; exact hg

/-- the loop answers `refuted k` and no unjustified pruning happens on the way -/
def Good (f : Bool) (ep : Entrypoints) (k fuel step : Nat) (configs : Configs) (kept : Kept)
    (indef : ValidatedSteps) : Prop :=
  cantReachLoopI f ep fuel step configs kept indef = (.ok (.refuted k), true)

theorem good_iter {f : Bool} {ep : Entrypoints} {k fuel step : Nat} {configs : Configs}
    {kept : Kept} {indef : ValidatedSteps} (h : Good f ep k fuel step configs kept indef) :
    ∃ vs, getValidSteps f ep configs = .ok vs ∧
      ((vs = [] ∧ indef = []) ∨
       ∃ configs' indefs kept', stepConfigsI vs kept = .ok (configs', indefs, kept', true) ∧
          Good f ep k (fuel - 1) (step + 1) configs' kept' (indef ++ indefs)) := by
  cases fuel with
  | zero => cases h
  | succ fuel' =>
    rw [Good, cantReachLoopI_succ] at h
    cases hv : getValidSteps f ep configs with
    | error e => rw [hv] at h; cases h
    | ok vs =>
      simp only [hv] at h
      refine ⟨vs, rfl, ?_⟩
      by_cases he : vs.isEmpty = true
      · rw [if_pos he] at h
        refine Or.inl ⟨List.isEmpty_iff.1 he, ?_⟩
        cases indef with
        | nil => rfl
        | cons a l => cases h
      rw [if_neg he] at h
      by_cases hl : MAX_STACK_DEPTH < vs.length
      · rw [if_pos hl] at h; cases h
      rw [if_neg hl] at h
      cases hs : stepConfigsI vs kept with
      | error e =>
        rw [hs] at h
        rcases stepConfigsI_error _ _ _ hs with rfl | rfl <;> cases h
      | ok r =>
        obtain ⟨c', i', k', f'⟩ := r
        simp only [hs] at h
        by_cases hl2 : (indef ++ i').length > MAX_STACK_DEPTH
        · rw [if_pos hl2] at h; cases h
        rw [if_neg hl2, Prod.mk.injEq, Bool.and_eq_true] at h
        obtain ⟨h1, rfl, h3⟩ := h
        exact Or.inr ⟨c', i', k', rfl, Prod.ext h1 h3⟩

theorem good_indef_nil {f : Bool} {ep : Entrypoints} {k : Nat} : ∀ {fuel step : Nat}
    {configs : Configs} {kept : Kept} {indef : ValidatedSteps},
    Good f ep k fuel step configs kept indef → indef = [] := by
  intro fuel
  induction fuel with
  | zero => intro _ _ _ _ h; cases h
  | succ n ih =>
    intro step configs kept indef h
    obtain ⟨vs, _, ⟨_, hi⟩ | ⟨c', i', k', _, hg⟩⟩ := good_iter h
    · exact hi
    · exact (List.append_eq_nil_iff.1 (ih hg)).1

/-- No validated instruction is an indefinite step: it would be pending from then on
    (`good_indef_nil`). -/
theorem good_handled {f : Bool} {ep : Entrypoints} {k fuel step : Nat} {configs : Configs}
    {kept : Kept} {indef : ValidatedSteps} (h : Good f ep k fuel step configs kept indef) :
    ∃ vs, getValidSteps f ep configs = .ok vs ∧
      ∀ instrs Y, (instrs, Y) ∈ vs → ∀ r sh q, (r, sh, q) ∈ instrs →
        Y.tape.pullsIndef sh = false ∧
        ∃ configs' kept', Good f ep k (fuel - 1) (step + 1) configs' kept' [] ∧
          KeptStep kept kept' configs' ∧ NoInit configs' ∧
          Handled Y.tape configs' kept' true r sh q := by
  obtain ⟨vs, hv, hcase⟩ := good_iter h
  refine ⟨vs, hv, fun instrs Y hY r sh q hi => ?_⟩
  rcases hcase with ⟨rfl, _⟩ | ⟨configs', indefs, kept', hs, hgood'⟩
  · cases hY
  · have hnil := good_indef_nil hgood'
    obtain ⟨hks, hni, hh⟩ := stepConfigsI_spec vs kept configs' indefs kept' true hs
    have := hh instrs Y hY r sh q hi
    by_cases hp : Y.tape.pullsIndef sh = true
    · rw [if_pos hp] at this
      exact absurd (List.append_eq_nil_iff.1 hnil).2 this
    · rw [if_neg hp] at this
      exact ⟨Bool.eq_false_iff.2 hp, configs', kept', hnil ▸ hgood', hks, hni, this⟩

/-- every kept blank tape is the tape of a configuration of the list, or holds no configuration
    of the run before time `t` -/
def KeptOK (p : Prog) (t : Nat) (configs : Configs) (kept : Kept) : Prop :=
  ∀ w ∈ kept, w.2.blank = true ∧
    ((∃ Y ∈ configs, Y.state = w.1 ∧ Y.tape = w.2) ∨
      ∀ m, m < t → ∀ d, RunAt p.toF m d → ¬ GammaT w.1 w.2 d)

theorem KeptOK.mono {p : Prog} {t m : Nat} {configs : Configs} {kept : Kept}
    (h : KeptOK p t configs kept) (hle : m ≤ t) : KeptOK p m configs kept := fun w hw =>
  ⟨(h w hw).1, (h w hw).2.imp id fun h' m' hm' => h' m' (Nat.lt_of_lt_of_le hm' hle)⟩

theorem KeptOK.step {p : Prog} {t : Nat} {configs configs' : Configs} {kept kept' : Kept}
    (hk : KeptOK p t configs kept) (hks : KeptStep kept kept' configs')
    (here : ∀ m, m < t → ∀ d, RunAt p.toF m d → ∀ Y ∈ configs, ¬ Gamma Y d) :
    KeptOK p t configs' kept' := by
  intro w hw
  rcases hks.2 w hw with hw' | ⟨hb, hZ⟩
  · refine ⟨(hk w hw').1, Or.inr fun m hm d hd hg => ?_⟩
    rcases (hk w hw').2 with ⟨Y, hY, h1, h2⟩ | h
    · exact here m hm d hd Y hY (by rw [gamma_iff, h1, h2]; exact hg)
    · exact h m hm d hd hg
  · exact ⟨hb, Or.inl hZ⟩

theorem blank_of_pushIndef {t : Backstepper} {sh : Bool} (h : (t.pushIndef sh).blank = true) :
    t.blank = true := by
  cases sh <;>
    simp only [Backstepper.pushIndef, Backstepper.blank, Span.blank, Span.pushBlock,
      List.all_cons, Bool.and_eq_true, beq_iff_eq, Bool.false_eq_true, if_false, if_true] at h ⊢
  · exact ⟨⟨h.1.1, h.1.2.2⟩, h.2⟩
  · exact ⟨⟨h.1.1, h.1.2⟩, h.2.2⟩

/-- Following a sweep back.  A configuration of the run in γ of `X` with the indefinite block pushed
    is not the initial one; its predecessor came by the sweeping instruction, and then is in the
    same set (`sweep_pred_stay`), or by another one, which `get_indef` has validated (`hexit`). -/
theorem sweep_back (p : Prog) {X : Config} {sh : Bool} {pr : Nat} {same diff : Entries}
    (hn : ¬ (X.state = 0 ∧ X.tape.blank = true)) (hpull : (X.tape.pullSpan sh).span = [])
    (hsweep : p.get (X.state, X.tape.scan) = some (pr, sh, X.state))
    (hep : (getEntrypoints p).get X.state = some (same, diff)) {t : Nat}
    (hexit : ∀ steps Y, getIndef sh X diff same = some (steps, Y) →
      ∀ r sh' q, (r, sh', q) ∈ steps → ∀ m, m ≤ t → ∀ d, RunAt p.toF m d →
      (Y.tape.pullsIndef sh' = false → GammaT q (Y.tape.backstep sh' r) d) → False) :
    ∀ m, m ≤ t → ∀ d, RunAt p.toF m d → ¬ GammaT X.state (X.tape.pushIndef sh) d := by
  intro m
  induction m with
  | zero =>
    intro _ d hd hgd
    have := gammaT_time_zero hd hgd
    exact hn ⟨this.1, blank_of_pushIndef this.2⟩
  | succ m ihm =>
    intro hm d hd hgd
    obtain ⟨d₁, pr', sh', hrd1, hget', hpred'⟩ := run_pred p m d hd
    rw [hgd.1] at hget'
    by_cases hslot : d₁.state = X.state ∧ d₁.scan = X.tape.scan
    · rw [hslot.1, hslot.2, hsweep] at hget'
      cases hget'
      exact ihm (Nat.le_of_succ_le hm) d₁ hrd1 (sweep_pred_stay hpred' hgd hpull hslot.1 hslot.2)
    · obtain ⟨same', diff', hep', hein'⟩ :=
        EIn_getEntrypoints.2 ⟨Tree.Prog.mem_of_get hget', rfl⟩
      cases hep.symm.trans hep'
      have hmemE : ((d₁.state, d₁.scan), (pr', sh')) ∈ diff ++ same := by
        cases hb : (d₁.state == X.state) with
        | true => rw [hb] at hein'; exact List.mem_append_right _ hein'
        | false => rw [hb] at hein'; exact List.mem_append_left _ hein'
      obtain ⟨steps, hgi, hst⟩ := getIndef_some sh X diff same d₁.state d₁.scan pr' sh' hmemE
        (fun ⟨a, _, c⟩ => hslot ⟨a, c.symm⟩) (checkStep_of_pred hpred' hgd)
      exact hexit _ _ hgi _ _ _ hst m (Nat.le_of_succ_le hm) d₁ hrd1
        (fun hp => gammaT_backstep hpred' hgd rfl hp)

/-- **Soundness of the loop.**  If the (instrumented, repaired) loop answers `refuted k` with the
    flag still `true`, then no configuration of the real run from the blank tape is in γ of a
    configuration of its list.

    Induction on the time `t` of the run.  The predecessor at time `t - 1` of a configuration in
    γ of `X` was validated in this iteration, so it is in γ of a configuration of the next list, or
    of a blank tape kept then; such a tape is in the next list, or in this one, or (`KeptOK`) was
    known before to hold nothing earlier than `t`.  The two places where `get_valid_steps` drops
    or replaces a same-state predecessor are the sweeps: the absorbed one (`sweep_absorbed`) and
    the one followed back to where it was entered (`sweep_back`). -/
theorem loop_sound (p : Prog) (k : Nat) : ∀ (t : Nat) (c : Cfg), RunAt p.toF t c →
    ∀ (fuel step : Nat) (configs : Configs) (kept : Kept) (indef : ValidatedSteps),
    Good true (getEntrypoints p) k fuel step configs kept indef → NoInit configs →
    KeptOK p t configs kept → ∀ X ∈ configs, ¬ Gamma X c := by
  intro t
  induction t using Nat.strongRecOn with
  | ind t ih =>
    intro c hrun fuel step configs kept indef hgood hn hk X hX hG
    cases t with
    | zero =>
      exact hn X hX (gammaT_time_zero hrun hG)
    | succ t' =>
      obtain ⟨c₁, pr, sh, hrun1, hget, hpred⟩ := run_pred p t' c hrun
      have hGT : GammaT X.state X.tape c := hG
      rw [hGT.1] at hget
      obtain ⟨same, diff, hepg, hein⟩ := EIn_getEntrypoints.2 ⟨Tree.Prog.mem_of_get hget, rfl⟩
      obtain ⟨vs, hv, hhandled⟩ := good_handled hgood
      have hvalid : ∀ {v}, ValidOf true (getEntrypoints p) X v → v ∈ vs := fun h =>
        (mem_getValidSteps hv).2 ⟨X, hX, h⟩
      have hc := checkStep_of_pred hpred hGT
      have here : ∀ m, m ≤ t' → ∀ d, RunAt p.toF m d → ∀ Y ∈ configs, ¬ Gamma Y d :=
        fun m hm d hd =>
          ih m (Nat.lt_succ_of_le hm) d hd fuel step configs kept indef hgood hn
            (hk.mono (Nat.le_succ_of_le hm))
      -- what an instruction validated in this iteration leads back to holds no configuration of
      -- the run up to `t'`
      have cover : ∀ instrs Y, (instrs, Y) ∈ vs → ∀ r sh q, (r, sh, q) ∈ instrs →
          ∀ m, m ≤ t' → ∀ d, RunAt p.toF m d →
          (Y.tape.pullsIndef sh = false → GammaT q (Y.tape.backstep sh r) d) → False := by
        intro instrs Y hY r sh q hi m hm d hd hdg
        obtain ⟨hp, configs', kept', hgood', hks, hni, hh⟩ := hhandled instrs Y hY r sh q hi
        have hdg' := hdg hp
        have hk' : KeptOK p (t' + 1) configs' kept' :=
          hk.step hks fun m' hm' => here m' (Nat.le_of_lt_succ hm')
        have hnext : ∀ Z ∈ configs', ¬ Gamma Z d :=
          ih m (Nat.lt_succ_of_le hm) d hd _ _ configs' kept' _ hgood' hni
            (hk'.mono (Nat.le_succ_of_le hm))
        rcases hh.2 with ⟨Z, hZ, h1, h2⟩ | ⟨hb, hw⟩
        · exact hnext Z hZ (by rw [gamma_iff, h1, h2]; exact hdg')
        · obtain ⟨w, hw1, hw2, hw3⟩ := hw rfl
          have hwd : GammaT w.1 w.2 d := by
            rw [hw2]; exact blankSub_sound (hk' w hw1).1 hb hw3 hdg'
          rcases (hk' w hw1).2 with ⟨W, hW, hW1, hW2⟩ | h
          · exact hnext W hW (by rw [gamma_iff, hW1, hW2]; exact hwd)
          · exact h m (Nat.lt_succ_of_le hm) d hd hwd
      -- the ordinary case: the step is among the validated steps of `X`
      have hplain : (c₁.scan, sh, c₁.state) ∈
          checkedSteps X.tape diff ++ (sameSteps true X diff same same).1 → False := by
        intro hmem
        exact cover _ X (hvalid ⟨same, diff, hepg, Or.inr ⟨rfl, List.ne_nil_of_mem hmem⟩⟩) _ _ _ hmem
          t' (Nat.le_refl _) c₁ hrun1
          (fun hp => gammaT_backstep hpred hGT rfl hp)
      by_cases hq : c₁.state = X.state
      · have hbe : (c₁.state == X.state) = true := beq_iff_eq.2 hq
        rw [hbe] at hein
        simp only [if_true] at hein
        have hss := sameSteps_mem true X diff same c₁.state c₁.scan pr sh hc same hein
        cases hcs : X.tape.checkSpinout sh c₁.scan with
        | none =>
          rw [hcs] at hss
          exact hplain (List.mem_append_right _ hss)
        | some b =>
          rw [hcs] at hss
          obtain ⟨h1, h2, h3⟩ := checkSpinout_some hcs
          cases b with
          | false =>
            simp only at hss
            by_cases ha : X.tape.sweepAbsorbed sh = true
            · exact here t' (Nat.le_refl _) c₁ hrun1 X hX
                (sweep_absorbed hpred hGT h2 hq h1.symm ((Bool.not_eq_false' _).mp h3.symm) ha)
            · exact hplain (List.mem_append_right _ (hss (by simp [ha])))
          | true =>
            simp only at hss
            have hsweep := hget
            rw [hq, ← h1] at hsweep
            exact sweep_back p (hn X hX) h2 hsweep hepg
              (fun _ _ hgi => cover _ _ (hvalid ⟨same, diff, hepg, Or.inl (hss _ hgi)⟩))
              t' (Nat.le_refl _) c₁ hrun1 (sweep_pred_indef hpred hGT h2 hq h1.symm)
      · have hbe : (c₁.state == X.state) = false := beq_eq_false_iff_ne.2 hq
        rw [hbe] at hein
        simp only [Bool.false_eq_true, if_false] at hein
        exact hplain (List.mem_append_left _ (mem_checkedSteps.2 ⟨pr, hein, hc⟩))

theorem getKept_mem {configs : Configs} {w : Nat × Backstepper} (h : w ∈ getKept configs) :
    w.2.blank = true ∧ ∃ Y ∈ configs, Y.state = w.1 ∧ Y.tape = w.2 := by
  simp only [getKept, List.mem_filterMap] at h
  obtain ⟨cfg, hc, hw⟩ := h
  split at hw
  · rename_i hb
    simp only [Option.some.injEq] at hw
    subst hw
    exact ⟨hb, cfg, hc, rfl, rfl⟩
  · cases hw

theorem containsKey_of_EIn {ep : Entrypoints} {st : Nat} {b : Bool} {en : Entry}
    (h : EIn ep st b en) : ep.containsKey st = true := by
  obtain ⟨s, d, hg, _⟩ := h
  simp [Entrypoints.containsKey, hg]

theorem good_of_refuted {p : Prog} {depth k : Nat} {targets : Configs}
    (h : cantReach true p depth targets = .ok (.refuted k))
    (hp : (cantReachI true p depth targets).2 = true) {X : Config} (hX : X ∈ targets)
    (hkey : (getEntrypoints p).containsKey X.state = true) :
    Good true (getEntrypoints p) k depth 0
      (targets.filter fun c => (getEntrypoints p).containsKey c.state)
      (getKept (targets.filter fun c => (getEntrypoints p).containsKey c.state)) [] := by
  have h1 : targets.isEmpty = false := List.isEmpty_eq_false_iff_exists_mem.2 ⟨X, hX⟩
  have h2 : (targets.filter fun c => (getEntrypoints p).containsKey c.state).isEmpty = false :=
    List.isEmpty_eq_false_iff_exists_mem.2 ⟨X, List.mem_filter.2 ⟨hX, hkey⟩⟩
  have h3 := cantReachI_fst true p depth targets
  simp only [cantReachI, h1, h2, Bool.false_eq_true, if_false] at h3 hp
  exact Prod.ext (h3.trans h) hp

/-- **Soundness of `cant_reach`** (repaired, instrumented): after a `refuted` answer with the flag
    `true`, no configuration of the real run is in γ of a target. -/
theorem cantReach_sound (p : Prog) (depth k : Nat) (targets : Configs)
    (h : cantReach true p depth targets = .ok (.refuted k))
    (hp : (cantReachI true p depth targets).2 = true) (hnoinit : NoInit targets) :
    ∀ (t : Nat) (c : Cfg), RunAt p.toF t c → ∀ X ∈ targets, ¬ Gamma X c := by
  intro t c hrun X hX hG
  have hkey : (getEntrypoints p).containsKey X.state = true := by
    cases t with
    | zero =>
      exact absurd (gammaT_time_zero hrun hG) (hnoinit X hX)
    | succ t' =>
      obtain ⟨c₁, pr, sh, _, hget, _⟩ := run_pred p t' c hrun
      rw [hG.1] at hget
      exact containsKey_of_EIn (EIn_getEntrypoints.2 ⟨Tree.Prog.mem_of_get hget, rfl⟩)
  exact loop_sound p k t c hrun _ _ _ _ _ (good_of_refuted h hp hX hkey)
    (fun Y hY => hnoinit Y (List.mem_filter.1 hY).1)
    (fun w hw => ⟨(getKept_mem hw).1, Or.inl (getKept_mem hw).2⟩) X
    (List.mem_filter.2 ⟨hX, hkey⟩) hG

end BB.Reason
