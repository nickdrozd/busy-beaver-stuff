/-
The recurrence argument ("Lin recurrence"), on the cell-by-cell machine alone.

Configurations are read by position: `Cfg.cell c i` is the cell at offset `i : Int` from the head,
`hd p t` the absolute head position at time `t` of the run from the blank tape.  If the
configurations at times `n` and `n + m` agree, relative to their heads, on a window `W` of absolute
positions that contains every head position of `[n, n + m]` and is closed under the head's
displacement `δ` over that interval (`LinHyp`), then the same holds with every later time in place
of `n` (`lin_main`): both runs take the same steps.  Hence the slot sequence is periodic, the
machine never halts, and it does not spin out unless it did before time `n + m`
(`LinWitness.spec`).
-/
import BB.Lemmas.StepRefine

namespace BB

/-- the cell at offset `i` from the head (`0` = scanned cell, positive = to the right) -/
def Cfg.cell (c : Cfg) (i : Int) : Nat :=
  if i = 0 then c.scan
  else if 0 < i then cellAt c.right (i - 1).toNat
  else cellAt c.left (-i - 1).toNat

@[simp] theorem Cfg.cell_zero (c : Cfg) : c.cell 0 = c.scan := if_pos rfl

theorem Cfg.cell_pos (c : Cfg) (k : Nat) : c.cell ((k : Int) + 1) = cellAt c.right k := by
  rw [Cfg.cell, if_neg (by omega), if_pos (by omega), Int.add_sub_cancel, Int.toNat_natCast]

theorem Cfg.cell_neg (c : Cfg) (k : Nat) : c.cell (-((k : Int) + 1)) = cellAt c.left k := by
  rw [Cfg.cell, if_neg (by omega), if_neg (by omega), Int.neg_neg, Int.add_sub_cancel,
    Int.toNat_natCast]

theorem int_cases : ∀ i : Int,
    i = 0 ∨ (∃ k : Nat, i = (k : Int) + 1) ∨ (∃ k : Nat, i = -((k : Int) + 1))
  | .ofNat 0 => .inl rfl
  | .ofNat (k + 1) => .inr (.inl ⟨k, rfl⟩)
  | .negSucc k => .inr (.inr ⟨k, Int.negSucc_eq k⟩)

theorem Cfg.Equiv.cell {a b : Cfg} (h : a ≈c b) (i : Int) : a.cell i = b.cell i := by
  unfold Cfg.cell
  rw [h.2.1, h.2.2.2 _, h.2.2.1 _]

def dirI (sh : Bool) : Int := if sh then 1 else -1

theorem Cfg.cell_move (c : Cfg) (pr : Nat) (sh : Bool) (q : Nat) (i : Int) :
    (c.move pr sh q).cell i = if i = -dirI sh then pr else c.cell (i + dirI sh) := by
  cases sh
  · show Cfg.cell ⟨q, c.left.tail, c.left.headD 0, pr :: c.right⟩ i
      = if i = - -1 then pr else c.cell (i + -1)
    rcases int_cases i with rfl | ⟨k, rfl⟩ | ⟨k, rfl⟩
    · exact (cellAt_headD _).trans (c.cell_neg 0).symm
    · rw [Cfg.cell_pos]
      cases k with
      | zero => rfl
      | succ k => rw [if_neg (by omega), Int.add_neg_cancel_right]; exact (c.cell_pos k).symm
    · rw [Cfg.cell_neg, if_neg (by omega), ← Int.neg_add]
      exact (cellAt_tail _ _).trans (c.cell_neg (k + 1)).symm
  · show Cfg.cell ⟨q, pr :: c.left, c.right.headD 0, c.right.tail⟩ i
      = if i = -1 then pr else c.cell (i + 1)
    rcases int_cases i with rfl | ⟨k, rfl⟩ | ⟨k, rfl⟩
    · exact (cellAt_headD _).trans (c.cell_pos 0).symm
    · rw [Cfg.cell_pos, if_neg (by omega)]
      exact (cellAt_tail _ _).trans (c.cell_pos (k + 1)).symm
    · rw [Cfg.cell_neg]
      cases k with
      | zero => rfl
      | succ k =>
        rw [if_neg (by omega), Int.natCast_succ, Int.neg_add, Int.neg_add_cancel_right]
        exact (c.cell_neg k).symm

theorem Cfg.cell_ahead (c : Cfg) (sh : Bool) (k : Nat) :
    c.cell (dirI sh * ((k : Int) + 1)) = cellAt (if sh then c.right else c.left) k := by
  cases sh
  · exact (congrArg c.cell (Int.neg_one_mul _)).trans (c.cell_neg k)
  · exact (congrArg c.cell (Int.one_mul _)).trans (c.cell_pos k)

/-- the displacement of the head caused by the step taken from `c` (`0` when halted) -/
def dirOf (p : ProgF) (c : Cfg) : Int :=
  match p c.state c.scan with
  | some (_, sh, _) => dirI sh
  | none => 0

/-- head displacement after `n` steps from `c` -/
def disp (p : ProgF) (c : Cfg) : Nat → Int
  | 0 => 0
  | n + 1 => disp p c n + (match stepN p n c with | some cj => dirOf p cj | none => 0)

/-- absolute head position at time `t` of the run from the blank tape (start = 0) -/
def hd (p : ProgF) (t : Nat) : Int := disp p Cfg.init t

theorem dirOf_eq {p : ProgF} {c : Cfg} {pr : Nat} {sh : Bool} {q : Nat}
    (h : p c.state c.scan = some (pr, sh, q)) : dirOf p c = dirI sh := by
  simp only [dirOf, h]

theorem disp_succ_of {p : ProgF} {c cj : Cfg} {n : Nat} (h : stepN p n c = some cj) :
    disp p c (n + 1) = disp p c n + dirOf p cj := by
  simp only [disp, h]

theorem hd_succ_of {p : ProgF} {c : Cfg} {t : Nat} (h : RunAt p t c) :
    hd p (t + 1) = hd p t + dirOf p c := disp_succ_of h

theorem disp_add {p : ProgF} {c c' : Cfg} {a : Nat} (h : stepN p a c = some c') (b : Nat) :
    disp p c (a + b) = disp p c a + disp p c' b := by
  induction b with
  | zero => exact (Int.add_zero _).symm
  | succ b ih =>
    rw [← Nat.add_assoc]
    simp only [disp]
    rw [ih, stepN_add, h, Int.add_assoc]
    rfl

theorem hd_add {p : ProgF} {c : Cfg} {t : Nat} (h : RunAt p t c) (b : Nat) :
    hd p (t + b) = hd p t + disp p c b := disp_add h b

theorem disp_const {p : ProgF} {c0 : Cfg} {q s pr : Nat} {d : Bool} {q' : Nat} {k : Nat}
    (hi : p q s = some (pr, d, q'))
    (h : ∀ j, j < k → ∃ c, stepN p j c0 = some c ∧ c.state = q ∧ c.scan = s) :
    ∀ j, j ≤ k → disp p c0 j = dirI d * j := by
  intro j
  induction j with
  | zero => intro _; exact (Int.mul_zero _).symm
  | succ j ih =>
    intro hj
    obtain ⟨c, hc, hs, hsc⟩ := h j hj
    have hd' : dirOf p c = dirI d := dirOf_eq (pr := pr) (q := q') (by rw [hs, hsc]; exact hi)
    rw [disp_succ_of hc, ih (Nat.le_of_succ_le hj), hd', Int.natCast_succ, Int.mul_add,
      Int.mul_one]

/-- `c` (whose head is at absolute position `h`) and `c'` are in the same state and hold, relative
    to their respective heads, the same cells at every absolute position in `W` -/
def AgreeW (W : Int → Prop) (h : Int) (c c' : Cfg) : Prop :=
  c.state = c'.state ∧ ∀ x, W x → c.cell (x - h) = c'.cell (x - h)

theorem AgreeW.scan {W : Int → Prop} {h : Int} {c c' : Cfg} (hag : AgreeW W h c c') (hW : W h) :
    c.scan = c'.scan := by
  have := hag.2 h hW
  simpa using this

theorem AgreeW.congr {W : Int → Prop} {h : Int} {a b a' b' : Cfg} (hag : AgreeW W h a b)
    (ha : a ≈c a') (hb : b ≈c b') : AgreeW W h a' b' :=
  ⟨ha.1.symm.trans (hag.1.trans hb.1), fun x hx => by
    rw [← ha.cell, ← hb.cell]; exact hag.2 x hx⟩

theorem AgreeW.step {W : Int → Prop} {h : Int} {p : ProgF} {c c' d : Cfg}
    (hag : AgreeW W h c c') (hW : W h) (hs : step1 p c = some d) :
    ∃ d', step1 p c' = some d' ∧ AgreeW W (h + dirOf p c) d d' ∧ dirOf p c' = dirOf p c := by
  have hscan := hag.scan hW
  cases hp : p c.state c.scan with
  | none => simp only [step1, hp] at hs; cases hs
  | some i =>
    obtain ⟨pr, sh, q⟩ := i
    have hp' : p c'.state c'.scan = some (pr, sh, q) := by rw [← hag.1, ← hscan]; exact hp
    rw [step1_eq_of hp, Option.some.injEq] at hs
    subst hs
    refine ⟨_, step1_eq_of hp', ⟨?_, ?_⟩, ?_⟩
    · rw [Cfg.move_state, Cfg.move_state]
    · intro x hx
      rw [dirOf_eq hp, Cfg.cell_move, Cfg.cell_move]
      have e : x - (h + dirI sh) + dirI sh = x - h := by omega
      rw [e, hag.2 x hx]
    · rw [dirOf_eq hp, dirOf_eq hp']

/-- hypotheses of the recurrence theorem `lin_main` -/
structure LinHyp (p : ProgF) (W : Int → Prop) (δ : Int) (n m : Nat) : Prop where
  mpos : 0 < m
  closed : ∀ x, W x → W (x + δ)
  run0 : ∃ c0 c1, RunAt p n c0 ∧ RunAt p (n + m) c1 ∧ AgreeW W (hd p n) c0 c1
  shift : hd p (n + m) = hd p n + δ
  win : ∀ t, n ≤ t → t ≤ n + m → W (hd p t)

theorem LinHyp.next {p : ProgF} {W : Int → Prop} {δ : Int} {t m : Nat} (H : LinHyp p W δ t m) :
    LinHyp p W δ (t + 1) m := by
  obtain ⟨c, c', r, r', hag⟩ := H.run0
  have hm := Nat.lt_add_of_pos_right (n := t) H.mpos
  obtain ⟨d, hs, rd⟩ := r.step_of_later r' hm
  obtain ⟨d', hs', hag', hdir⟩ := hag.step (H.win t (Nat.le_refl _) (Nat.le_add_right _ _)) hs
  have e : t + 1 + m = t + m + 1 := Nat.add_right_comm t 1 m
  have h1 : hd p (t + 1) = hd p t + dirOf p c := hd_succ_of r
  -- both runs take the same step, so the displacement over a period stays `δ`
  have h2 : hd p (t + 1 + m) = hd p (t + 1) + δ := by
    rw [e, hd_succ_of r', h1, H.shift, hdir, Int.add_right_comm]
  refine ⟨H.mpos, H.closed, ⟨d, d', rd, e ▸ r'.succ hs', h1 ▸ hag'⟩, h2, fun u hu1 hu2 => ?_⟩
  by_cases hlast : u = t + 1 + m
  · rw [hlast, h2]
    exact H.closed _ (H.win _ (Nat.le_succ t) (Nat.succ_le_of_lt hm))
  · exact H.win u (by omega) (by omega)

theorem lin_main {p : ProgF} {W : Int → Prop} {δ : Int} {n m : Nat} (H : LinHyp p W δ n m) :
    ∀ t, n ≤ t → LinHyp p W δ t m := by
  intro t ht
  obtain ⟨k, rfl⟩ := Nat.exists_eq_add_of_le ht
  clear ht
  induction k with
  | zero => exact H
  | succ k ih => exact ih.next

/-- the (state, scanned colour) sequence of the run from the blank tape has period `m` from step
    `n` on (under a translated cycle the tape contents shift, the slot sequence repeats) -/
def SlotPeriodic (p : ProgF) (n m : Nat) : Prop :=
  0 < m ∧ ∀ j, ∃ c c', RunAt p (n + j) c ∧ RunAt p (n + m + j) c' ∧
    c.state = c'.state ∧ c.scan = c'.scan

theorem lin_periodic {p : ProgF} {W : Int → Prop} {δ : Int} {n m : Nat} (H : LinHyp p W δ n m) :
    SlotPeriodic p n m := by
  refine ⟨H.mpos, fun j => ?_⟩
  have Hj := lin_main H (n + j) (Nat.le_add_right n j)
  obtain ⟨c, c', r, r', hag⟩ := Hj.run0
  rw [Nat.add_right_comm] at r'
  exact ⟨c, c', r, r', hag.1, hag.scan (Hj.win _ (Nat.le_refl _) (Nat.le_add_right _ m))⟩

theorem lin_never_halts {p : ProgF} {W : Int → Prop} {δ : Int} {n m : Nat}
    (H : LinHyp p W δ n m) : NeverHalts p := by
  intro N
  by_cases h : n ≤ N
  · obtain ⟨c, _, r, _⟩ := (lin_main H N h).run0
    exact ⟨c, r⟩
  · obtain ⟨c0, _, r0, _⟩ := H.run0
    exact stepN_le r0 (Nat.le_of_not_le h)

theorem Cfg.move_ahead (c : Cfg) (pr : Nat) (sh : Bool) (q : Nat) :
    (c.move pr sh q).scan = cellAt (if sh then c.right else c.left) 0 ∧
    (if sh then (c.move pr sh q).right else (c.move pr sh q).left)
      = (if sh then c.right else c.left).tail := by
  cases sh <;> exact ⟨cellAt_headD _, rfl⟩

theorem spin_run {p : ProgF} {c : Cfg} {pr : Nat} {sh : Bool} (hs : c.scan = 0)
    (hi : p c.state 0 = some (pr, sh, c.state)) (hz : AllZero (if sh then c.right else c.left)) :
    ∀ j, ∃ cj, stepN p j c = some cj ∧ cj.state = c.state ∧ cj.scan = 0 ∧
      AllZero (if sh then cj.right else cj.left) := by
  intro j
  induction j with
  | zero => exact ⟨c, rfl, rfl, hs, hz⟩
  | succ j ih =>
    obtain ⟨cj, hj, hst, hsc, hzz⟩ := ih
    have hp : p cj.state cj.scan = some (pr, sh, c.state) := by rw [hst, hsc]; exact hi
    obtain ⟨h1, h2⟩ := cj.move_ahead pr sh c.state
    refine ⟨cj.move pr sh c.state, ?_, Cfg.move_state _ _ _ _, h1.trans (hzz 0), h2 ▸ hzz.tail⟩
    rw [stepN_succ_last, hj]; exact step1_eq_of hp

theorem spin_disp {p : ProgF} {c : Cfg} {pr : Nat} {sh : Bool} (hs : c.scan = 0)
    (hi : p c.state 0 = some (pr, sh, c.state)) (hz : AllZero (if sh then c.right else c.left))
    (j : Nat) : disp p c j = dirI sh * j := by
  refine disp_const (k := j) hi (fun i _ => ?_) j (Nat.le_refl _)
  obtain ⟨ci, h1, h2, h3, _⟩ := spin_run hs hi hz i
  exact ⟨ci, h1, h2, h3⟩

theorem W_add_mul {W : Int → Prop} {d : Int} (h : ∀ x, W x → W (x + d)) {x : Int} (hx : W x)
    (k : Nat) : W (x + d * k) := by
  induction k with
  | zero => rw [Int.natCast_zero, Int.mul_zero, Int.add_zero]; exact hx
  | succ k ih =>
    rw [Int.natCast_succ, Int.mul_add, Int.mul_one, ← Int.add_assoc]; exact h _ ih

theorem window_side {W : Int → Prop} (hR : (∀ x, W x → W (x + 1)) ∨ ∃ B, ∀ x, W x → x ≤ B)
    (hL : (∀ x, W x → W (x - 1)) ∨ ∃ B, ∀ x, W x → B ≤ x) (sh : Bool) :
    (∀ x, W x → W (x + dirI sh)) ∨ ∀ x, ∃ N : Nat, ∀ j : Nat, W (x + dirI sh * j) → j ≤ N := by
  cases sh
  · refine hL.imp id fun ⟨B, hB⟩ x => ⟨(x - B).toNat, fun j hj => ?_⟩
    have := hB _ hj
    rw [show dirI false = -1 from rfl] at this
    omega
  · refine hR.imp id fun ⟨B, hB⟩ x => ⟨(B - x).toNat, fun j hj => ?_⟩
    have := hB _ hj
    rw [show dirI true = 1 from rfl] at this
    omega

theorem lin_no_spinout {p : ProgF} {W : Int → Prop} {δ : Int} {n m : Nat} (H : LinHyp p W δ n m)
    (hR : (∀ x, W x → W (x + 1)) ∨ ∃ B, ∀ x, W x → x ≤ B)
    (hL : (∀ x, W x → W (x - 1)) ∨ ∃ B, ∀ x, W x → B ≤ x)
    (hbefore : ∀ t c, t < n + m → RunAt p t c → ¬ SpinOutCfg p c) : ¬ SpinsOut p := by
  have hm := H.mpos
  rintro ⟨t, c, r, hsp⟩
  induction t using Nat.strongRecOn generalizing c with
  | _ t ih =>
    by_cases hlt : t < n + m
    · exact hbefore t c hlt r hsp
    · obtain ⟨hs0, pr, sh, hi, hz⟩ := hsp
      obtain ⟨u, rfl⟩ : ∃ u, t = u + m := ⟨t - m, by omega⟩
      have Hu := lin_main H u (by omega)
      obtain ⟨cu, c', ru, ru', hag⟩ := Hu.run0
      cases ru'.unique r
      have hWu : W (hd p u) := Hu.win _ (Nat.le_refl _) (Nat.le_add_right _ _)
      rcases window_side hR hL sh with hopen | hbd
      · -- the configuration one period earlier sees the same blank cells ahead: it spins out too
        refine ih u (Nat.lt_add_of_pos_right hm) cu ru
          ⟨(hag.scan hWu).trans hs0, pr, sh, by rw [hag.1]; exact hi, fun k => ?_⟩
        have := hag.2 _ (W_add_mul hopen hWu (k + 1))
        rw [Int.add_comm, Int.add_sub_cancel, Int.natCast_succ, Cfg.cell_ahead,
          Cfg.cell_ahead] at this
        exact this.trans (hz k)
      · -- the head runs away in direction `sh` and would leave the window
        obtain ⟨N, hN⟩ := hbd (hd p (u + m))
        have inW : W (hd p (u + m + (N + 1))) :=
          (lin_main H (u + m + (N + 1)) (by omega)).win _ (Nat.le_refl _) (Nat.le_add_right _ _)
        rw [hd_add r, spin_disp hs0 hi hz] at inW
        exact Nat.not_succ_le_self N (hN _ inW)

/-- the hypotheses of the recurrence theorem, together with what `lin_no_spinout` needs -/
def LinWitness (p : ProgF) : Prop :=
  ∃ (W : Int → Prop) (δ : Int) (n m : Nat), LinHyp p W δ n m ∧
    ((∀ x, W x → W (x + 1)) ∨ ∃ B, ∀ x, W x → x ≤ B) ∧
    ((∀ x, W x → W (x - 1)) ∨ ∃ B, ∀ x, W x → B ≤ x) ∧
    (∀ t c, t < n + m → RunAt p t c → ¬ SpinOutCfg p c)

theorem LinWitness.spec {p : ProgF} (h : LinWitness p) :
    (∃ n m, SlotPeriodic p n m) ∧ NeverHalts p ∧ ¬ SpinsOut p := by
  obtain ⟨W, δ, n, m, H, hR, hL, hb⟩ := h
  exact ⟨⟨n, m, lin_periodic H⟩, lin_never_halts H, lin_no_spinout H hR hL hb⟩

end BB
