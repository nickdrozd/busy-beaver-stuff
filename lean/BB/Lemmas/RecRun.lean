/-
`quick_term_or_rec` against the L0 machine: the loop invariant of `recLoop`.

At the top of every iteration
* the current `HeadTape` unrolls to the L0 configuration after some number `n` of steps, its `head`
  is the true head position at that time, the tape is canonical;
* the reference `HeadTape` is the same for an earlier time `n0 ≤ n`;
* `leftmost`/`rightmost` bound every head position of the interval `[n0, n]` (sweeps are monotone,
  so sampling at cycle ends suffices);
* no spin-out configuration occurred before time `n` (the loop tests `at_edge` at every cycle, and
  no spin-out configuration occurs strictly inside a sweep).
A `recur` verdict then yields the hypotheses of the recurrence theorem of `LinRec.lean`.
-/
import BB.Lemmas.RecAlign

namespace BB

/-- the reference snapshot is retaken when `reset` has run down -/
def RState.retake (s : RState) (cycle : Nat) : RState :=
  if s.reset == 0 then
    { s with refState := s.state, refTape := s.tape, leftmost := s.tape.head,
             rightmost := s.tape.head, reset := cycle }
  else s

def lmrm (lm rm curr : Int) : Int × Int :=
  if curr < lm then (curr, rm) else if rm < curr then (lm, curr) else (lm, rm)

/-- the loop state after the step to tape `t'` and state `next` -/
def RState.advance (s : RState) (t' : HeadTape) (next : Nat) : RState :=
  { s with reset := s.reset - 1, state := next, tape := t',
           leftmost := (lmrm s.leftmost s.rightmost t'.head).1,
           rightmost := (lmrm s.leftmost s.rightmost t'.head).2 }

theorem lmrm_spec (lm rm curr : Int) (h : lm ≤ rm) :
    (lmrm lm rm curr).1 ≤ lm ∧ rm ≤ (lmrm lm rm curr).2 ∧
    (lmrm lm rm curr).1 ≤ curr ∧ curr ≤ (lmrm lm rm curr).2 := by
  unfold lmrm
  by_cases h1 : curr < lm
  · rw [if_pos h1]
    exact ⟨Int.le_of_lt h1, Int.le_refl _, Int.le_refl _, Int.le_trans (Int.le_of_lt h1) h⟩
  · rw [if_neg h1]
    by_cases h2 : rm < curr
    · rw [if_pos h2]
      exact ⟨Int.le_refl _, Int.le_of_lt h2, Int.not_lt.1 h1, Int.le_refl _⟩
    · rw [if_neg h2]
      exact ⟨Int.le_refl _, Int.le_refl _, Int.not_lt.1 h1, Int.not_lt.1 h2⟩

theorem sweep_within {lm rm x : Int} (d : Bool) {j k : Nat} (hjk : j ≤ k) (h1 : lm ≤ x)
    (h2 : x ≤ rm) (h3 : lm ≤ x + dirI d * k) (h4 : x + dirI d * k ≤ rm) :
    lm ≤ x + dirI d * j ∧ x + dirI d * j ≤ rm := by
  cases d
  · rw [show dirI false = -1 from rfl, Int.neg_one_mul] at h3 h4 ⊢
    omega
  · rw [show dirI true = 1 from rfl, Int.one_mul] at h3 h4 ⊢
    omega

theorem recIter_none {p : Prog} {cycle : Nat} {s : RState}
    (h : p.get (s.state, s.tape.tape.scan) = none) :
    recIter p cycle s = .inl (.undefined (s.state, s.tape.tape.scan)) := by
  unfold recIter; rw [h]

theorem recIter_some {p : Prog} {cycle : Nat} {s : RState} {color : Nat} {shift : Bool} {next : Nat}
    (h : p.get (s.state, s.tape.tape.scan) = some (color, shift, next)) :
    recIter p cycle s =
      if (s.state == next && s.tape.tape.atEdge shift) = true then .inl .spinout
      else
        let s' := (s.retake cycle).advance (s.tape.step shift color (s.state == next)).1 next
        if (s'.state == s'.refState &&
            s'.tape.alignsWith s'.refTape s'.leftmost s'.rightmost) = true then .inl .recur
        else .inr s' := by
  unfold recIter
  rw [h]
  rfl

theorem HeadTape.step_head (h : HeadTape) (d : Bool) (c : Nat) (sk : Bool) :
    (h.step d c sk).1.head = h.head + dirI d * ((h.tape.step d c sk).2 : Int) := by
  cases d
  · exact (congrArg (h.head + ·) (Int.neg_one_mul _)).symm
  · exact (congrArg (h.head + ·) (Int.one_mul _)).symm

/-- `h`, in state `q`, is the machine at time `n`, and its `head` the true head position -/
structure HeadTape.At (p : ProgF) (h : HeadTape) (q n : Nat) : Prop where
  canon : h.tape.Canon
  head : h.head = hd p n
  run : ∃ c, RunAt p n c ∧ c ≈c h.tape.toCfg q

theorem HeadTape.At.step {p : ProgF} {h : HeadTape} {q n : Nat} (a : h.At p q n) {pr : Nat}
    {d : Bool} {q' : Nat} (hi : p q h.tape.scan = some (pr, d, q')) :
    ∃ k, 0 < k ∧ (h.step d pr (q == q')).1.At p q' (n + k) ∧
      (∀ j, j ≤ k → hd p (n + j) = hd p n + dirI d * j) ∧
      (¬ (q == q' && h.tape.atEdge d) = true →
        (∀ t c, t < n → RunAt p t c → ¬ SpinOutCfg p c) →
        ∀ t c, t < n + k → RunAt p t c → ¬ SpinOutCfg p c) := by
  obtain ⟨c, hrun, hc⟩ := a.run
  obtain ⟨hpos, ⟨c', hc', e'⟩, mid⟩ := Tape.cycle_refines a.canon.pos hi hc
  have hdj : ∀ j, j ≤ (h.tape.step d pr (q == q')).2 → hd p (n + j) = hd p n + dirI d * j :=
    fun j hj => by
      rw [hd_add hrun]
      exact congrArg _ (disp_const hi (fun i hi => by
        obtain ⟨ci, h1, h2, h3, -⟩ := mid i hi
        exact ⟨ci, h1, h2, h3⟩) j hj)
  refine ⟨_, hpos, ⟨Tape.canon_step a.canon _ _ _, ?_, c', stepN_add_of_eq hrun hc', e'⟩, hdj,
    Tape.cycle_noSpin a.canon hi hrun hc⟩
  rw [HeadTape.step_head, hdj _ (Nat.le_refl _), a.head]

/-- the invariant, for given times `n` (current configuration) and `n0` (reference) -/
structure RecInvAt (p : Prog) (s : RState) (n n0 : Nat) : Prop where
  cur : s.tape.At p.toF s.state n
  ref : s.refTape.At p.toF s.refState n0
  win : ∀ t, n0 ≤ t → t ≤ n → s.leftmost ≤ hd p.toF t ∧ hd p.toF t ≤ s.rightmost
  noSpin : ∀ t c, t < n → RunAt p.toF t c → ¬ SpinOutCfg p.toF c

def RecInv (p : Prog) (s : RState) : Prop := ∃ n n0, n0 ≤ n ∧ RecInvAt p s n n0

theorem RecInv.init {p : Prog} (h0 : p.get (0, 0) = some (1, true, 1)) : RecInv p RState.init := by
  have hp : p.toF Cfg.init.state Cfg.init.scan = some (1, true, 1) := h0
  have hhd : hd p.toF 1 = 1 := (hd_succ_of (t := 0) rfl).trans (congrArg _ (dirOf_eq hp))
  have hat : HeadTape.initStepped.At p.toF 1 1 :=
    ⟨⟨⟨by decide, by decide⟩, trivial⟩, hhd.symm,
      _, (stepN_one _ _).trans (step1_eq_of hp), Cfg.Equiv.refl _⟩
  refine ⟨1, 1, Nat.le_refl _, hat, hat, fun t h1 h2 => ?_, fun t c ht hr hsp => ?_⟩
  · cases Nat.le_antisymm h2 h1
    rw [hhd]
    exact ⟨Int.le_refl _, Int.le_refl _⟩
  · -- the start configuration leaves state 0
    cases Nat.lt_one_iff.1 ht
    cases hr.unique (rfl : RunAt p.toF 0 Cfg.init)
    obtain ⟨-, pr, sh, hi, -⟩ := hsp
    rw [show p.toF Cfg.init.state 0 = some (1, true, 1) from h0] at hi
    cases hi

theorem RState.retake_state (s : RState) (cycle : Nat) : (s.retake cycle).state = s.state := by
  unfold RState.retake; split <;> rfl

theorem RState.retake_tape (s : RState) (cycle : Nat) : (s.retake cycle).tape = s.tape := by
  unfold RState.retake; split <;> rfl

theorem RecInv.retake {p : Prog} {s : RState} (inv : RecInv p s) (cycle : Nat) :
    RecInv p (s.retake cycle) := by
  unfold RState.retake
  split
  · obtain ⟨n, n0, -, a⟩ := inv
    refine ⟨n, n, Nat.le_refl _, a.cur, a.cur, fun t h1 h2 => ?_, a.noSpin⟩
    cases Nat.le_antisymm h2 h1
    exact a.cur.head ▸ ⟨Int.le_refl _, Int.le_refl _⟩
  · exact inv

theorem RecInvAt.advance {p : Prog} {s : RState} {n n0 : Nat} (inv : RecInvAt p s n n0) (hle : n0 ≤ n)
    {color : Nat} {shift : Bool} {next : Nat}
    (hget : p.get (s.state, s.tape.tape.scan) = some (color, shift, next))
    (hedge : ¬ (s.state == next && s.tape.tape.atEdge shift) = true) :
    ∃ n', n < n' ∧
      RecInvAt p (s.advance (s.tape.step shift color (s.state == next)).1 next) n' n0 := by
  obtain ⟨k, hk, hat, hdj, hns⟩ := inv.cur.step (p := p.toF) hget
  refine ⟨n + k, Nat.lt_add_of_pos_right hk, hat, inv.ref, fun t h1 h2 => ?_,
    hns hedge inv.noSpin⟩
  have hn := inv.win n hle (Nat.le_refl _)
  have hsp := lmrm_spec s.leftmost s.rightmost (hd p.toF n + dirI shift * k)
    (Int.le_trans hn.1 hn.2)
  show (lmrm _ _ _).1 ≤ _ ∧ _ ≤ (lmrm _ _ _).2
  rw [hat.head, hdj k (Nat.le_refl _)]
  by_cases ht : t ≤ n
  · have := inv.win t h1 ht
    exact ⟨Int.le_trans hsp.1 this.1, Int.le_trans this.2 hsp.2.1⟩
  · obtain ⟨j, rfl⟩ : ∃ j, t = n + j := ⟨t - n, by omega⟩
    rw [hdj j (Nat.le_of_add_le_add_left h2)]
    exact sweep_within shift (Nat.le_of_add_le_add_left h2) (Int.le_trans hsp.1 hn.1)
      (Int.le_trans hn.2 hsp.2.1) hsp.2.2.1 hsp.2.2.2

theorem RecInvAt.recur {p : Prog} {s : RState} {n n0 : Nat} (inv : RecInvAt p s n n0) (hlt : n0 < n)
    (hstate : s.state = s.refState)
    (hal : s.tape.alignsWith s.refTape s.leftmost s.rightmost = true) : LinWitness p.toF := by
  obtain ⟨c, hrun, hc⟩ := inv.cur.run
  obtain ⟨c0, hrun0, hc0⟩ := inv.ref.run
  obtain ⟨k, rfl⟩ := Nat.exists_eq_add_of_lt hlt
  have hw0 := inv.win n0 (Nat.le_refl _) (Nat.le_add_right n0 (k + 1))
  rw [← inv.ref.head] at hw0
  have hag := HeadTape.alignsWith_agree inv.cur.canon inv.ref.canon hw0.1 hw0.2 hal s.refState
  refine ⟨_, s.tape.head - s.refTape.head, n0, k + 1, ⟨Nat.succ_pos k, fun _ => driftWindow.closed,
    ⟨c0, c, hrun0, hrun, inv.ref.head ▸ hag.congr hc0.symm (hstate ▸ hc.symm)⟩, ?_,
    fun t h1 h2 => driftWindow.of_mem (inv.win t h1 h2)⟩,
    driftWindow.right _ _ _, driftWindow.left _ _ _, inv.noSpin⟩
  rw [inv.cur.head, inv.ref.head]
  exact Int.sub_eq_iff_eq_add'.1 rfl

/-- what a verdict of the loop means -/
def RResSpec (p : Prog) : RecRes → Prop
  | .limit => True
  | .spinout => SpinsOut p.toF
  | .undefined sl => ∃ n, HaltsAt p.toF n sl.1 sl.2
  | .recur => LinWitness p.toF

theorem recIter_spec (p : Prog) (cycle : Nat) (s : RState) (inv : RecInv p s) :
    Sum.elim (RResSpec p) (RecInv p) (recIter p cycle s) := by
  cases hget : p.get (s.state, s.tape.tape.scan) with
  | none =>
    rw [recIter_none hget]
    obtain ⟨n, n0, -, a⟩ := inv
    obtain ⟨c, hrun, hc⟩ := a.cur.run
    exact ⟨n, c, hrun, hc.1, hc.2.1, hget⟩
  | some i =>
    obtain ⟨color, shift, next⟩ := i
    rw [recIter_some hget]
    by_cases hedge : (s.state == next && s.tape.tape.atEdge shift) = true
    · rw [if_pos hedge]
      obtain ⟨n, n0, -, a⟩ := inv
      obtain ⟨c, hrun, hc⟩ := a.cur.run
      rw [Bool.and_eq_true, beq_iff_eq] at hedge
      exact ⟨n, c, hrun, SpinOutCfg.congr hc.symm
        (Tape.spinOutCfg_of_atEdge a.cur.canon (hedge.1.symm ▸ hget) hedge.2)⟩
    · rw [if_neg hedge]
      obtain ⟨n, n0, hle, a⟩ := inv.retake cycle
      rw [← s.retake_state cycle, ← s.retake_tape cycle] at hget hedge ⊢
      obtain ⟨n', hn', a'⟩ := a.advance hle hget hedge
      simp only
      split
      · next hrec =>
        rw [Bool.and_eq_true, beq_iff_eq] at hrec
        exact a'.recur (by omega) hrec.1 hrec.2
      · exact ⟨n', n0, by omega, a'⟩

theorem recLoop_spec (p : Prog) (fuel cycle : Nat) (s : RState) (inv : RecInv p s) :
    RResSpec p (recLoop p fuel cycle s) := by
  induction fuel generalizing cycle s with
  | zero => trivial
  | succ fuel ih =>
    have spec := recIter_spec p cycle s inv
    rw [recLoop]
    cases hi : recIter p cycle s with
    | inl r => rw [hi] at spec; exact spec
    | inr s' => rw [hi] at spec; exact ih (cycle + 1) s' spec

/-- **C07.** Every verdict of the quick recurrence check on a program in normal form (A0 = 1RB)
    is true of the machine. -/
theorem quickTermOrRec_spec (p : Prog) (lim : Nat) (h0 : p.get (0, 0) = some (1, true, 1))
    {r : RecRes} (h : quickTermOrRec p lim = r) : RResSpec p r :=
  h ▸ recLoop_spec p _ _ _ (RecInv.init h0)

end BB
