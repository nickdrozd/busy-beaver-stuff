/-
C08 / C09: `run_simulator` over a base program against L0, whatever the kind of macro.  One
iteration of its `'step` loop is a run of base steps in the window (`iterStep_ends`); from that,
what the three answers of `runSimulator` on a slot's window mean.
-/
import BB.Lemmas.MacroWindow

namespace BB.MacroSim

open BB BB.Macros

def toL : SimStep → LStep
  | .exit (q, (d, t)) => .exit q d t
  | .cont q w => .cont q w

/-- one iteration of the `'step` loop of `run_simulator` over the base program `p` -/
def iterStep (p : ProgF) (q : Nat) (w : Win) : LStep :=
  match p q w.scan with
  | none => .halt
  | some i => toL (simStep q w i)

theorem sweepRight_ends {p : ProgF} {q s c : Nat} (hp : p q s = some (c, true, q)) :
    ∀ (right left : List Nat),
      ∃ n, Ends p n q ⟨left, s, right⟩ (toL (sweepRight q s c (c :: left) right)) := by
  intro right
  induction right with
  | nil =>
    intro left
    exact ⟨0, .one (by simp [lstep, hp, sweepRight, toL])⟩
  | cons y ys ih =>
    intro left
    have hl : lstep p q ⟨left, s, y :: ys⟩ = .cont q ⟨c :: left, y, ys⟩ := by simp [lstep, hp]
    by_cases hy : y = s
    · subst hy
      obtain ⟨n, hn⟩ := ih (c :: left)
      exact ⟨n + 1, .step hl (by simpa [sweepRight] using hn)⟩
    · exact ⟨0, .one (by rw [hl]; simp [sweepRight, hy, toL])⟩

theorem sweepLeft_ends {p : ProgF} {q s c : Nat} (hp : p q s = some (c, false, q)) :
    ∀ (left right : List Nat),
      ∃ n, Ends p n q ⟨left, s, right⟩ (toL (sweepLeft q s c left (c :: right))) := by
  intro left
  induction left with
  | nil =>
    intro right
    exact ⟨0, .one (by simp [lstep, hp, sweepLeft, toL])⟩
  | cons y ys ih =>
    intro right
    have hl : lstep p q ⟨y :: ys, s, right⟩ = .cont q ⟨ys, y, c :: right⟩ := by simp [lstep, hp]
    by_cases hy : y = s
    · subst hy
      obtain ⟨n, hn⟩ := ih (c :: right)
      exact ⟨n + 1, .step hl (by simpa [sweepLeft] using hn)⟩
    · exact ⟨0, .one (by rw [hl]; simp [sweepLeft, hy, toL])⟩

theorem iterStep_ends (p : ProgF) (q : Nat) (w : Win) : ∃ n, Ends p n q w (iterStep p q w) := by
  obtain ⟨left, s, right⟩ := w
  cases hp : p q s with
  | none => exact ⟨0, .one (by simp [lstep, iterStep, hp])⟩
  | some i =>
    obtain ⟨c, sh, q'⟩ := i
    by_cases hq : q' = q
    · subst hq
      cases sh with
      | true =>
        obtain ⟨n, hn⟩ := sweepRight_ends hp right left
        exact ⟨n, by simpa [iterStep, hp, simStep, sweepRight] using hn⟩
      | false =>
        obtain ⟨n, hn⟩ := sweepLeft_ends hp left right
        exact ⟨n, by simpa [iterStep, hp, simStep, sweepLeft] using hn⟩
    · refine ⟨0, .one ?_⟩
      cases sh
      · cases left <;> simp [lstep, iterStep, hp, simStep, hq, toL]
      · cases right <;> simp [lstep, iterStep, hp, simStep, hq, toL]

/-- The loop body for a fetched instruction is a run of cell steps of the program that has this
    instruction in every slot: its outcome has whatever each of those steps keeps. -/
theorem simStep_all {P : Nat → MTape → Prop} (q : Nat) (w : Win) (instr : Instr)
    (hP : Inv (fun _ _ => some instr) P) (h0 : P q w.toTape) : (toL (simStep q w instr)).All P :=
  let ⟨_, hn⟩ := iterStep_ends (fun _ _ => some instr) q w
  hn.all hP h0

theorem simLoop_succ (p : ProgF) (fuel q : Nat) (w : Win) :
    simLoop (pureGet (innerOf p)) (fuel + 1) () q w =
      match iterStep p q w with
      | .halt => .ok (none, ())
      | .exit q' d t => .ok (some (q', (d, t)), ())
      | .cont q' w' => simLoop (pureGet (innerOf p)) fuel () q' w' := by
  simp only [simLoop, pureGet, innerOf, iterStep]
  cases hp : p q w.scan with
  | none => rfl
  | some i =>
    simp only
    cases hs : simStep q w i with
    | exit cfg => obtain ⟨q', d, t⟩ := cfg; rfl
    | cont q' w' => rfl

theorem simLoop_spec (p : ProgF) (fuel q : Nat) (w : Win) :
    ∃ o n r, simLoop (pureGet (innerOf p)) fuel () q w = .ok (o, ()) ∧ Ends p n q w r ∧
      ((o = none ∧ fuel ≤ n) ∨ (o = none ∧ r = .halt) ∨
        ∃ q' d t, o = some (q', (d, t)) ∧ r = .exit q' d t) := by
  induction fuel generalizing q w with
  | zero => exact ⟨none, 0, _, rfl, .one rfl, .inl ⟨rfl, Nat.le_refl _⟩⟩
  | succ fuel ih =>
    rw [simLoop_succ]
    obtain ⟨n, hn⟩ := iterStep_ends p q w
    cases hit : iterStep p q w with
    | halt => exact ⟨none, n, _, rfl, hn, .inr (.inl ⟨rfl, hit⟩)⟩
    | exit q' d t => exact ⟨_, n, _, rfl, hn, .inr (.inr ⟨q', d, t, rfl, hit⟩)⟩
    | cont q' w' =>
      obtain ⟨o, m, r, h1, h2, h3⟩ := ih q' w'
      refine ⟨o, n + (m + 1), r, h1, (hit ▸ hn).after h2, ?_⟩
      rcases h3 with ⟨h3, h4⟩ | h3
      · exact .inl ⟨h3, by omega⟩
      · exact .inr h3

/-- the configuration at the start of iteration `i` (if the loop gets there) -/
def sweepIter (p : ProgF) : Nat → Nat → Win → Option (Nat × Win)
  | 0, q, w => some (q, w)
  | i + 1, q, w =>
    match iterStep p q w with
    | .cont q' w' => sweepIter p i q' w'
    | _ => none

/-- Converse of the halt case of `simLoop_spec`, counted in iterations instead of base steps. -/
theorem simLoop_of_halt {p : ProgF} {fuel q : Nat} {w : Win} {i qi : Nat} {wi : Win}
    (hi : i < fuel) (h1 : sweepIter p i q w = some (qi, wi)) (h2 : iterStep p qi wi = .halt) :
    simLoop (pureGet (innerOf p)) fuel () q w = .ok (none, ()) := by
  induction fuel generalizing i q w with
  | zero => exact absurd hi (Nat.not_lt_zero i)
  | succ f ih =>
    rw [simLoop_succ]
    cases i with
    | zero => cases h1; rw [h2]
    | succ i =>
      simp only [sweepIter] at h1
      cases hit : iterStep p q w with
      | halt => rfl
      | exit q1 d1 t1 => rw [hit] at h1; cases h1
      | cont q1 w1 => rw [hit] at h1; exact ih (Nat.lt_of_succ_lt_succ hi) h1

theorem runSimulator_enter {σ : Type} (get : GetFn σ) (lim : Nat) (prog : σ) (q : Nat) (re : Bool)
    {tape : MTape} (ht : tape ≠ []) :
    ∃ w, w.toTape = tape ∧ (∀ oL oR, embed q w oL oR = enterCfg q re tape oL oR) ∧
      runSimulator get lim prog (q, (re, tape)) = simLoop get lim prog q w := by
  cases re with
  | false =>
    cases tape with
    | nil => exact absurd rfl ht
    | cons x rest => exact ⟨⟨[], x, rest⟩, rfl, fun _ _ => by simp [embed, enterCfg], rfl⟩
  | true =>
    cases h : tape.reverse with
    | nil => exact absurd (List.reverse_eq_nil_iff.1 h) ht
    | cons c rest =>
      refine ⟨⟨rest, c, []⟩, ?_, fun _ _ => by simp [embed, enterCfg, h], ?_⟩
      · rw [← List.reverse_reverse tape, h]; simp [Win.toTape]
      · simp only [runSimulator, Win.atRight, h, if_true]

theorem runSimulator_ok (p : ProgF) (lim q : Nat) (re : Bool) {tape : MTape} (ht : tape ≠ []) :
    ∃ o, runSimulator (pureGet (innerOf p)) lim () (q, (re, tape)) = .ok (o, ()) ∧
      ∀ q' d t, o = some (q', (d, t)) → t.length = tape.length := by
  obtain ⟨w, hw, _, hrun⟩ := runSimulator_enter (pureGet (innerOf p)) lim () q re ht
  obtain ⟨o, n, r, heq, he, hc⟩ := simLoop_spec p lim q w
  refine ⟨o, hrun.trans heq, fun q' d t ho => ?_⟩
  rcases hc with ⟨rfl, _⟩ | ⟨rfl, _⟩ | ⟨_, _, _, rfl, rfl⟩ <;> cases ho
  exact he.all (inv_length p tape.length) (congrArg List.length hw)

theorem runSimulator_some {p : ProgF} {S C k : Nat} (hcl : Closed p S C) {q : Nat} {tape : MTape}
    (h0 : Fits S C k q tape) (hk : 1 ≤ k) (oL oR : List Nat) {lim : Nat} {re : Bool} {q' : Nat}
    {d : Bool} {t : MTape} {u : Unit}
    (h : runSimulator (pureGet (innerOf p)) lim () (q, (re, tape)) = .ok (some (q', (d, t)), u)) :
    Fits S C k q' t ∧
      ∃ n, 1 ≤ n ∧ RunsIn p k oL oR n (enterCfg q re tape oL oR) (exitCfg q' d t oL oR) := by
  have ht : tape ≠ [] := List.ne_nil_of_length_pos (by rw [h0.2.1]; exact hk)
  obtain ⟨w, hw, hemb, hrun⟩ := runSimulator_enter (pureGet (innerOf p)) lim () q re ht
  obtain ⟨o, n, r, heq, he, hc⟩ := simLoop_spec p lim q w
  rw [hrun, heq] at h
  cases h
  rcases hc with ⟨ho, _⟩ | ⟨ho, _⟩ | ⟨_, _, _, ho, rfl⟩ <;> cases ho
  subst hw
  obtain ⟨c', hr, hin, hs⟩ := he.post oL oR h0.2.1
  exact ⟨he.all (inv_fits hcl k) h0, n + 1, Nat.le_add_left 1 n,
    hemb oL oR ▸ hr.trans (RunsIn.one hin hs)⟩

theorem runSimulator_none {p : ProgF} {S C k : Nat} (hcl : Closed p S C) {q : Nat} {tape : MTape}
    (h0 : Fits S C k q tape) (hk : 1 ≤ k) (oL oR : List Nat) {lim : Nat} {re : Bool} {u : Unit}
    (h : runSimulator (pureGet (innerOf p)) lim () (q, (re, tape)) = .ok (none, u)) :
    HaltsInside p k oL oR (enterCfg q re tape oL oR) ∨
      (StaysFor p k oL oR lim (enterCfg q re tape oL oR) ∧
        (S * k * C ^ k ≤ lim → NeverLeaves p k oL oR (enterCfg q re tape oL oR))) := by
  have ht : tape ≠ [] := List.ne_nil_of_length_pos (by rw [h0.2.1]; exact hk)
  obtain ⟨w, hw, hemb, hrun⟩ := runSimulator_enter (pureGet (innerOf p)) lim () q re ht
  obtain ⟨o, n, r, heq, he, hc⟩ := simLoop_spec p lim q w
  rw [hrun, heq] at h
  cases h
  subst hw
  rw [← hemb]
  obtain ⟨c', hr, hin, hs⟩ := he.post oL oR h0.2.1
  rcases hc with ⟨_, hn⟩ | ⟨_, rfl⟩ | ⟨_, _, _, ho, _⟩
  · obtain ⟨x, hx, _⟩ := he
    exact .inr ⟨⟨n, c', hn, hr, hin⟩, fun hN =>
      neverLeaves_of_lrun hcl oL oR h0 (Nat.le_trans hN hn) hx⟩
  · exact .inl ⟨n, c', hr, hin, hs⟩
  · cases ho

theorem exit_not_in_window (k q : Nat) (d : Bool) (t : List Nat) (ht : t.length = k)
    (outL outR : List Nat) : ¬ InWindow k outL outR (exitCfg q d t outL outR) := by
  rintro ⟨w, hw, he⟩
  simp only [Win.toTape, List.length_append, List.length_reverse, List.length_cons] at hw
  cases d with
  | true =>
    have := congrArg (fun c => c.left.length) he
    simp [exitCfg, embed] at this
    omega
  | false =>
    have := congrArg (fun c => c.right.length) he
    simp [exitCfg, embed] at this
    omega

theorem RunsIn.le_exit {p : ProgF} {k : Nat} {oL oR : List Nat} {n m : Nat} {c e e' : Cfg}
    (h : RunsIn p k oL oR n c e) (he : ¬ InWindow k oL oR e) (h' : RunsIn p k oL oR m c e') :
    m ≤ n := by
  refine Nat.le_of_not_lt fun hlt => ?_
  obtain ⟨ci, h1, h2⟩ := h'.2 n hlt
  obtain rfl : e = ci := Option.some.inj (h.1.symm.trans h1)
  exact he h2

theorem exit_unique {p : ProgF} {k : Nat} {oL oR : List Nat} {n m : Nat} {c e e' : Cfg}
    (h : RunsIn p k oL oR n c e) (he : ¬ InWindow k oL oR e)
    (h' : RunsIn p k oL oR m c e') (he' : ¬ InWindow k oL oR e') : n = m ∧ e = e' := by
  obtain rfl : n = m := Nat.le_antisymm (h'.le_exit he' h) (h.le_exit he h')
  exact ⟨rfl, Option.some.inj (h.1.symm.trans h'.1)⟩

theorem exit_excludes {p : ProgF} {k : Nat} {oL oR : List Nat} {n : Nat} {c0 e : Cfg}
    (hr : RunsIn p k oL oR n c0 e) (he : ¬ InWindow k oL oR e) :
    ¬ HaltsInside p k oL oR c0 ∧ ¬ NeverLeaves p k oL oR c0 := by
  constructor
  · rintro ⟨m, c', hr', hw, hs⟩
    rcases Nat.lt_or_eq_of_le (hr.le_exit he hr') with hlt | rfl
    · -- halted at step `m < n`, yet step `m + 1` exists
      obtain ⟨c'', h1⟩ := stepN_le hr.1 (Nat.succ_le_of_lt hlt)
      rw [stepN_succ_last, hr'.1, Option.bind_some, hs] at h1
      cases h1
    · obtain rfl : e = c' := Option.some.inj (hr.1.symm.trans hr'.1)
      exact he hw
  · intro hn
    obtain ⟨c', h1, h2⟩ := hn n
    obtain rfl : e = c' := Option.some.inj (hr.1.symm.trans h1)
    exact he h2

theorem runSimulator_none_of {p : ProgF} {S C k : Nat} (hcl : Closed p S C) {q : Nat}
    {tape : MTape} (h0 : Fits S C k q tape) (hk : 1 ≤ k) (oL oR : List Nat) (lim : Nat) (re : Bool)
    (h : HaltsInside p k oL oR (enterCfg q re tape oL oR) ∨
      NeverLeaves p k oL oR (enterCfg q re tape oL oR)) :
    runSimulator (pureGet (innerOf p)) lim () (q, (re, tape)) = .ok (none, ()) := by
  have ht : tape ≠ [] := List.ne_nil_of_length_pos (by rw [h0.2.1]; exact hk)
  obtain ⟨o, hs, _⟩ := runSimulator_ok p lim q re ht
  cases o with
  | none => exact hs
  | some out =>
    obtain ⟨q', d, t⟩ := out
    obtain ⟨ht, n, _, hr⟩ := runSimulator_some hcl h0 hk oL oR hs
    have hex := exit_excludes hr (exit_not_in_window _ _ _ _ ht.2.1 oL oR)
    exact h.elim (absurd · hex.1) (absurd · hex.2)

end BB.MacroSim
