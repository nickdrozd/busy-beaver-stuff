/-
Runs of the cell-by-cell machine (L0), the target of the refinement: they compose (`stepN_add`),
respect `≈c` (`stepN_congr`), and a blank tape met twice in the same state
means the machine never halts.
-/
import BB.Model.Machine
import BB.Lemmas.Unroll

namespace BB

theorem stepN_zero (p : ProgF) (c : Cfg) : stepN p 0 c = some c := rfl

theorem stepN_succ (p : ProgF) (n : Nat) (c : Cfg) :
    stepN p (n + 1) c = (step1 p c).bind (stepN p n) := by
  rw [stepN]
  cases step1 p c <;> rfl

theorem stepN_one (p : ProgF) (c : Cfg) : stepN p 1 c = step1 p c := by
  rw [stepN_succ]
  cases step1 p c <;> rfl

theorem stepN_add (p : ProgF) (a b : Nat) (c : Cfg) :
    stepN p (a + b) c = (stepN p a c).bind (stepN p b) := by
  induction a generalizing c with
  | zero => rw [Nat.zero_add]; rfl
  | succ a ih =>
    rw [Nat.add_right_comm, stepN_succ, stepN_succ]
    cases step1 p c with
    | none => rfl
    | some c' => exact ih c'

theorem stepN_succ_last (p : ProgF) (n : Nat) (c : Cfg) :
    stepN p (n + 1) c = (stepN p n c).bind (step1 p) := by
  rw [stepN_add]
  exact congrArg _ (funext (stepN_one p))

theorem stepN_add_of_eq {p : ProgF} {a b : Nat} {c c' c'' : Cfg}
    (h1 : stepN p a c = some c') (h2 : stepN p b c' = some c'') :
    stepN p (a + b) c = some c'' := by
  rw [stepN_add, h1]; exact h2

theorem stepN_prefix {p : ProgF} {a b : Nat} {c c'' : Cfg} (h : stepN p (a + b) c = some c'') :
    ∃ c', stepN p a c = some c' ∧ stepN p b c' = some c'' := by
  rw [stepN_add] at h
  exact Option.bind_eq_some_iff.1 h

theorem stepN_le {p : ProgF} {a n : Nat} {c c'' : Cfg} (h : stepN p n c = some c'') (ha : a ≤ n) :
    ∃ c', stepN p a c = some c' := by
  obtain ⟨b, rfl⟩ := Nat.exists_eq_add_of_le ha
  obtain ⟨c', h1, _⟩ := stepN_prefix h
  exact ⟨c', h1⟩

theorem Cfg.move_state (c : Cfg) (pr : Nat) (sh : Bool) (q : Nat) : (c.move pr sh q).state = q := by
  cases sh <;> rfl

/-- the half-tape a step in direction `sh` leaves behind: the side the printed cell goes to -/
def Cfg.behind (c : Cfg) (sh : Bool) : List Nat := if sh then c.left else c.right
/-- the half-tape ahead of a step in direction `sh`: the side the next scanned cell comes from -/
def Cfg.ahead (c : Cfg) (sh : Bool) : List Nat := if sh then c.right else c.left

theorem Cfg.behind_move (c : Cfg) (pr : Nat) (sh : Bool) (q : Nat) :
    (c.move pr sh q).behind sh = pr :: c.behind sh := by cases sh <;> rfl

theorem Cfg.ahead_move (c : Cfg) (pr : Nat) (sh : Bool) (q : Nat) :
    (c.move pr sh q).ahead sh = (c.ahead sh).tail := by cases sh <;> rfl

theorem Cfg.blank_iff (c : Cfg) (sh : Bool) :
    c.Blank ↔ c.scan = 0 ∧ AllZero (c.behind sh) ∧ AllZero (c.ahead sh) := by
  cases sh
  · exact and_congr_right fun _ => and_comm
  · exact Iff.rfl

/-- a step onto the blank tape has printed 0 next to zeros and had only zeros ahead -/
theorem Cfg.blank_move {c : Cfg} {pr : Nat} {sh : Bool} {q : Nat} (h : (c.move pr sh q).Blank) :
    AllZero (pr :: c.behind sh) ∧ AllZero (c.ahead sh) := by
  obtain ⟨h0, hb, ha⟩ := (Cfg.blank_iff _ sh).1 h
  rw [Cfg.behind_move] at hb
  rw [Cfg.ahead_move] at ha
  exact ⟨hb, allZero_of_head_tail (by cases sh <;> exact h0) ha⟩

/-- a step turns a non-blank tape blank only by printing 0 over a non-zero cell -/
theorem Cfg.erase_move {c : Cfg} {pr : Nat} {sh : Bool} {q : Nat} (hnb : ¬ c.Blank)
    (h : (c.move pr sh q).Blank) : pr = 0 ∧ c.scan ≠ 0 ∧ AllZero c.left ∧ AllZero c.right := by
  obtain ⟨hb, ha⟩ := Cfg.blank_move h
  obtain ⟨hpr, hb⟩ := allZero_cons_iff.1 hb
  have hlr : AllZero c.left ∧ AllZero c.right := by
    cases sh
    · exact ⟨ha, hb⟩
    · exact ⟨hb, ha⟩
  exact ⟨hpr, fun h0 => hnb ⟨h0, hlr⟩, hlr⟩

theorem step1_eq_of {p : ProgF} {c : Cfg} {pr : Nat} {sh : Bool} {q : Nat}
    (h : p c.state c.scan = some (pr, sh, q)) : step1 p c = some (c.move pr sh q) := by
  simp only [step1, h]

theorem step1_eq_some {p : ProgF} {c c' : Cfg} (h : step1 p c = some c') :
    ∃ pr sh q, p c.state c.scan = some (pr, sh, q) ∧ c' = c.move pr sh q := by
  unfold step1 at h
  split at h
  · cases h
  · rename_i pr sh q hi
    exact ⟨pr, sh, q, hi, (Option.some.inj h).symm⟩

theorem RunAt.unique {p : ProgF} {n : Nat} {c c' : Cfg} (h : RunAt p n c) (h' : RunAt p n c') :
    c = c' := Option.some.inj (h.symm.trans h')

theorem runAt_succ {p : ProgF} {n : Nat} {c' : Cfg} :
    RunAt p (n + 1) c' ↔ ∃ c, RunAt p n c ∧ step1 p c = some c' := by
  unfold RunAt
  rw [stepN_succ_last]
  exact Option.bind_eq_some_iff

theorem RunAt.succ {p : ProgF} {n : Nat} {c d : Cfg} (h : RunAt p n c) (hs : step1 p c = some d) :
    RunAt p (n + 1) d := runAt_succ.2 ⟨c, h, hs⟩

theorem RunAt.step_of_later {p : ProgF} {t t' : Nat} {c c' : Cfg} (h : RunAt p t c)
    (h' : RunAt p t' c') (hlt : t < t') : ∃ d, step1 p c = some d ∧ RunAt p (t + 1) d := by
  obtain ⟨d, hd⟩ := stepN_le h' hlt
  obtain ⟨c0, h0, hs⟩ := runAt_succ.1 hd
  cases h0.unique h
  exact ⟨d, hs, hd⟩

theorem run_invariant {p : ProgF} {P : Cfg → Prop} (h0 : P Cfg.init)
    (hstep : ∀ c pr sh q, P c → p c.state c.scan = some (pr, sh, q) → P (c.move pr sh q)) :
    ∀ n c, RunAt p n c → P c := by
  intro n
  induction n with
  | zero => intro c h; exact Option.some.inj h ▸ h0
  | succ n ih =>
    intro c' h
    obtain ⟨c, hc, hs⟩ := runAt_succ.1 h
    obtain ⟨pr, sh, q, hi, rfl⟩ := step1_eq_some hs
    exact hstep c pr sh q (ih c hc) hi

theorem run_within {p : ProgF} {PS PC : Nat → Prop} (hs0 : PS 0) (hc0 : PC 0)
    (hp : ∀ q s pr sh q', p q s = some (pr, sh, q') → PC pr ∧ PS q') :
    ∀ n c, RunAt p n c →
      PS c.state ∧ PC c.scan ∧ (∀ i, PC (cellAt c.left i)) ∧ (∀ i, PC (cellAt c.right i)) := by
  have hcons : ∀ {x : Nat} {l : List Nat}, PC x → (∀ i, PC (cellAt l i)) →
      ∀ i, PC (cellAt (x :: l) i)
    | _, _, hx, _, 0 => hx
    | _, _, _, hl, i + 1 => hl i
  have htail : ∀ {l : List Nat}, (∀ i, PC (cellAt l i)) →
      PC (l.headD 0) ∧ ∀ i, PC (cellAt l.tail i) := fun hl =>
    ⟨cellAt_headD _ ▸ hl 0, fun i => cellAt_tail _ i ▸ hl (i + 1)⟩
  refine run_invariant ⟨hs0, hc0, fun _ => hc0, fun _ => hc0⟩ ?_
  rintro c pr sh q ⟨_, _, hl, hr⟩ hi
  obtain ⟨hpr, hq⟩ := hp _ _ _ _ _ hi
  cases sh
  · exact ⟨hq, (htail hl).1, (htail hl).2, hcons hpr hr⟩
  · exact ⟨hq, (htail hr).1, hcons hpr hl, (htail hr).2⟩

theorem no_halt_before {p : ProgF} {n m : Nat} {c : Cfg} (h : RunAt p n c) (hm : m < n)
    (q s : Nat) : ¬ HaltsAt p m q s := by
  rintro ⟨c0, hr0, rfl, rfl, hp⟩
  obtain ⟨c1, hc1⟩ := stepN_le h (Nat.succ_le_of_lt hm)
  rw [stepN_succ_last, show stepN p m Cfg.init = some c0 from hr0, Option.bind_some, step1, hp]
    at hc1
  cases hc1

theorem Cfg.Equiv.move {a b : Cfg} (h : a ≈c b) (pr : Nat) (d : Bool) (q : Nat) :
    a.move pr d q ≈c b.move pr d q := by
  obtain ⟨_, _, hl, hr⟩ := h
  cases d
  · exact ⟨rfl, hl.headD, hl.tail, hr.cons pr⟩
  · exact ⟨rfl, hr.headD, hl.cons pr, hr.tail⟩

theorem step1_congr {p : ProgF} {a b a' : Cfg} (h : a ≈c b) (ha : step1 p a = some a') :
    ∃ b', step1 p b = some b' ∧ a' ≈c b' := by
  unfold step1 at ha ⊢
  rw [← h.1, ← h.2.1]
  cases hp : p a.state a.scan with
  | none => rw [hp] at ha; cases ha
  | some i =>
    rw [hp] at ha
    cases ha
    exact ⟨_, rfl, h.move i.1 i.2.1 i.2.2⟩

theorem stepN_congr {p : ProgF} {n : Nat} {a b a' : Cfg} (h : a ≈c b)
    (ha : stepN p n a = some a') : ∃ b', stepN p n b = some b' ∧ a' ≈c b' := by
  induction n generalizing a b with
  | zero =>
    cases ha
    exact ⟨b, rfl, h⟩
  | succ n ih =>
    rw [stepN_succ] at ha ⊢
    obtain ⟨a1, h1, ha⟩ := Option.bind_eq_some_iff.1 ha
    obtain ⟨b1, hb1, he⟩ := step1_congr h h1
    rw [hb1]
    exact ih he ha

theorem SpinOutCfg.congr {p : ProgF} {a b : Cfg} (h : a ≈c b) (ha : SpinOutCfg p a) :
    SpinOutCfg p b := by
  obtain ⟨hs, pr, sh, hi, hz⟩ := ha
  refine ⟨h.2.1.symm.trans hs, pr, sh, by rw [← h.1]; exact hi, ?_⟩
  cases sh
  · exact h.2.2.1.allZero hz
  · exact h.2.2.2.allZero hz

theorem stepN_add_of_equiv {p : ProgF} {a b : Nat} {c c' d d' : Cfg}
    (h1 : stepN p a c = some c') (e : c' ≈c d) (h2 : stepN p b d = some d') :
    ∃ c'', stepN p (a + b) c = some c'' ∧ c'' ≈c d' :=
  let ⟨c'', hc'', e''⟩ := stepN_congr e.symm h2
  ⟨c'', stepN_add_of_eq h1 hc'', e''.symm⟩

theorem blank_twice_loops {p : ProgF} {n m q : Nat} {c1 c2 : Cfg} (hnm : n < m)
    (h1 : RunAt p n c1) (b1 : c1.Blank) (s1 : c1.state = q)
    (h2 : RunAt p m c2) (b2 : c2.Blank) (s2 : c2.state = q) : NeverHalts p := by
  obtain ⟨d, rfl⟩ := Nat.exists_eq_add_of_lt hnm
  obtain ⟨c', hc', hstep⟩ := stepN_prefix (Nat.add_assoc n d 1 ▸ h2)
  cases Option.some.inj (h1.symm.trans hc')
  -- the `d + 1` steps from `c1` lead back to `c1` up to `≈c`, so they can be repeated for ever
  have e21 : c2 ≈c c1 := b2.equiv b1 (s2.trans s1.symm)
  have loop : ∀ k, ∃ c, stepN p (k * (d + 1)) c1 = some c ∧ c ≈c c1 := by
    intro k
    induction k with
    | zero => exact ⟨c1, by rw [Nat.zero_mul]; rfl, Cfg.Equiv.refl _⟩
    | succ k ih =>
      obtain ⟨c, hc, ec⟩ := ih
      obtain ⟨c'', hc'', e''⟩ := stepN_add_of_equiv hc ec hstep
      exact ⟨c'', Nat.succ_mul k _ ▸ hc'', e''.trans e21⟩
  intro N
  obtain ⟨c, hc, _⟩ := loop N
  exact stepN_le (stepN_add_of_eq h1 hc)
    (Nat.le_trans (Nat.le_mul_of_pos_right N (Nat.succ_pos d)) (Nat.le_add_left _ _))

theorem BlankAfter.again {p : ProgF} {n m q : Nat} (h1 : BlankAfter p n q) (hnm : n < m)
    (h2 : BlankAfter p m q) : NeverHalts p :=
  let ⟨_, _, r1, s1, b1⟩ := h1
  let ⟨_, _, r2, s2, b2⟩ := h2
  blank_twice_loops hnm r1 b1 s1 r2 b2 s2

/-- blank in the start state: as at step 0 -/
theorem BlankAfter.start {p : ProgF} {m : Nat} (h : BlankAfter p m 0) : NeverHalts p :=
  let ⟨h0, _, r, s, b⟩ := h
  blank_twice_loops h0 (rfl : RunAt p 0 Cfg.init) ⟨rfl, allZero_nil, allZero_nil⟩ rfl r b s

end BB
