/-
C06: the entry points.  `cps_run` answers true only through a `true` run of `cps_cant_reach` at
some radius; each of `cps_cant_halt` / `cps_cant_blank` / `cps_cant_spin_out` is `cps_run` behind an
early-true test ("the table has no slot in which the event could happen"), sound on its own.
-/
import BB.Lemmas.CpsLoop
import BB.Lemmas.ProgTable

namespace BB.Cps

open BB

theorem cpsCantReach_sound (p : Prog) (rad : Nat) (goal : Goal) (maxLoops maxDepth innerFuel : Nat)
    (order : List Config → List Config) (hord : OrderOK order) (cs : Configs)
    (h : cpsCantReach p rad goal maxLoops maxDepth innerFuel order = .yes cs) :
    goal.Never p.toF :=
  never_of_closed (cpsCantReach_closed hord h)

theorem cpsRunFrom_true {reach : Nat → CpsRes} {n seg : Nat}
    (h : cpsRunFrom reach n seg = .ok true) : ∃ seg' cs, reach seg' = .yes cs := by
  fun_induction cpsRunFrom reach n seg
  · cases h
  · rename_i hr; exact ⟨_, _, hr⟩
  · rename_i ih; exact ih h
  · cases h
  · cases h

theorem cpsRun_closed {p : Prog} {rad : Nat} {goal : Goal} {maxLoops maxDepth : Nat}
    {order : List Config → List Config} (hord : OrderOK order)
    (h : cpsRun p rad goal maxLoops maxDepth order = .ok true) :
    ∃ (seg : Nat) (cs : Configs), Closed p goal seg cs.seen cs.lspans cs.rspans := by
  unfold cpsRun at h
  split at h
  · cases h
  · obtain ⟨seg, cs, hr⟩ := cpsRunFrom_true h
    exact ⟨seg, cs, cpsCantReach_closed hord hr⟩

theorem no_erase_of_no_slots (p : Prog) (h : p.eraseSlots.isEmpty = true) :
    ¬ ∃ n, ErasesAt p.toF n := by
  rintro ⟨n, c, c', _, hnb, hstep, hb⟩
  obtain ⟨pr, sh, q, hi, rfl⟩ := step1_eq_some hstep
  obtain ⟨hpr, hsc, _⟩ := Cfg.erase_move hnb hb
  have := List.filterMap_eq_nil_iff.1 (List.isEmpty_iff.1 h) _ (Tree.Prog.mem_of_get hi)
  simp [hpr, hsc] at this

theorem no_spinout_of_no_slots (p : Prog) (h : p.zrShifts.isEmpty = true) :
    ¬ SpinsOut p.toF := by
  rintro ⟨n, c, _, _, pr, sh, hi, _⟩
  have := List.filterMap_eq_nil_iff.1 (List.isEmpty_iff.1 h) _ (Tree.Prog.mem_of_get hi)
  simp at this

theorem paramsCover_bounds (p : Prog) (h : paramsCover p = true) :
    ∀ kv ∈ p, kv.2.2.2 ≤ p.params.1 ∧ kv.2.1 ≤ p.params.2 := by
  intro kv hkv
  simpa using List.all_eq_true.1 h kv hkv

theorem defined_of_no_haltSlots (p : Prog) (fixF2 : Bool) (h : (p.haltSlots fixF2).isEmpty = true)
    (st co : Nat) (hst : st ≤ (if fixF2 then p.paramsFix else p.params).1)
    (hco : co ≤ (if fixF2 then p.paramsFix else p.params).2) : p.get (st, co) ≠ none := by
  unfold Prog.haltSlots at h
  generalize (if fixF2 then p.paramsFix else p.params) = m at h hst hco
  obtain ⟨ms, mc⟩ := m
  simp only [List.isEmpty_iff, List.flatMap_eq_nil_iff, List.filterMap_eq_nil_iff, List.mem_range] at h
  have := h st (Nat.lt_succ_of_le hst) co (Nat.lt_succ_of_le hco)
  intro hn
  simp [hn] at this

/-- the run stays inside a table size that covers the instruction contents, and inside it every
    slot is defined -/
theorem no_halt_of_no_slots (p : Prog) (fixF2 : Bool)
    (hcov : fixF2 = true ∨ paramsCover p = true)
    (h : (p.haltSlots fixF2).isEmpty = true) : ¬ Halts p.toF := by
  rintro ⟨n, q, s, c, hrun, rfl, rfl, hnone⟩
  have hB : ∀ kv ∈ p, kv.2.2.2 ≤ (if fixF2 then p.paramsFix else p.params).1 ∧
      kv.2.1 ≤ (if fixF2 then p.paramsFix else p.params).2 := by
    cases fixF2
    · exact paramsCover_bounds p (hcov.resolve_left nofun)
    · exact fun kv hkv =>
        let ⟨_, hq, _, hpr⟩ := Tree.Prog.paramsFix_bound hkv
        ⟨hq, hpr⟩
  obtain ⟨h1, h2, _, _⟩ := run_within (PS := (· ≤ _)) (PC := (· ≤ _)) (Nat.zero_le _) (Nat.zero_le _)
    (fun _ _ _ _ _ hi => (hB _ (Tree.Prog.mem_of_get hi)).symm) n c hrun
  exact defined_of_no_haltSlots p fixF2 h c.state c.scan h1 h2 hnone

theorem entry_sound {p : Prog} {rad : Nat} {goal : Goal} {order : List Config → List Config}
    (hord : OrderOK order) {early : Bool} (hearly : early = true → goal.Never p.toF)
    (h : (if early then CpsOut.ok true else cpsRun p rad goal MAX_LOOPS MAX_DEPTH order) = .ok true) :
    goal.Never p.toF := by
  cases early
  · obtain ⟨_, _, hcl⟩ := cpsRun_closed hord h
    exact never_of_closed hcl
  · exact hearly rfl

end BB.Cps
