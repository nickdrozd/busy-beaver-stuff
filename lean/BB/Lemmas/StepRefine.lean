/-
One `Tape.step` is a sweep of the cell-by-cell machine.  Configurations are written by direction
of travel (`Cfg.ofDir`: cells behind the head, cells ahead), so that the sweep lemma (`sweep_run`)
and the cell-level meaning of `Span.pull` / `Span.push` are stated once for both directions; from
these `Tape.step_refines`, and what holds strictly inside a sweep (`Tape.step_mid`).
`Tape.cycle_refines` is both, seen from a configuration of the real run: the one fact about a
simulator cycle that the loop invariants of `run_quick_machine`, `quick_term_or_rec` and the replay
rest on.
-/
import BB.Lemmas.Refine

namespace BB

/-- the configuration whose cells in the direction of travel `d` are `pull` and whose cells
    behind the head are `push` -/
def Cfg.ofDir (d : Bool) (q : Nat) (push : List Nat) (scan : Nat) (pull : List Nat) : Cfg :=
  if d then ⟨q, push, scan, pull⟩ else ⟨q, pull, scan, push⟩

@[simp] theorem Cfg.ofDir_state (d : Bool) (q : Nat) (push : List Nat) (scan : Nat)
    (pull : List Nat) : (Cfg.ofDir d q push scan pull).state = q := by cases d <;> rfl

@[simp] theorem Cfg.ofDir_scan (d : Bool) (q : Nat) (push : List Nat) (scan : Nat)
    (pull : List Nat) : (Cfg.ofDir d q push scan pull).scan = scan := by cases d <;> rfl

theorem Cfg.ofDir_ahead (d : Bool) (q : Nat) (push : List Nat) (scan : Nat) (pull : List Nat) :
    (if d then (Cfg.ofDir d q push scan pull).right else (Cfg.ofDir d q push scan pull).left)
      = pull := by cases d <;> rfl

theorem Cfg.ofDir_move (d : Bool) (q : Nat) (push : List Nat) (scan : Nat) (pull : List Nat)
    (pr q' : Nat) :
    (Cfg.ofDir d q push scan pull).move pr d q'
      = Cfg.ofDir d q' (pr :: push) (pull.headD 0) pull.tail := by
  cases d <;> rfl

theorem Cfg.ofDir_equiv (d : Bool) (q : Nat) {push push' : List Nat} (scan : Nat)
    {pull pull' : List Nat} (h1 : SameCells push push') (h2 : SameCells pull pull') :
    Cfg.ofDir d q push scan pull ≈c Cfg.ofDir d q push' scan pull' := by
  cases d
  · exact ⟨rfl, rfl, h2, h1⟩
  · exact ⟨rfl, rfl, h1, h2⟩

theorem step1_ofDir {p : ProgF} {q s pr : Nat} {d : Bool} {q' : Nat}
    (hi : p q s = some (pr, d, q')) (push pull : List Nat) :
    step1 p (Cfg.ofDir d q push s pull)
      = some (Cfg.ofDir d q' (pr :: push) (pull.headD 0) pull.tail) := by
  rw [step1, Cfg.ofDir_state, Cfg.ofDir_scan, hi]
  exact congrArg some (Cfg.ofDir_move ..)

theorem sweep_steps {p : ProgF} {q s pr : Nat} {d : Bool} (hi : p q s = some (pr, d, q))
    (j m : Nat) (push rest : List Nat) :
    stepN p j (Cfg.ofDir d q push s (List.replicate (j + m) s ++ rest))
      = some (Cfg.ofDir d q (List.replicate j pr ++ push) s (List.replicate m s ++ rest)) := by
  induction j generalizing m with
  | zero => rw [Nat.zero_add]; rfl
  | succ j ih =>
    rw [stepN_succ_last, Nat.add_right_comm, Nat.add_assoc, ih (m + 1)]
    exact step1_ofDir hi _ _

/-- the configurations inside the sweep of `sweep_run` -/
theorem sweep_mid {p : ProgF} {q s pr : Nat} {d : Bool} {q' : Nat}
    (hi : p q s = some (pr, d, q')) (n : Nat) (hn : n ≠ 0 → q = q') (push rest : List Nat)
    (j : Nat) (hj : j < n + 1) :
    ∃ m, stepN p j (Cfg.ofDir d q push s (List.replicate n s ++ rest))
      = some (Cfg.ofDir d q (List.replicate j pr ++ push) s (List.replicate m s ++ rest)) := by
  cases j with
  | zero => exact ⟨n, rfl⟩
  | succ j =>
    cases hn (Nat.ne_of_gt (Nat.lt_of_succ_lt_succ (Nat.lt_of_le_of_lt (Nat.succ_pos j) hj)))
    obtain ⟨m, hm⟩ := Nat.exists_eq_add_of_le (Nat.le_of_lt_succ hj)
    rw [hm]
    exact ⟨m, sweep_steps hi (j + 1) m push rest⟩

/-- The cell-by-cell counterpart of one `Tape.step`.  With `n = 0` this is one step of any
    instruction; only `n ≠ 0` needs an instruction that keeps the state (`hn`). -/
theorem sweep_run {p : ProgF} {q s pr : Nat} {d : Bool} {q' : Nat}
    (hi : p q s = some (pr, d, q')) (n : Nat) (hn : n ≠ 0 → q = q') (push rest : List Nat) :
    (∀ j, j < n + 1 →
      ∃ c, stepN p j (Cfg.ofDir d q push s (List.replicate n s ++ rest)) = some c
        ∧ c.state = q ∧ c.scan = s) ∧
    stepN p (n + 1) (Cfg.ofDir d q push s (List.replicate n s ++ rest))
      = some (Cfg.ofDir d q' (List.replicate (n + 1) pr ++ push) (rest.headD 0) rest.tail) := by
  refine ⟨fun j hj => ?_, ?_⟩
  · obtain ⟨m, h⟩ := sweep_mid hi n hn push rest j hj
    exact ⟨_, h, Cfg.ofDir_state .., Cfg.ofDir_scan ..⟩
  · cases n with
    | zero => exact (stepN_one p _).trans (step1_ofDir hi _ _)
    | succ n =>
      cases hn (Nat.succ_ne_zero n)
      rw [stepN_succ_last, ← Nat.add_zero (n + 1), sweep_steps hi (n + 1) 0 push rest]
      exact step1_ofDir hi _ _

theorem Span.pullSkip_spec (P : Span) (scan : Nat) (skip : Bool) :
    ∃ n, (Span.pullSkip P scan skip).1 = n + 1 ∧ (n ≠ 0 → skip = true) ∧
      Span.unroll P = List.replicate n scan ++ Span.unroll (Span.pullSkip P scan skip).2 := by
  cases P with
  | nil => exact ⟨0, rfl, fun h => absurd rfl h, rfl⟩
  | cons b r =>
    simp only [Span.pullSkip]
    split
    · next h =>
      simp only [Bool.and_eq_true, beq_iff_eq] at h
      exact ⟨b.count, Nat.add_comm _ _, fun _ => h.1, by rw [Span.unroll_cons, h.2]⟩
    · exact ⟨0, rfl, fun h => absurd rfl h, rfl⟩

theorem Span.unroll_eq_pullTail {b : Block} (rest : Span) (hb : 0 < b.count) :
    Span.unroll (b :: rest)
      = (Span.pullTail (b :: rest)).1 :: Span.unroll (Span.pullTail (b :: rest)).2 := by
  simp only [Span.pullTail]
  split
  · next hc =>
    rw [Span.unroll_cons, Span.unroll_cons, ← List.cons_append, ← List.replicate_succ,
      Nat.sub_add_cancel (Nat.le_of_lt hc)]
  · next hc =>
    rw [Span.unroll_cons, Nat.le_antisymm (Nat.le_of_not_lt hc) hb]
    rfl

theorem Span.pullTail_spec {s1 : Span} (h : Span.Pos s1) :
    (Span.pullTail s1).1 = (Span.unroll s1).headD 0 ∧
    Span.unroll (Span.pullTail s1).2 = (Span.unroll s1).tail := by
  cases s1 with
  | nil => exact ⟨rfl, rfl⟩
  | cons b rest => rw [Span.unroll_eq_pullTail rest h.head]; exact ⟨rfl, rfl⟩

theorem Span.pull_spec {P : Span} (hP : Span.Pos P) (scan : Nat) (skip : Bool) :
    ∃ n rest, (Span.pull P scan skip).2.1 = n + 1 ∧
      Span.unroll P = List.replicate n scan ++ rest ∧ (n ≠ 0 → skip = true) ∧
      (Span.pull P scan skip).1 = rest.headD 0 ∧
      Span.unroll (Span.pull P scan skip).2.2 = rest.tail := by
  rw [Span.pull_eq]
  obtain ⟨n, h1, h2, h3⟩ := Span.pullSkip_spec P scan skip
  obtain ⟨t1, t2⟩ := Span.pullTail_spec (Span.pullSkip_keeps Span.Pos.tail hP scan skip)
  exact ⟨n, _, h1, h3, h2, t1, t2⟩

theorem Span.push_sameCells (U : Span) (pr k : Nat) :
    SameCells (Span.unroll (Span.push U pr k)) (List.replicate k pr ++ Span.unroll U) := by
  rcases Span.push_cases U pr k with ⟨rfl, rfl, e⟩ | ⟨b, rest, rfl, rfl, e⟩ | ⟨-, e⟩
  · rw [e]
    exact sameCells_nil_left.2 (allZero_append.2 ⟨allZero_replicate_zero k, allZero_nil⟩)
  · rw [e, Span.unroll_cons, Span.unroll_cons, ← List.append_assoc,
      List.replicate_append_replicate, Nat.add_comm]
    exact SameCells.refl _
  · rw [e]
    exact SameCells.refl _

/-- `P` is the span pulled from, `U` the span pushed on. -/
theorem step_refines_dir (p : ProgF) (d : Bool) (q pr q' scan : Nat) (P U : Span)
    (hP : Span.Pos P) (hi : p q scan = some (pr, d, q')) :
    (∀ j, j < (Span.pull P scan (q == q')).2.1 →
      ∃ c, stepN p j (Cfg.ofDir d q (Span.unroll U) scan (Span.unroll P)) = some c
        ∧ c.state = q ∧ c.scan = scan) ∧
    ∃ c', stepN p (Span.pull P scan (q == q')).2.1
              (Cfg.ofDir d q (Span.unroll U) scan (Span.unroll P)) = some c' ∧
      c' ≈c Cfg.ofDir d q' (Span.unroll (Span.push U pr (Span.pull P scan (q == q')).2.1))
              (Span.pull P scan (q == q')).1 (Span.unroll (Span.pull P scan (q == q')).2.2) := by
  obtain ⟨n, rest, h1, h2, h3, h4, h5⟩ := Span.pull_spec hP scan (q == q')
  obtain ⟨s1, s2⟩ := sweep_run hi n (fun h => beq_iff_eq.1 (h3 h)) (Span.unroll U) rest
  rw [h1, h2, h4, h5]
  exact ⟨s1, _, s2,
    Cfg.ofDir_equiv d q' _ (Span.push_sameCells U pr (n + 1)).symm (SameCells.refl _)⟩

/-- **step_refines** (the statement of `BB/Props/C01.lean`). -/
theorem Tape.step_refines (p : ProgF) (t : Tape) (q pr : Nat) (d : Bool) (q' : Nat)
    (hpos : t.Pos) (hi : p q t.scan = some (pr, d, q')) :
    0 < (t.step d pr (q == q')).2 ∧
    (∀ j, j < (t.step d pr (q == q')).2 →
        ∃ c, stepN p j (t.toCfg q) = some c ∧ c.state = q ∧ c.scan = t.scan) ∧
    (∃ c', stepN p (t.step d pr (q == q')).2 (t.toCfg q) = some c' ∧
        c' ≈c (t.step d pr (q == q')).1.toCfg q') ∧
    (t.step d pr (q == q')).1.Pos := by
  -- `t.toCfg q` is `Cfg.ofDir d q ..` with the span pulled from ahead, and `t.step` unfolds
  cases d
  · have h := step_refines_dir p false q pr q' t.scan t.lspan t.rspan hpos.1 hi
    exact ⟨Tape.step_stepped_pos .., h.1, h.2, Tape.step_pos hpos ..⟩
  · have h := step_refines_dir p true q pr q' t.scan t.rspan t.lspan hpos.2 hi
    exact ⟨Tape.step_stepped_pos .., h.1, h.2, Tape.step_pos hpos ..⟩

theorem step_mid_dir (p : ProgF) (d : Bool) (q pr q' scan : Nat) (P U : Span)
    (hP : Span.Canon P) (hi : p q scan = some (pr, d, q')) (j : Nat)
    (hj : j < (Span.pull P scan (q == q')).2.1) :
    ∃ c, stepN p j (Cfg.ofDir d q (Span.unroll U) scan (Span.unroll P)) = some c ∧
      c.state = q ∧ c.scan = scan ∧
      (scan = 0 → AllZero (if d then c.right else c.left) → P = []) ∧
      (0 < j → ¬ c.Blank) := by
  obtain ⟨n, rest, h1, h2, h3, -, -⟩ := Span.pull_spec hP.pos scan (q == q')
  obtain ⟨m, hs⟩ :=
    sweep_mid hi n (fun h => beq_iff_eq.1 (h3 h)) (Span.unroll U) rest j (h1 ▸ hj)
  -- blank cells ahead, inside a sweep over blanks: the whole span pulled from is blank
  have hz : scan = 0 → AllZero (List.replicate m scan ++ rest) → P = [] := fun hs0 hz => by
    rw [← hP.allZero_iff, h2, hs0]
    exact allZero_append.2 ⟨allZero_replicate_zero n, (allZero_append.1 hz).2⟩
  rw [← h2] at hs
  refine ⟨_, hs, Cfg.ofDir_state .., Cfg.ofDir_scan .., by rwa [Cfg.ofDir_ahead], ?_⟩
  intro hj0 hb
  have hnil : P = [] := by
    refine hz ((Cfg.ofDir_scan ..).symm.trans hb.1) ?_
    rw [← Cfg.ofDir_ahead d q (List.replicate j pr ++ Span.unroll U) scan
      (List.replicate m scan ++ rest)]
    cases d
    · exact hb.2.1
    · exact hb.2.2
  rw [hnil, Span.pull_nil] at hj
  exact Nat.lt_irrefl 0 (Nat.lt_of_lt_of_le hj0 (Nat.le_of_lt_succ hj))

/-- A spin-out configuration inside a sweep scans a blank under the instruction being executed,
    with blanks ahead of it as there were before the step: the `at_edge` test made then held. -/
theorem Tape.step_mid (p : ProgF) (t : Tape) (q pr : Nat) (d : Bool) (q' : Nat)
    (hcan : t.Canon) (hi : p q t.scan = some (pr, d, q')) (j : Nat)
    (hj : j < (t.step d pr (q == q')).2) :
    ∃ c, stepN p j (t.toCfg q) = some c ∧ c.state = q ∧ c.scan = t.scan ∧
      (SpinOutCfg p c → (q == q' && t.atEdge d) = true) ∧ (0 < j → ¬ c.Blank) := by
  have key : ∃ c, stepN p j (t.toCfg q) = some c ∧ c.state = q ∧ c.scan = t.scan ∧
      (t.scan = 0 → AllZero (if d then c.right else c.left) →
        (if d then t.rspan else t.lspan) = []) ∧ (0 < j → ¬ c.Blank) := by
    cases d
    · exact step_mid_dir p false q pr q' t.scan t.lspan t.rspan hcan.1 hi j hj
    · exact step_mid_dir p true q pr q' t.scan t.rspan t.lspan hcan.2 hi j hj
  obtain ⟨c, h1, hst, hsc, hat, h5⟩ := key
  refine ⟨c, h1, hst, hsc, ?_, h5⟩
  rintro ⟨hs0, pr', sh, hi', hz⟩
  have h0 : t.scan = 0 := hsc.symm.trans hs0
  rw [hst, ← h0, hi, Option.some.injEq, Prod.mk.injEq, Prod.mk.injEq] at hi'
  obtain ⟨-, rfl, rfl⟩ := hi'
  exact Bool.and_eq_true_iff.2 ⟨beq_self_eq_true _, Tape.atEdge_eq_true.2 ⟨h0, hat h0 hz⟩⟩

/-- One simulator cycle seen from the machine.  From a configuration `c` that is the tape `t` in
    state `q` up to trailing blanks, the `k ≥ 1` steps counted by `t.step` lead to the new tape;
    each of the `k` configurations before the end is in state `q` scanning `t.scan` (so the same,
    defined, instruction fires) and, when `t` is canonical, is a spin-out configuration only if the
    `at_edge` test made before the step held, and is blank only if it is `c` itself. -/
theorem Tape.cycle_refines {p : ProgF} {t : Tape} {q pr : Nat} {d : Bool} {q' : Nat} {c : Cfg}
    (hpos : t.Pos) (hi : p q t.scan = some (pr, d, q')) (hc : c ≈c t.toCfg q) :
    0 < (t.step d pr (q == q')).2 ∧
    (∃ c', stepN p (t.step d pr (q == q')).2 c = some c' ∧
      c' ≈c (t.step d pr (q == q')).1.toCfg q') ∧
    ∀ j, j < (t.step d pr (q == q')).2 → ∃ cj, stepN p j c = some cj ∧ cj.state = q ∧
      cj.scan = t.scan ∧
      (t.Canon → (SpinOutCfg p cj → (q == q' && t.atEdge d) = true) ∧ (0 < j → ¬ cj.Blank)) := by
  obtain ⟨hk, hmid, ⟨c1, hc1, e1⟩, -⟩ := Tape.step_refines p t q pr d q' hpos hi
  obtain ⟨c2, hc2, e2⟩ := stepN_congr hc.symm hc1
  refine ⟨hk, ⟨c2, hc2, e2.symm.trans e1⟩, fun j hj => ?_⟩
  obtain ⟨b, hb, hst, hsc⟩ := hmid j hj
  obtain ⟨cj, hcj, e⟩ := stepN_congr hc.symm hb
  refine ⟨cj, hcj, e.1.symm.trans hst, e.2.1.symm.trans hsc, fun hcan => ?_⟩
  obtain ⟨b', hb', -, -, hat, hnb⟩ := Tape.step_mid p t q pr d q' hcan hi j hj
  cases Option.some.inj (hb.symm.trans hb')
  exact ⟨fun hsp => hat (SpinOutCfg.congr e.symm hsp), fun hj0 hbl => hnb hj0 (e.symm.blank hbl)⟩

/-- No spin-out configuration before time `n`, and the `at_edge` test fails at the cycle that
    starts there: none before the end of that cycle. -/
theorem Tape.cycle_noSpin {p : ProgF} {t : Tape} {q pr : Nat} {d : Bool} {q' : Nat} {c : Cfg}
    {n : Nat} (hcan : t.Canon) (hi : p q t.scan = some (pr, d, q')) (hrun : RunAt p n c)
    (hc : c ≈c t.toCfg q) (hedge : ¬ (q == q' && t.atEdge d) = true)
    (hbefore : ∀ m cm, m < n → RunAt p m cm → ¬ SpinOutCfg p cm) :
    ∀ m cm, m < n + (t.step d pr (q == q')).2 → RunAt p m cm → ¬ SpinOutCfg p cm := by
  intro m cm hm hrm hspin
  by_cases hlt : m < n
  · exact hbefore m cm hlt hrm hspin
  · -- inside the cycle the same instruction is about to fire: a spin-out here was one before
    obtain ⟨j, rfl⟩ := Nat.exists_eq_add_of_le (Nat.le_of_not_lt hlt)
    obtain ⟨cj, hcj, -, -, hsp⟩ :=
      (Tape.cycle_refines hcan.pos hi hc).2.2 j (Nat.lt_of_add_lt_add_left hm)
    cases RunAt.unique hrm (stepN_add_of_eq hrun hcj)
    exact hedge ((hsp hcan).1 hspin)

end BB
