/-
Cells of half-tapes (`cellAt`, `SameCells`, `AllZero`, `countNZ`, `≈c`), and what `Span.unroll`
makes of a canonical span: trimming trailing blanks (`trimZ`) and run-length encoding (`rleCells`)
read the span back, so canonical spans with the same cells are equal and the observers of a
canonical tape say what the cells say.
-/
import BB.Lemmas.Canon

namespace BB

/-- remove trailing blanks -/
def trimZ : List Nat → List Nat
  | [] => []
  | x :: xs => match trimZ xs with
    | [] => if x == 0 then [] else [x]
    | ys => x :: ys

/-- run-length encoding of a cell list -/
def rleCells : List Nat → Span
  | [] => []
  | x :: xs => match rleCells xs with
    | [] => [⟨x, 1⟩]
    | b :: bs => if b.color == x then ⟨x, b.count + 1⟩ :: bs else ⟨x, 1⟩ :: b :: bs

@[simp] theorem cellAt_nil (i : Nat) : cellAt [] i = 0 := rfl
@[simp] theorem cellAt_cons_zero (x : Nat) (l : List Nat) : cellAt (x :: l) 0 = x := rfl
@[simp] theorem cellAt_cons_succ (x : Nat) (l : List Nat) (i : Nat) :
    cellAt (x :: l) (i + 1) = cellAt l i := rfl

theorem cellAt_headD (l : List Nat) : l.headD 0 = cellAt l 0 := by
  cases l <;> rfl

theorem cellAt_tail (l : List Nat) (i : Nat) : cellAt l.tail i = cellAt l (i + 1) := by
  cases l <;> rfl

theorem cellAt_append_left {a : List Nat} (b : List Nat) {i : Nat} (h : i < a.length) :
    cellAt (a ++ b) i = cellAt a i := by
  induction a generalizing i with
  | nil => cases h
  | cons x xs ih =>
    cases i with
    | zero => rfl
    | succ i => exact ih (Nat.lt_of_succ_lt_succ h)

theorem cellAt_append_right (a b : List Nat) (i : Nat) :
    cellAt (a ++ b) (a.length + i) = cellAt b i := by
  induction a with
  | nil => rw [List.nil_append, List.length_nil, Nat.zero_add]
  | cons x xs ih => rw [List.length_cons, Nat.add_right_comm]; exact ih

theorem cellAt_replicate {n c i : Nat} (h : i < n) : cellAt (List.replicate n c) i = c := by
  induction n generalizing i with
  | zero => cases h
  | succ n ih =>
    cases i with
    | zero => rfl
    | succ i => exact ih (Nat.lt_of_succ_lt_succ h)

private theorem forall_cells {P : Nat → Prop} : (∀ i, P i) ↔ P 0 ∧ ∀ i, P (i + 1) :=
  ⟨fun h => ⟨h 0, fun i => h (i + 1)⟩, fun h i => by cases i; exact h.1; exact h.2 _⟩

theorem SameCells.refl (a : List Nat) : SameCells a a := fun _ => rfl
theorem SameCells.symm {a b : List Nat} (h : SameCells a b) : SameCells b a := fun i => (h i).symm
theorem SameCells.trans {a b c : List Nat} (h : SameCells a b) (h' : SameCells b c) :
    SameCells a c := fun i => (h i).trans (h' i)

theorem sameCells_cons_iff {x y : Nat} {xs ys : List Nat} :
    SameCells (x :: xs) (y :: ys) ↔ x = y ∧ SameCells xs ys :=
  forall_cells

theorem SameCells.cons (x : Nat) {xs ys : List Nat} (h : SameCells xs ys) :
    SameCells (x :: xs) (x :: ys) := sameCells_cons_iff.2 ⟨rfl, h⟩

theorem SameCells.append_left (l : List Nat) {xs ys : List Nat} (h : SameCells xs ys) :
    SameCells (l ++ xs) (l ++ ys) := by
  induction l with
  | nil => exact h
  | cons x l ih => exact SameCells.cons x ih

theorem SameCells.headD {a b : List Nat} (h : SameCells a b) : a.headD 0 = b.headD 0 := by
  rw [cellAt_headD, cellAt_headD]; exact h 0

theorem SameCells.tail {a b : List Nat} (h : SameCells a b) : SameCells a.tail b.tail := by
  intro i; rw [cellAt_tail, cellAt_tail]; exact h (i + 1)

theorem allZero_nil : AllZero [] := fun _ => rfl

theorem allZero_cons_iff {x : Nat} {xs : List Nat} : AllZero (x :: xs) ↔ x = 0 ∧ AllZero xs :=
  forall_cells

theorem AllZero.tail {l : List Nat} (h : AllZero l) : AllZero l.tail :=
  fun i => (cellAt_tail l i).trans (h (i + 1))

theorem allZero_of_head_tail {l : List Nat} (h0 : l.headD 0 = 0) (ht : AllZero l.tail) :
    AllZero l
  | 0 => (cellAt_headD l).symm.trans h0
  | i + 1 => (cellAt_tail l i).symm.trans (ht i)

theorem sameCells_nil_left {l : List Nat} : SameCells [] l ↔ AllZero l :=
  ⟨fun h i => (h i).symm, fun h i => (h i).symm⟩

theorem AllZero.sameCells {a b : List Nat} (ha : AllZero a) (hb : AllZero b) : SameCells a b :=
  fun i => (ha i).trans (hb i).symm

theorem SameCells.allZero {a b : List Nat} (h : SameCells a b) (ha : AllZero a) : AllZero b :=
  fun i => (h i).symm.trans (ha i)

theorem allZero_replicate_zero (n : Nat) : AllZero (List.replicate n 0) := by
  induction n with
  | zero => exact allZero_nil
  | succ n ih => exact allZero_cons_iff.2 ⟨rfl, ih⟩

theorem allZero_append {a b : List Nat} : AllZero (a ++ b) ↔ AllZero a ∧ AllZero b := by
  induction a with
  | nil => exact ⟨fun h => ⟨allZero_nil, h⟩, fun h => h.2⟩
  | cons x xs ih => rw [List.cons_append, allZero_cons_iff, allZero_cons_iff, ih, and_assoc]

theorem allZeroB_iff (l : List Nat) : allZeroB l = true ↔ AllZero l := by
  induction l with
  | nil => exact iff_of_true rfl allZero_nil
  | cons x xs ih =>
    rw [allZero_cons_iff, ← ih, allZeroB, List.all_cons, Bool.and_eq_true, beq_iff_eq]
    rfl

theorem Cfg.Equiv.refl (c : Cfg) : c ≈c c := ⟨rfl, rfl, SameCells.refl _, SameCells.refl _⟩
theorem Cfg.Equiv.symm {a b : Cfg} (h : a ≈c b) : b ≈c a :=
  ⟨h.1.symm, h.2.1.symm, h.2.2.1.symm, h.2.2.2.symm⟩
theorem Cfg.Equiv.trans {a b c : Cfg} (h : a ≈c b) (h' : b ≈c c) : a ≈c c :=
  ⟨h.1.trans h'.1, h.2.1.trans h'.2.1, h.2.2.1.trans h'.2.2.1, h.2.2.2.trans h'.2.2.2⟩

theorem Cfg.Equiv.blank {a b : Cfg} (h : a ≈c b) (ha : a.Blank) : b.Blank :=
  ⟨h.2.1.symm.trans ha.1, h.2.2.1.allZero ha.2.1, h.2.2.2.allZero ha.2.2⟩

theorem Cfg.Blank.equiv {a b : Cfg} (ha : a.Blank) (hb : b.Blank) (hs : a.state = b.state) :
    a ≈c b :=
  ⟨hs, ha.1.trans hb.1.symm, ha.2.1.sameCells hb.2.1, ha.2.2.sameCells hb.2.2⟩

theorem countNZ_nil : countNZ [] = 0 := rfl

theorem countNZ_cons (x : Nat) (xs : List Nat) :
    countNZ (x :: xs) = (if x != 0 then 1 else 0) + countNZ xs := by
  unfold countNZ
  rw [List.filter_cons]
  split
  · rw [List.length_cons, Nat.add_comm]
  · rw [Nat.zero_add]

theorem countNZ_append (a b : List Nat) : countNZ (a ++ b) = countNZ a + countNZ b := by
  unfold countNZ
  rw [List.filter_append, List.length_append]

theorem countNZ_replicate (n c : Nat) :
    countNZ (List.replicate n c) = if c != 0 then n else 0 := by
  unfold countNZ
  rw [List.filter_replicate]
  split
  · exact List.length_replicate
  · rfl

theorem countNZ_eq_zero_of_allZero {l : List Nat} (h : AllZero l) : countNZ l = 0 := by
  induction l with
  | nil => rfl
  | cons x xs ih =>
    obtain ⟨rfl, h'⟩ := allZero_cons_iff.1 h
    rw [countNZ_cons, ih h']; rfl

theorem SameCells.countNZ_eq {a b : List Nat} (h : SameCells a b) : countNZ a = countNZ b := by
  induction a generalizing b with
  | nil => exact (countNZ_eq_zero_of_allZero (sameCells_nil_left.1 h)).symm
  | cons x xs ih =>
    cases b with
    | nil => exact countNZ_eq_zero_of_allZero h
    | cons y ys =>
      obtain ⟨rfl, h'⟩ := sameCells_cons_iff.1 h
      rw [countNZ_cons, countNZ_cons, ih h']

theorem Cfg.Equiv.marks_eq {a b : Cfg} (h : a ≈c b) : a.marks = b.marks := by
  simp only [Cfg.marks, h.2.1, h.2.2.1.countNZ_eq, h.2.2.2.countNZ_eq]

theorem trimZ_cons_of_nil {xs : List Nat} (h : trimZ xs = []) (x : Nat) :
    trimZ (x :: xs) = if x == 0 then [] else [x] := by
  simp only [trimZ, h]

theorem trimZ_cons_of_ne_nil {xs : List Nat} (h : trimZ xs ≠ []) (x : Nat) :
    trimZ (x :: xs) = x :: trimZ xs := by
  simp only [trimZ]

theorem trimZ_eq_nil_iff (l : List Nat) : trimZ l = [] ↔ AllZero l := by
  induction l with
  | nil => exact iff_of_true rfl allZero_nil
  | cons x xs ih =>
    rw [allZero_cons_iff, ← ih]
    by_cases h : trimZ xs = []
    · rw [trimZ_cons_of_nil h]
      by_cases hx : x = 0 <;> simp [hx, h]
    · rw [trimZ_cons_of_ne_nil h]
      simp [h]

theorem trimZ_sameCells (l : List Nat) : SameCells (trimZ l) l := by
  induction l with
  | nil => exact SameCells.refl _
  | cons x xs ih =>
    by_cases h : trimZ xs = []
    · have hz : AllZero xs := (trimZ_eq_nil_iff xs).1 h
      rw [trimZ_cons_of_nil h]
      by_cases hx : x = 0
      · rw [if_pos (beq_iff_eq.2 hx)]
        exact sameCells_nil_left.2 (allZero_cons_iff.2 ⟨hx, hz⟩)
      · rw [if_neg (mt beq_iff_eq.1 hx)]
        exact SameCells.cons x (sameCells_nil_left.2 hz)
    · rw [trimZ_cons_of_ne_nil h]
      exact SameCells.cons x ih

theorem SameCells.trimZ_eq {a b : List Nat} (h : SameCells a b) : trimZ a = trimZ b := by
  induction a generalizing b with
  | nil => exact ((trimZ_eq_nil_iff b).2 (sameCells_nil_left.1 h)).symm
  | cons x xs ih =>
    cases b with
    | nil => exact (trimZ_eq_nil_iff _).2 h
    | cons y ys =>
      obtain ⟨rfl, h'⟩ := sameCells_cons_iff.1 h
      simp only [trimZ, ih h']

theorem trimZ_append_of_ne_nil (a : List Nat) {b : List Nat} (h : trimZ b ≠ []) :
    trimZ (a ++ b) = a ++ trimZ b := by
  induction a with
  | nil => rfl
  | cons x xs ih =>
    have : trimZ (xs ++ b) ≠ [] := by rw [ih]; exact mt List.append_eq_nil_iff.1 (fun e => h e.2)
    rw [List.cons_append, trimZ_cons_of_ne_nil this, ih, List.cons_append]

theorem trimZ_replicate_of_ne_zero (n : Nat) {c : Nat} (hc : c ≠ 0) :
    trimZ (List.replicate n c) = List.replicate n c := by
  induction n with
  | zero => rfl
  | succ n ih =>
    rw [List.replicate_succ]
    cases n with
    | zero => rw [trimZ_cons_of_nil rfl, if_neg (mt beq_iff_eq.1 hc)]; rfl
    | succ n => rw [trimZ_cons_of_ne_nil (by rw [ih]; exact List.cons_ne_nil _ _), ih]

@[simp] theorem Span.unroll_nil : Span.unroll [] = [] := rfl

@[simp] theorem Span.unroll_cons (b : Block) (s : Span) :
    Span.unroll (b :: s) = List.replicate b.count b.color ++ Span.unroll s :=
  List.flatMap_cons

theorem Span.marks_foldl (s : Span) (acc : Nat) :
    s.foldl (fun acc b => if b.color != 0 then acc + b.count else acc) acc
      = acc + countNZ (Span.unroll s) := by
  induction s generalizing acc with
  | nil => rfl
  | cons b s ih =>
    rw [List.foldl_cons, ih, Span.unroll_cons, countNZ_append, countNZ_replicate]
    split
    · rw [Nat.add_assoc]
    · rw [Nat.zero_add]

theorem Span.marks_eq (s : Span) : Span.marks s = countNZ (Span.unroll s) := by
  rw [Span.marks, Span.marks_foldl, Nat.zero_add]

theorem Span.Canon.allZero_iff {s : Span} (h : Span.Canon s) :
    AllZero (Span.unroll s) ↔ s = [] := by
  refine ⟨fun hz => ?_, fun e => e ▸ allZero_nil⟩
  induction s with
  | nil => rfl
  | cons b rest ih =>
    exfalso
    rw [Span.unroll_cons, allZero_append] at hz
    cases rest with
    | nil =>
      obtain ⟨n, hn⟩ := Nat.exists_eq_succ_of_ne_zero (Nat.ne_of_gt h.1)
      rw [hn, List.replicate_succ, allZero_cons_iff] at hz
      exact h.2 hz.1.1
    | cons c r => exact List.cons_ne_nil _ _ (ih h.tail hz.2)

theorem Span.Canon.trimZ_unroll {s : Span} (h : Span.Canon s) :
    trimZ (Span.unroll s) = Span.unroll s := by
  induction s with
  | nil => rfl
  | cons b rest ih =>
    rw [Span.unroll_cons]
    cases rest with
    | nil => rw [Span.unroll_nil, List.append_nil, trimZ_replicate_of_ne_zero _ h.2]
    | cons c r =>
      have hne : trimZ (Span.unroll (c :: r)) ≠ [] := fun h0 =>
        List.cons_ne_nil _ _ (h.tail.allZero_iff.1 ((trimZ_eq_nil_iff _).1 h0))
      rw [trimZ_append_of_ne_nil _ hne, ih h.tail]

theorem rleCells_replicate_append (n c : Nat) (l : List Nat)
    (hl : match rleCells l with | [] => True | b :: _ => b.color ≠ c) :
    rleCells (List.replicate (n + 1) c ++ l) = ⟨c, n + 1⟩ :: rleCells l := by
  induction n with
  | zero =>
    simp only [List.replicate_succ, List.replicate_zero, List.cons_append, List.nil_append, rleCells]
    split
    · next h => rw [h]
    · next b bs h =>
      rw [h] at hl ⊢
      rw [if_neg (mt beq_iff_eq.1 hl)]
  | succ n ih =>
    rw [List.replicate_succ, List.cons_append, rleCells, ih]
    exact if_pos (beq_self_eq_true c)

theorem Span.Canon.rle_unroll {s : Span} (h : Span.Canon s) : rleCells (Span.unroll s) = s := by
  induction s with
  | nil => rfl
  | cons b rest ih =>
    obtain ⟨color, count⟩ := b
    obtain ⟨n, rfl⟩ : ∃ n, count = n + 1 :=
      Nat.exists_eq_succ_of_ne_zero (Nat.ne_of_gt h.head_pos)
    rw [Span.unroll_cons, rleCells_replicate_append, ih h.tail]
    rw [ih h.tail]
    cases rest with
    | nil => trivial
    | cons c r => exact fun e => h.2.1 e.symm

theorem Span.Canon.rle_trim_unroll {s : Span} (h : Span.Canon s) :
    rleCells (trimZ (Span.unroll s)) = s := by
  rw [h.trimZ_unroll, h.rle_unroll]

theorem Span.Canon.eq_of_sameCells {a b : Span} (ha : Span.Canon a) (hb : Span.Canon b)
    (h : SameCells (Span.unroll a) (Span.unroll b)) : a = b := by
  rw [← ha.rle_trim_unroll, ← hb.rle_trim_unroll, h.trimZ_eq]

theorem Tape.marks_toCfg (t : Tape) (q : Nat) : t.marks = (t.toCfg q).marks := by
  simp only [Tape.marks, Cfg.marks, Tape.toCfg, Span.marks_eq]
  congr 1
  exact Nat.add_comm _ _

theorem Tape.blank_iff {t : Tape} (h : t.Canon) (q : Nat) :
    t.blank = true ↔ (t.toCfg q).Blank := by
  simp only [Tape.blank, Cfg.Blank, Tape.toCfg, h.1.allZero_iff, h.2.allZero_iff,
    Bool.and_eq_true, beq_iff_eq, List.isEmpty_iff, and_assoc]

theorem Tape.atEdge_eq_true {t : Tape} {d : Bool} :
    t.atEdge d = true ↔ t.scan = 0 ∧ (if d then t.rspan else t.lspan) = [] := by
  rw [Tape.atEdge, Bool.and_eq_true, beq_iff_eq, List.isEmpty_iff]

theorem Tape.atEdge_iff {t : Tape} (h : t.Canon) (d : Bool) :
    t.atEdge d = true ↔
      t.scan = 0 ∧ AllZero (if d then Span.unroll t.rspan else Span.unroll t.lspan) := by
  rw [Tape.atEdge_eq_true]
  cases d
  · exact and_congr_right' h.1.allZero_iff.symm
  · exact and_congr_right' h.2.allZero_iff.symm

theorem Tape.spinOutCfg_of_atEdge {p : ProgF} {t : Tape} (hc : t.Canon) {q pr : Nat} {d : Bool}
    (hi : p q t.scan = some (pr, d, q)) (he : t.atEdge d = true) : SpinOutCfg p (t.toCfg q) := by
  obtain ⟨hscan, hzero⟩ := (Tape.atEdge_iff hc d).1 he
  refine ⟨hscan, pr, d, hscan ▸ hi, ?_⟩
  cases d <;> exact hzero

theorem Span.sigCompatible_iff (s : Span) (cs : SigSpan) :
    Span.sigCompatible s cs = true ↔
      ∀ i (hi : i < cs.length) (hj : i < s.length), (s[i]).color = (cs[i]).color := by
  induction s generalizing cs with
  | nil => exact iff_of_true (by cases cs <;> rfl) fun i _ hj => absurd hj (Nat.not_lt_zero i)
  | cons b bs ih =>
    cases cs with
    | nil => exact iff_of_true rfl fun i hi => absurd hi (Nat.not_lt_zero i)
    | cons c cs =>
      simp only [Span.sigCompatible, Bool.and_eq_true, beq_iff_eq, ih]
      constructor
      · rintro ⟨h0, h⟩ i hi hj
        cases i with
        | zero => exact h0
        | succ i => exact h i (Nat.lt_of_succ_lt_succ hi) (Nat.lt_of_succ_lt_succ hj)
      · exact fun h => ⟨h 0 (Nat.succ_pos _) (Nat.succ_pos _),
          fun i hi hj => h (i + 1) (Nat.succ_lt_succ hi) (Nat.succ_lt_succ hj)⟩

end BB
