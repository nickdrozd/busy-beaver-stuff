/-
C05 — segment analysis.  The loop over the segment sizes, and the positive verdicts of
`segment_cant_reach`: every answer other than `refuted` is true of the real machine
(`segmentCantReach_verdict`).
-/
import BB.Lemmas.SegSearchStep

namespace BB.Segment

open BB

theorem AnalyzedProg.new_prog (prog : Prog) (params : Nat × Nat) :
    (AnalyzedProg.new prog params).prog = prog := by
  unfold AnalyzedProg.new
  have : ∀ (l : List Nat) (ap : AnalyzedProg),
      (l.foldl (analyzeRow prog params.2) ap).prog = ap.prog := by
    intro l
    induction l with
    | nil => intro ap; rfl
    | cons x xs ih => intro ap; rw [List.foldl_cons, ih]; rfl
  rw [this]

/-- what each answer of `segment_cant_reach` other than `refuted` claims about the real machine -/
def SegmentVerdict (p : ProgF) : SegmentResult → Prop
  | .halt => Halts p
  | .blank => ∃ n q, BlankAfter p n q
  | .spinout => SpinsOut p
  | .repeat => NeverHalts p
  | _ => True

theorem allSegmentsReached_verdict (ap : AnalyzedProg) (seg : Nat) (goal : Term) (v : SearchResult)
    (h : allSegmentsReached ap seg goal = .ok (some v)) : SearchVerdict ap.prog.toF v := by
  unfold allSegmentsReached at h
  refine searchLoop_verdict ap goal _ _ _ v ?_ h
  intro c hc
  cases goal <;> simp [Configs.new] at hc

/-- the states that get an entry in `reached` -/
def reachedKeys (ap : AnalyzedProg) : Term → List Nat
  | .halt => ap.halts
  | .spinout => ap.spinouts.map Prod.fst
  | .blank => []

theorem segmentLoop_ok {ap : AnalyzedProg} {goal : Term} :
    ∀ (fuel seg : Nat) (r : SegmentResult), segmentLoop ap goal fuel seg = .ok r →
      r = .segmentLimit ∨ ∃ seg' o, seg ≤ seg' ∧ allSegmentsReached ap (2 + seg') goal = .ok o ∧
        match o with
        | none => r = .refuted seg'
        | some .limit => r = .depthLimit
        | some .repeat => r = .repeat
        | some (.found t) => r = .ofTerm t
        | some .reached => False := by
  intro fuel
  induction fuel with
  | zero =>
    intro seg r h
    cases h
    exact Or.inl rfl
  | succ fuel ih =>
    intro seg r h
    rw [segmentLoop] at h
    cases ha : allSegmentsReached ap (2 + seg) goal with
    | error e => rw [ha] at h; cases h
    | ok o =>
      rw [ha] at h
      -- only `reached` goes on to the next size; every other answer is the one of this size
      cases o with
      | none => cases h; exact Or.inr ⟨seg, _, Nat.le_refl _, ha, rfl⟩
      | some v =>
        cases v with
        | reached =>
          exact (ih _ r h).imp_right fun ⟨seg', o, hs, h'⟩ => ⟨seg', o, Nat.le_of_succ_le hs, h'⟩
        | _ => cases h; exact Or.inr ⟨seg, _, Nat.le_refl _, ha, rfl⟩

/-- `refuted 0` is the immediate answer when no state gets an entry in `reached`; the loop starts
    at segment size 4 = 2 + 2 -/
theorem segmentCantReach_ok {prog : Prog} {params : Nat × Nat} {segs : Nat} {goal : Term}
    {r : SegmentResult} (h : segmentCantReach prog params segs goal = .ok r) :
    (r = .refuted 0 ∧ goal ≠ .blank ∧ reachedKeys (AnalyzedProg.new prog params) goal = []) ∨
    segmentLoop (AnalyzedProg.new prog params) goal (segs - 1) 2 = .ok r := by
  unfold segmentCantReach at h
  split at h
  · cases h
  · simp only at h
    split at h
    · rename_i hcond
      cases h
      left
      cases goal with
      | blank => simp at hcond
      | halt =>
        have he : (AnalyzedProg.new prog params).halts = [] := by simpa using hcond
        exact ⟨rfl, Term.noConfusion, he⟩
      | spinout =>
        have he : (AnalyzedProg.new prog params).spinouts = [] := by simpa using hcond
        exact ⟨rfl, Term.noConfusion, by rw [reachedKeys, he]; rfl⟩
    · exact Or.inr h

theorem segmentCantReach_verdict (prog : Prog) (params : Nat × Nat) (segs : Nat) (goal : Term)
    (r : SegmentResult) (h : segmentCantReach prog params segs goal = .ok r) :
    SegmentVerdict prog.toF r := by
  rcases segmentCantReach_ok h with ⟨rfl, -⟩ | h
  · trivial
  rcases segmentLoop_ok _ _ r h with rfl | ⟨seg', o, -, ha, hr⟩
  · trivial
  cases o with
  | none => subst hr; trivial
  | some v =>
    have hv := allSegmentsReached_verdict _ _ goal v ha
    rw [AnalyzedProg.new_prog] at hv
    cases v with
    | limit => subst hr; trivial
    | reached => exact hr.elim
    | «repeat» => subst hr; exact hv
    | found t => subst hr; cases t <;> exact hv

end BB.Segment
