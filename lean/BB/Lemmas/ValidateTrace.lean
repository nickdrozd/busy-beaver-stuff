/-
C02 (the rule-accelerated run reports the true outcome): soundness of the whole-run validator
`replay` / `replayGo` of BB/Model/ValidateTrace.lean against the L0 machine.

One invariant (`RInv`) is carried along the replay loop.  Any run of real steps from the replayed
configuration to a canonical tape keeps it (`RInv.advance`): a plain cycle is
one (`plainStep_sound`), and so is a validated application: the loop is generic over the
application validator `va`, of which only soundness (`VaSound`) is used; `vaCheck` (`replay`) is
sound by `checkApp_sound`, `vaSym` (`replaySym`) by that and `validateApp_sound`.
Before the cycle of the first reported application the validator is not consulted: such a replay
never ends in a validation failure (`replayGo_no_apps`) and can be cut there (`replayGo_cut`).
-/
import BB.Model.ValidateTrace
import BB.Lemmas.Validate
import BB.Lemmas.RunQuickEvents
import BB.Lemmas.SymValidate

namespace BB

/-- the plain branch of one replay cycle (the local `plain` of `replayGo`) -/
def replayPlain (p : Prog) (va : Nat → Tape → AppRec → Option Nat)
    (why : Nat → Tape → AppRec → AppRes) (fuel cycle q : Nat) (t : Tape) (steps : Nat)
    (blanks : List (Nat × Nat)) (apps : List AppRec) : ReplayEnd × List (Nat × Nat) :=
  match plainStep p q t with
  | .undefined slot => (.undfnd cycle slot t.marks steps, blanks)
  | .spinout => (.spnout cycle t.marks steps, blanks)
  | .next q' t' k =>
    if t'.cellsBlank then
      if blanks.any (fun e => e.1 == q') then (.blankRec cycle q' (steps + k), blanks)
      else if q' == 0 then (.blankRec cycle q' (steps + k), (q', steps + k) :: blanks)
      else replayGo p va why fuel (cycle + 1) q' t' (steps + k) ((q', steps + k) :: blanks) apps
    else replayGo p va why fuel (cycle + 1) q' t' (steps + k) blanks apps

theorem replayGo_succ (p : Prog) (va : Nat → Tape → AppRec → Option Nat)
    (why : Nat → Tape → AppRec → AppRes) (fuel cycle q : Nat) (t : Tape) (steps : Nat)
    (blanks : List (Nat × Nat)) (apps : List AppRec) :
    replayGo p va why (fuel + 1) cycle q t steps blanks apps
      = match apps with
        | [] => replayPlain p va why fuel cycle q t steps blanks []
        | a :: rest =>
          if a.cycle < cycle then (.appMismatch cycle, blanks)
          else if a.cycle == cycle then
            if a.state != q || a.before != t then (.appMismatch cycle, blanks)
            else match va q t a with
              | some s => replayGo p va why fuel (cycle + 1) q a.after (steps + s) blanks rest
              | none => (.badApp cycle (why q t a), blanks)
          else replayPlain p va why fuel cycle q t steps blanks (a :: rest) := by
  cases apps <;> rfl

theorem Span.blankB_allZero {s : Span} (h : Span.blankB s = true) : AllZero (Span.unroll s) := by
  induction s with
  | nil => exact allZero_nil
  | cons b rest ih =>
    simp only [Span.blankB, List.all_cons, Bool.and_eq_true, Bool.or_eq_true, beq_iff_eq] at h
    rw [Span.unroll_cons, allZero_append]
    refine ⟨?_, ih h.2⟩
    rcases h.1 with hc | hc
    · rw [hc]; exact allZero_replicate_zero _
    · rw [hc]; exact allZero_nil

theorem Tape.cellsBlank_toCfg {t : Tape} (h : t.cellsBlank = true) (q : Nat) :
    (t.toCfg q).Blank := by
  simp only [Tape.cellsBlank, Bool.and_eq_true, beq_iff_eq] at h
  exact ⟨h.1.1, Span.blankB_allZero h.1.2, Span.blankB_allZero h.2⟩

theorem any_fst_iff {b : List (Nat × Nat)} {q : Nat} :
    b.any (fun e => e.1 == q) = true ↔ q ∈ b.map (·.1) := by
  simp only [List.any_eq_true, beq_iff_eq, List.mem_map]

/-- what is known at the top of every replay cycle -/
structure RInv (p : Prog) (q : Nat) (t : Tape) (steps : Nat) (bl : List (Nat × Nat)) :
    Prop where
  canon : t.Canon
  run : RunVia p.toF (OnWay p.toF True) Cfg.init steps (t.toCfg q)
  blanks : ∀ q' n, (q', n) ∈ bl → BlankAfter p.toF n q' ∧ n ≤ steps
  nodup : (bl.map (·.1)).Nodup

theorem RInv.init (p : Prog) : RInv p 0 Tape.init 0 [] where
  canon := Tape.canon_init 0
  run := RunVia.zero _ _ _
  blanks := fun _ _ h => nomatch h
  nodup := List.nodup_nil

section
variable {p : Prog} {q : Nat} {t : Tape} {steps : Nat} {bl : List (Nat × Nat)}

theorem RInv.runAt (inv : RInv p q t steps bl) : ∃ c, RunAt p.toF steps c ∧ c ≈c t.toCfg q :=
  inv.run.1

theorem RInv.noSpin (inv : RInv p q t steps bl) :
    ∀ j c, j < steps → RunAt p.toF j c → ¬ SpinOutCfg p.toF c := by
  intro j c hj hr
  obtain ⟨c', hc', hw⟩ := inv.run.2 j hj
  rw [RunAt.unique hr hc']
  exact hw.2 trivial

theorem RInv.advance (inv : RInv p q t steps bl) {k q' : Nat} {t' : Tape}
    (h : RunVia p.toF (OnWay p.toF t.Canon) (t.toCfg q) k (t'.toCfg q')) (hc : t'.Canon) :
    RInv p q' t' (steps + k) bl where
  canon := hc
  run := inv.run.append (fun _ => inv.canon) h
  blanks := fun q'' n hm =>
    ⟨(inv.blanks q'' n hm).1, Nat.le_trans (inv.blanks q'' n hm).2 (Nat.le_add_right _ _)⟩
  nodup := inv.nodup

theorem RInv.blankAfter (inv : RInv p q t steps bl) (hb : t.cellsBlank = true) (h0 : 0 < steps) :
    BlankAfter p.toF steps q := by
  obtain ⟨c, hr, hc⟩ := inv.runAt
  exact ⟨h0, c, hr, hc.1, hc.symm.blank (Tape.cellsBlank_toCfg hb q)⟩

theorem RInv.record (inv : RInv p q t steps bl) (hb : BlankAfter p.toF steps q)
    (hq : q ∉ bl.map (·.1)) : RInv p q t steps ((q, steps) :: bl) where
  canon := inv.canon
  run := inv.run
  blanks := fun q' n h => by
    cases h with
    | head => exact ⟨hb, Nat.le_refl _⟩
    | tail _ h' => exact inv.blanks q' n h'
  nodup := List.nodup_cons.2 ⟨hq, inv.nodup⟩

end

/-- everything the property theorems say about the result of a replay that was allowed to go up to
    cycle `hi` -/
structure REnd (p : Prog) (hi : Nat) (r : ReplayEnd × List (Nat × Nat)) : Prop where
  blanks : ∀ q n, (q, n) ∈ r.2 → BlankAfter p.toF n q
  nodup : (r.2.map (·.1)).Nodup
  undfnd : ∀ cyc q s m n, r.1 = .undfnd cyc (q, s) m n →
    HaltsAt p.toF n q s ∧ (∃ c, RunAt p.toF n c ∧ c.marks = m) ∧
      (∀ j c, j < n → RunAt p.toF j c → ¬ SpinOutCfg p.toF c) ∧ cyc < hi
  spnout : ∀ cyc m n, r.1 = .spnout cyc m n →
    (∃ c, RunAt p.toF n c ∧ SpinOutCfg p.toF c ∧ c.marks = m) ∧
      (∀ j c, j < n → RunAt p.toF j c → ¬ SpinOutCfg p.toF c) ∧ cyc < hi
  blankRec : ∀ cyc q n, r.1 = .blankRec cyc q n → BlankAfter p.toF n q ∧ NeverHalts p.toF
  limit : ∀ q t n, r.1 = .limit q t n →
    (∃ c, RunAt p.toF n c ∧ c ≈c t.toCfg q) ∧ t.Canon ∧
      (∀ j c, j < n → RunAt p.toF j c → ¬ SpinOutCfg p.toF c)

/-- the clauses of `REnd` about the way the replay ends, one per constructor (a validation failure
    claims nothing) -/
def ReplayEnd.Claim (p : Prog) (hi : Nat) : ReplayEnd → Prop
  | .undfnd cyc (q, s) m n =>
    HaltsAt p.toF n q s ∧ (∃ c, RunAt p.toF n c ∧ c.marks = m) ∧
      (∀ j c, j < n → RunAt p.toF j c → ¬ SpinOutCfg p.toF c) ∧ cyc < hi
  | .spnout cyc m n =>
    (∃ c, RunAt p.toF n c ∧ SpinOutCfg p.toF c ∧ c.marks = m) ∧
      (∀ j c, j < n → RunAt p.toF j c → ¬ SpinOutCfg p.toF c) ∧ cyc < hi
  | .blankRec _ q n => BlankAfter p.toF n q ∧ NeverHalts p.toF
  | .limit q t n =>
    (∃ c, RunAt p.toF n c ∧ c ≈c t.toCfg q) ∧ t.Canon ∧
      (∀ j c, j < n → RunAt p.toF j c → ¬ SpinOutCfg p.toF c)
  | _ => True

theorem RInv.rend {p : Prog} {q : Nat} {t : Tape} {steps : Nat} {bl : List (Nat × Nat)}
    (inv : RInv p q t steps bl) {hi : Nat} {e : ReplayEnd} (hc : e.Claim p hi) :
    REnd p hi (e, bl) where
  blanks := fun q' n h => (inv.blanks q' n h).1
  nodup := inv.nodup
  undfnd := fun _ _ _ _ _ h => by subst h; exact hc
  spnout := fun _ _ _ h => by subst h; exact hc
  blankRec := fun _ _ _ h => by subst h; exact hc
  limit := fun _ _ _ h => by subst h; exact hc

/-- the plain branch of the induction in `replayGo_spec`; `ih` is the result for every shorter
    replay -/
theorem replayPlain_spec (p : Prog) (va : Nat → Tape → AppRec → Option Nat)
    (why : Nat → Tape → AppRec → AppRes) (fuel : Nat)
    (ih : ∀ (cycle q : Nat) (t : Tape) (steps : Nat) (blanks : List (Nat × Nat))
      (apps : List AppRec), RInv p q t steps blanks →
      REnd p (cycle + fuel) (replayGo p va why fuel cycle q t steps blanks apps))
    (cycle q : Nat) (t : Tape) (steps : Nat) (blanks : List (Nat × Nat)) (apps : List AppRec)
    (inv : RInv p q t steps blanks) :
    REnd p (cycle + (fuel + 1)) (replayPlain p va why fuel cycle q t steps blanks apps) := by
  have hhi : cycle + (fuel + 1) = cycle + 1 + fuel := (Nat.add_right_comm cycle 1 fuel).symm
  have hlt : cycle < cycle + (fuel + 1) := Nat.lt_add_of_pos_right (Nat.succ_pos fuel)
  have hs := plainStep_spec p q t
  obtain ⟨c, hrun, hc⟩ := inv.runAt
  have hmarks : c.marks = t.marks := hc.marks_eq.trans (t.marks_toCfg q).symm
  unfold replayPlain
  cases hps : plainStep p q t with
  | undefined slot =>
    rw [hps] at hs
    obtain ⟨rfl, hget⟩ := hs
    exact inv.rend ⟨⟨c, hrun, hc.1, hc.2.1, hget⟩, ⟨c, hrun, hmarks⟩, inv.noSpin, hlt⟩
  | spinout =>
    rw [hps] at hs
    obtain ⟨color, shift, hget, hat⟩ := hs
    exact inv.rend ⟨⟨c, hrun, (Tape.spinOutCfg_of_atEdge (p := p.toF) inv.canon hget hat).congr
      hc.symm, hmarks⟩, inv.noSpin, hlt⟩
  | next q' t' k =>
    simp only
    obtain ⟨hk, _, hcan', hstep⟩ := plainStep_sound inv.canon.pos id hps
    have inv' := inv.advance hstep (hcan' inv.canon)
    by_cases hbl : t'.cellsBlank = true
    · rw [if_pos hbl]
      have hnew := inv'.blankAfter hbl (Nat.add_pos_right steps hk)
      by_cases hany : blanks.any (fun e => e.1 == q') = true
      · -- blank in `q'` before, at step `n ≤ steps < steps + k`
        rw [if_pos hany]
        obtain ⟨⟨_, n⟩, hn, rfl⟩ := List.mem_map.1 (any_fst_iff.1 hany)
        obtain ⟨hold, hle⟩ := inv.blanks _ n hn
        exact inv.rend ⟨hnew,
          hold.again (Nat.lt_of_le_of_lt hle (Nat.lt_add_of_pos_right hk)) hnew⟩
      · rw [if_neg hany]
        have inv'' := inv'.record hnew (mt any_fst_iff.2 hany)
        by_cases hz : (q' == 0) = true
        · rw [if_pos hz]
          exact inv''.rend ⟨hnew, BlankAfter.start (beq_iff_eq.1 hz ▸ hnew)⟩
        · rw [if_neg hz, hhi]
          exact ih (cycle + 1) q' t' (steps + k) _ apps inv''
    · rw [if_neg hbl, hhi]
      exact ih (cycle + 1) q' t' (steps + k) _ apps inv'

/-- what the replay needs of an application validator -/
def VaSound (p : Prog) (va : Nat → Tape → AppRec → Option Nat) : Prop :=
  ∀ (q : Nat) (t : Tape) (a : AppRec) (s : Nat), va q t a = some s → t.Canon →
    RunVia p.toF (OnWay p.toF t.Canon) (t.toCfg q) s (a.after.toCfg q) ∧ a.after.Canon

theorem replayGo_spec (p : Prog) (va : Nat → Tape → AppRec → Option Nat)
    (why : Nat → Tape → AppRec → AppRes) (hva : VaSound p va) :
    ∀ (fuel cycle q : Nat) (t : Tape) (steps : Nat) (blanks : List (Nat × Nat))
      (apps : List AppRec), RInv p q t steps blanks →
      REnd p (cycle + fuel) (replayGo p va why fuel cycle q t steps blanks apps) := by
  intro fuel
  induction fuel with
  | zero =>
    intro cycle q t steps blanks apps inv
    rw [replayGo]
    exact inv.rend ⟨inv.runAt, inv.canon, inv.noSpin⟩
  | succ fuel ih =>
    intro cycle q t steps blanks apps inv
    rw [replayGo_succ]
    cases apps with
    | nil => exact replayPlain_spec p va why fuel ih cycle q t steps blanks [] inv
    | cons a rest =>
      simp only
      by_cases h1 : a.cycle < cycle
      · rw [if_pos h1]; exact inv.rend trivial
      · rw [if_neg h1]
        by_cases h2 : (a.cycle == cycle) = true
        · rw [if_pos h2]
          by_cases h3 : (a.state != q || a.before != t) = true
          · rw [if_pos h3]; exact inv.rend trivial
          · rw [if_neg h3]
            cases hca : va q t a with
            | some s =>
              obtain ⟨hrun, hcan⟩ := hva q t a s hca inv.canon
              rw [show cycle + (fuel + 1) = cycle + 1 + fuel from
                (Nat.add_right_comm cycle 1 fuel).symm]
              exact ih (cycle + 1) q a.after (steps + s) blanks rest (inv.advance hrun hcan)
            | none => exact inv.rend trivial
        · rw [if_neg h2]
          exact replayPlain_spec p va why fuel ih cycle q t steps blanks (a :: rest) inv

theorem vaCheck_sound (p : Prog) (budget : Nat) : VaSound p (vaCheck p budget) := by
  intro q t a s h hcanon
  unfold vaCheck at h
  split at h
  next hca => cases h; exact checkApp_sound_canon hca hcanon
  next => cases h

theorem vaSym_sound (p : Prog) (budget : Nat) : VaSound p (vaSym p budget) := by
  intro q t a s h hcanon
  unfold vaSym at h
  split at h
  next hca => cases h; exact checkApp_sound_canon hca hcanon
  next =>
    obtain ⟨_, _, _, hrun, hcan⟩ := Sym.validateApp_sound p q t a.after a.times budget s h
    exact ⟨hrun, hcan hcanon⟩
  next => cases h

theorem replayInit_spec {p : Prog} {va : Nat → Tape → AppRec → Option Nat} (hva : VaSound p va)
    (why : Nat → Tape → AppRec → AppRes) (lim : Nat) (apps : List AppRec) :
    REnd p lim (replayGo p va why lim 0 0 Tape.init 0 [] apps) := by
  have := replayGo_spec p va why hva lim 0 0 Tape.init 0 [] apps (RInv.init p)
  rwa [Nat.zero_add] at this

theorem replay_spec (p : Prog) (budget lim : Nat) (apps : List AppRec) :
    REnd p lim (replay p budget lim apps) :=
  replayInit_spec (vaCheck_sound p budget) _ lim apps

theorem replaySym_spec (p : Prog) (budget lim : Nat) (apps : List AppRec) :
    REnd p lim (replaySym p budget lim apps) :=
  replayInit_spec (vaSym_sound p budget) _ lim apps

theorem replayGo_succ_plain (p : Prog) (va : Nat → Tape → AppRec → Option Nat)
    (why : Nat → Tape → AppRec → AppRes) (fuel cycle q : Nat) (t : Tape) (steps : Nat)
    (blanks : List (Nat × Nat)) (apps : List AppRec) (h : ∀ a ∈ apps.head?, cycle < a.cycle) :
    replayGo p va why (fuel + 1) cycle q t steps blanks apps
      = replayPlain p va why fuel cycle q t steps blanks apps := by
  rw [replayGo_succ]
  cases apps with
  | nil => rfl
  | cons a rest =>
    have ha : cycle < a.cycle := h a rfl
    simp only
    rw [if_neg (Nat.lt_asymm ha), if_neg fun h => Nat.ne_of_gt ha (eq_of_beq h)]

/-- the end of a replay is not a validation failure -/
def ReplayEnd.Valid : ReplayEnd → Prop
  | .badApp _ _ => False
  | .appMismatch _ => False
  | _ => True

/-- whether a plain cycle ends the replay or goes on, and with what, depends neither on the
    validators nor on the applications still to come -/
theorem replayPlain_cases (p : Prog) (cycle q : Nat) (t : Tape) (steps : Nat)
    (blanks : List (Nat × Nat)) :
    (∃ e bl, (∀ va why fuel apps, replayPlain p va why fuel cycle q t steps blanks apps = (e, bl)) ∧
        e.Valid ∧ ∀ q' t' n, e ≠ .limit q' t' n) ∨
      ∃ q' t' n bl, ∀ va why fuel apps, replayPlain p va why fuel cycle q t steps blanks apps
        = replayGo p va why fuel (cycle + 1) q' t' n bl apps := by
  unfold replayPlain
  cases plainStep p q t with
  | undefined slot => exact .inl ⟨_, _, fun _ _ _ _ => rfl, trivial, nofun⟩
  | spinout => exact .inl ⟨_, _, fun _ _ _ _ => rfl, trivial, nofun⟩
  | next q' t' k =>
    simp only
    cases t'.cellsBlank with
    | false => exact .inr ⟨_, _, _, _, fun _ _ _ _ => rfl⟩
    | true =>
      cases blanks.any (fun e => e.1 == q') with
      | true => exact .inl ⟨_, _, fun _ _ _ _ => rfl, trivial, nofun⟩
      | false =>
        cases (q' == 0) with
        | true => exact .inl ⟨_, _, fun _ _ _ _ => rfl, trivial, nofun⟩
        | false => exact .inr ⟨_, _, _, _, fun _ _ _ _ => rfl⟩

theorem replayGo_nil_valid (p : Prog) (va : Nat → Tape → AppRec → Option Nat)
    (why : Nat → Tape → AppRec → AppRes) :
    ∀ (fuel cycle q : Nat) (t : Tape) (steps : Nat) (blanks : List (Nat × Nat)),
      (replayGo p va why fuel cycle q t steps blanks []).1.Valid := by
  intro fuel
  induction fuel with
  | zero => intro cycle q t steps blanks; rw [replayGo]; trivial
  | succ fuel ih =>
    intro cycle q t steps blanks
    rw [replayGo_succ_plain _ _ _ _ _ _ _ _ _ _ (fun _ h => by cases h)]
    rcases replayPlain_cases p cycle q t steps blanks with ⟨e, bl, he, hv, _⟩ | ⟨q', t', n, bl, he⟩
    · rw [he]; exact hv
    · rw [he]; exact ih _ _ _ _ _

theorem replayGo_no_apps (p : Prog) (va : Nat → Tape → AppRec → Option Nat)
    (why : Nat → Tape → AppRec → AppRes) (fuel cycle q : Nat) (t : Tape) (steps : Nat)
    (blanks : List (Nat × Nat)) (e : ReplayEnd) (bl : List (Nat × Nat))
    (h : replayGo p va why fuel cycle q t steps blanks [] = (e, bl)) :
    (∀ c w, e ≠ .badApp c w) ∧ (∀ c, e ≠ .appMismatch c) := by
  have hv := replayGo_nil_valid p va why fuel cycle q t steps blanks
  rw [h] at hv
  exact ⟨fun _ _ he => by rw [he] at hv; exact hv, fun _ he => by rw [he] at hv; exact hv⟩

/-- the `n` cycles before the cut are those of a replay without applications, whatever its
    validator (`va'`) -/
theorem replayGo_cut (p : Prog) (va va' : Nat → Tape → AppRec → Option Nat)
    (why why' : Nat → Tape → AppRec → AppRes) (m : Nat) (apps : List AppRec) :
    ∀ (n cycle q : Nat) (t : Tape) (steps : Nat) (blanks : List (Nat × Nat)) (q' : Nat)
      (t' : Tape) (steps' : Nat) (blanks' : List (Nat × Nat)),
      (∀ a ∈ apps.head?, cycle + n ≤ a.cycle) →
      replayGo p va' why' n cycle q t steps blanks [] = (.limit q' t' steps', blanks') →
      replayGo p va why (n + m) cycle q t steps blanks apps
        = replayGo p va why m (cycle + n) q' t' steps' blanks' apps := by
  intro n
  induction n with
  | zero =>
    intro cycle q t steps blanks q' t' steps' blanks' _ h
    rw [replayGo] at h
    cases h
    rw [Nat.zero_add]; rfl
  | succ n ih =>
    intro cycle q t steps blanks q' t' steps' blanks' ha h
    have ha' : ∀ a ∈ apps.head?, cycle + 1 + n ≤ a.cycle := fun a hm =>
      Nat.le_trans (Nat.le_of_eq (Nat.add_right_comm cycle 1 n)) (ha a hm)
    rw [replayGo_succ_plain _ _ _ _ _ _ _ _ _ _ (fun _ hm => by cases hm)] at h
    rw [Nat.add_right_comm n 1 m,
      replayGo_succ_plain _ _ _ _ _ _ _ _ _ _ (fun a hm =>
        Nat.lt_of_lt_of_le (Nat.lt_add_of_pos_right (Nat.succ_pos n)) (ha a hm)),
      show cycle + (n + 1) = cycle + 1 + n from (Nat.add_right_comm cycle 1 n).symm]
    rcases replayPlain_cases p cycle q t steps blanks with ⟨e, bl, he, _, hl⟩ | ⟨q1, t1, n1, bl, he⟩
    · rw [he] at h
      cases h
      exact absurd rfl (hl _ _ _)
    · rw [he] at h ⊢
      exact ih _ _ _ _ _ _ _ _ _ ha' h

theorem never_halts_from {p : ProgF} {n : Nat} {c e : Cfg} (hr : RunAt p n c) (he : c ≈c e)
    (hbefore : ∀ j c', j < n → RunAt p j c' → ¬ SpinOutCfg p c')
    (hrun : ∀ k, ∃ c', stepN p k e = some c')
    (hns : ∀ k c', stepN p k e = some c' → ¬ SpinOutCfg p c') :
    NeverHalts p ∧ ¬ SpinsOut p := by
  refine ⟨fun N => ?_, ?_⟩
  · by_cases hN : N ≤ n
    · exact stepN_le hr hN
    · obtain ⟨k, rfl⟩ := Nat.exists_eq_add_of_le (Nat.le_of_not_le hN)
      obtain ⟨c', hc'⟩ := hrun k
      obtain ⟨b', hb', _⟩ := stepN_congr he.symm hc'
      exact ⟨b', stepN_add_of_eq hr hb'⟩
  · rintro ⟨N, cN, hN, hspin⟩
    by_cases hlt : N < n
    · exact hbefore N cN hlt hN hspin
    · obtain ⟨k, rfl⟩ := Nat.exists_eq_add_of_le (Nat.le_of_not_lt hlt)
      obtain ⟨c0, h0, hk⟩ := stepN_prefix hN
      have : c0 = c := RunAt.unique h0 hr
      subst this
      obtain ⟨b', hb', heq⟩ := stepN_congr he hk
      exact hns k b' hb' (SpinOutCfg.congr heq hspin)

end BB
