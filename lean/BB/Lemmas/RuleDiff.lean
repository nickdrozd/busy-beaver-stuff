/-
C11 (rule arithmetic is exact): the definitions used by the statements of BB/Props/C11.lean (with
what `Passes` and `PanicsAt` say of a `Plus` and of a `Mult` entry), and `calculate_diff`.

`calculateDiff` is walked through once (`calculateDiff_eq`: the answer as a decision list on range
conditions and quotient/remainder pairs); the integer arithmetic that turns agreeing pairs into
`next = q * prev + r` is proved apart from the model (`mult_chain`, `mult_of_divmods`).
-/
import BB.Model.Rules
import BB.Lemmas.MonoBase

namespace BB.RuleArith

open BB

/-- the span of side `s` of a tape (`true` = right span), as `Tape.getCount` selects it -/
def tspan (t : Tape) (s : Bool) : Span := if s then t.rspan else t.lspan

/-- `index` names an existing block of the tape (`span.0[pos]` does not panic) -/
def InRange (t : Tape) (index : Index) : Prop := index.2 < (tspan t index.1).length

instance (t : Tape) (index : Index) : Decidable (InRange t index) := by
  unfold InRange; exact inferInstance

/-- the keys of a rule, in map order -/
def keys (rule : Rule) : List Index := rule.map Prod.fst

/-- every op of the rule is a `Plus` (an additive rule) -/
def AllPlus (rule : Rule) : Prop := ∀ e ∈ rule, ∃ δ, e.2 = Op.plus δ

instance (rule : Rule) : Decidable (AllPlus rule) := by
  unfold AllPlus
  have : ∀ e : Index × Op, Decidable (∃ δ, e.2 = Op.plus δ) := by
    intro e
    cases h : e.2 with
    | plus d => exact isTrue ⟨d, rfl⟩
    | mult q r => exact isFalse (by intro ⟨δ, hδ⟩; cases hδ)
  exact inferInstance

/-- the `BTreeMap` invariant of the association list: keys strictly increasing for the derived
    order of `(bool, usize)` -/
def Sorted (rule : Rule) : Prop := rule.Pairwise (fun x y => Index.lt x.1 y.1 = true)

instance (rule : Rule) : Decidable (Sorted rule) := by unfold Sorted; exact inferInstance

/-- the count vector of side `s` of a `Counts` pair (`true` = right) -/
def cside (c : Counts) (s : Bool) : List Nat := if s then c.2 else c.1

/-- every block count of the tape is a `u64` -/
def CountsInRange (t : Tape) : Prop :=
  (∀ b ∈ t.lspan, b.count ≤ countMax) ∧ (∀ b ∈ t.rspan, b.count ≤ countMax)

instance (t : Tape) : Decidable (CountsInRange t) := by unfold CountsInRange; exact inferInstance

/-- every block of the tape has at least one cell -/
def AllPositive (t : Tape) : Prop :=
  (∀ b ∈ t.lspan, 1 ≤ b.count) ∧ (∀ b ∈ t.rspan, 1 ≤ b.count)

instance (t : Tape) : Decidable (AllPositive t) := by unfold AllPositive; exact inferInstance

/-- an entry that the loop of `count_apps` steps over without returning or panicking: an additive
    entry that is non-decreasing, or whose block exists and has more than `|δ|` cells -/
def Passes (t : Tape) (e : Index × Op) : Prop :=
  ∃ δ, e.2 = Op.plus δ ∧ (0 ≤ δ ∨ ∃ c, t.getCount e.1 = .ok c ∧ δ.natAbs < c)

/-- an entry at which the loop of `count_apps` panics with `err`: a `Mult` op (`unimplemented!()`),
    or a decreasing additive entry that names no block of the tape (index out of bounds) -/
def PanicsAt (t : Tape) (e : Index × Op) (err : PErr) : Prop :=
  (∃ q r, e.2 = Op.mult q r ∧ err = .panic "not implemented") ∨
    (∃ δ, e.2 = Op.plus δ ∧ δ < 0 ∧ ¬ InRange t e.1 ∧ err = .panic "index out of bounds")

theorem passes_plus {t : Tape} {pos : Index} {δ : Int} :
    Passes t (pos, .plus δ) ↔ 0 ≤ δ ∨ ∃ c, t.getCount pos = .ok c ∧ δ.natAbs < c :=
  ⟨fun ⟨_, h, h'⟩ => by cases h; exact h', fun h => ⟨δ, rfl, h⟩⟩

theorem not_passes_mult {t : Tape} {pos : Index} {q r : Int} : ¬ Passes t (pos, .mult q r) :=
  fun ⟨_, h, _⟩ => nomatch h

theorem panicsAt_plus {t : Tape} {pos : Index} {δ : Int} {e : PErr} :
    PanicsAt t (pos, .plus δ) e ↔ δ < 0 ∧ ¬ InRange t pos ∧ e = .panic "index out of bounds" :=
  ⟨fun h => h.elim (fun ⟨_, _, h, _⟩ => nomatch h) fun ⟨_, h, h'⟩ => by cases h; exact h',
    fun h => Or.inr ⟨δ, rfl, h⟩⟩

theorem panicsAt_mult {t : Tape} {pos : Index} {q r : Int} {e : PErr} :
    PanicsAt t (pos, .mult q r) e ↔ e = .panic "not implemented" :=
  ⟨fun h => h.elim (fun ⟨_, _, _, h⟩ => h) fun ⟨_, h, _⟩ => (nomatch h), fun h => Or.inl ⟨q, r, rfl, h⟩⟩

theorem diffMax_eq : diffMax = 2147483647 := rfl
theorem diffMin_eq : diffMin = -2147483648 := rfl

theorem diffTryFrom_some {x y : Int} (h : diffTryFrom x = some y) :
    y = x ∧ diffMin ≤ x ∧ x ≤ diffMax := by
  unfold diffTryFrom at h
  split at h
  · next hx => cases h; exact ⟨rfl, hx.1, hx.2⟩
  · cases h

theorem diffTryFrom_of_range {x : Int} (h1 : diffMin ≤ x) (h2 : x ≤ diffMax) :
    diffTryFrom x = some x := if_pos ⟨h1, h2⟩

theorem diffTryFrom_natCast {n : Nat} (h : (n : Int) ≤ diffMax) : diffTryFrom n = some (n : Int) :=
  diffTryFrom_of_range (by rw [diffMin_eq]; omega) h

theorem sub_inRange {x y : Nat} (hx : (x : Int) ≤ diffMax) (hy : (y : Int) ≤ diffMax) :
    diffMin ≤ (y : Int) - x ∧ (y : Int) - x ≤ diffMax := by
  rw [diffMin_eq]; rw [diffMax_eq] at hx; omega

theorem natCast_pos_of_ne {n : Nat} (h : (n : Int) ≠ 0) : (0 : Int) < n := by omega

theorem tdivmod_unique {x y q r : Int} (hx : 0 ≤ x) (hy : 0 < y) :
    (x.tdiv y = q ∧ x.tmod y = r) ↔ (x = q * y + r ∧ 0 ≤ r ∧ r < y) := by
  rw [Int.tdiv_eq_ediv_of_nonneg hx, Int.tmod_eq_emod_of_nonneg hx, Int.ediv_emod_unique hy,
    Int.mul_comm, Int.add_comm, eq_comm]

/-- why `d / c` cannot divide by zero: `c = 0` with `b / a = c / b` and `b % a = c % b` gives
    `b = a * 0 + 0` -/
theorem ne_zero_of_divmod_eq {a b c : Int} (hb : b ≠ 0)
    (h : b.tdiv a = c.tdiv b ∧ b.tmod a = c.tmod b) : c ≠ 0 := by
  rintro rfl
  rw [Int.zero_tdiv, Int.zero_tmod] at h
  have := Int.mul_tdiv_add_tmod b a
  rw [h.1, h.2, Int.mul_zero, Int.add_zero] at this
  exact hb this.symm

theorem mult_step {x y q r : Int} (hx : 0 < x) (hq : 2 ≤ q) (r0 : 0 ≤ r) (rx : r < x)
    (e : y = q * x + r) : (x < y ∧ x ≤ y - x) ∧ y.tdiv x = q ∧ y.tmod x = r := by
  have h : 2 * x ≤ y :=
    e ▸ Int.le_trans (Int.mul_le_mul_of_nonneg_right hq (Int.le_of_lt hx))
      (Int.le_add_of_nonneg_right r0)
  have g : x < y ∧ x ≤ y - x := by omega
  exact ⟨g, (tdivmod_unique (Int.le_of_lt (Int.lt_trans hx g.1)) hx).mpr ⟨e, r0, rx⟩⟩

theorem mult_chain {a b c d q r : Int} (ha : 0 < a) (hq : 2 ≤ q) (r0 : 0 ≤ r) (ra : r < a)
    (eb : b = q * a + r) (ec : c = q * b + r) (ed : d = q * c + r) :
    (a < b ∧ b < c ∧ c < d ∧ b - a < c - b) ∧
      (b.tdiv a = q ∧ b.tmod a = r) ∧ (c.tdiv b = q ∧ c.tmod b = r) ∧
      (d.tdiv c = q ∧ d.tmod c = r) := by
  obtain ⟨⟨g1, -⟩, t1⟩ := mult_step ha hq r0 ra eb
  have hb := Int.lt_trans ha g1
  have rb := Int.lt_trans ra g1
  obtain ⟨⟨g2, s2⟩, t2⟩ := mult_step hb hq r0 rb ec
  obtain ⟨⟨g3, -⟩, t3⟩ := mult_step (Int.lt_trans hb g2) hq r0 (Int.lt_trans rb g2) ed
  exact ⟨⟨g1, g2, g3, Int.lt_of_lt_of_le (Int.sub_lt_self b ha) s2⟩, t1, t2, t3⟩

/-- quotient 0 is impossible (`b = r < b`), quotient 1 is an arithmetic progression (`hp`) -/
theorem mult_of_divmods {a b c d q r : Int} (ha : 0 < a) (hb : 0 < b) (hc : 0 < c) (hd : 0 ≤ d)
    (h1 : b.tdiv a = q ∧ b.tmod a = r) (h2 : c.tdiv b = q ∧ c.tmod b = r)
    (h3 : d.tdiv c = q ∧ d.tmod c = r) (hp : ¬ (b - a = c - b ∧ c - b = d - c)) :
    2 ≤ q ∧ 0 ≤ r ∧ r < a ∧ b = q * a + r ∧ c = q * b + r ∧ d = q * c + r := by
  have hq0 : 0 ≤ q := h1.1 ▸ Int.tdiv_nonneg (Int.le_of_lt hb) (Int.le_of_lt ha)
  have hq : q = 0 ∨ q = 1 ∨ 2 ≤ q := by omega
  obtain ⟨e1, r0, ra⟩ := (tdivmod_unique (Int.le_of_lt hb) ha).mp h1
  obtain ⟨e2, -, rb⟩ := (tdivmod_unique (Int.le_of_lt hc) hb).mp h2
  obtain ⟨e3, -, -⟩ := (tdivmod_unique hd hc).mp h3
  refine ⟨?_, r0, ra, e1, e2, e3⟩
  rcases hq with rfl | rfl | hq
  · rw [Int.zero_mul, Int.zero_add] at e1
    exact absurd (e1 ▸ rb) (Int.lt_irrefl _)
  · rw [Int.one_mul, ← Int.sub_eq_iff_eq_add'] at e1 e2 e3
    exact absurd ⟨e1.trans e2.symm, e2.trans e3.symm⟩ hp
  · exact hq

/-- `calculate_diff` as a decision list on the exact integers: each `try_from` has become a range
    condition, and the division-by-zero branch does not appear, being unreachable
    (`ne_zero_of_divmod_eq`). -/
theorem calculateDiff_eq (a b c d : Nat) :
    calculateDiff a b c d =
      if a = b ∧ b = c ∧ c = d then .ok none
      else .ok (some (
        if diffMin ≤ (b : Int) - a ∧ (b : Int) - a ≤ diffMax ∧
            (c : Int) - b = b - a ∧ (d : Int) - c = b - a then
          .got (.plus ((b : Int) - a))
        else if ((a : Int) ≤ diffMax ∧ (b : Int) ≤ diffMax ∧ (c : Int) ≤ diffMax ∧
              (d : Int) ≤ diffMax) ∧ ¬ ((a : Int) = 0 ∨ (b : Int) = 0) ∧
            ((b : Int).tdiv a = (c : Int).tdiv b ∧ (b : Int).tmod a = (c : Int).tmod b) ∧
            ((c : Int).tdiv b = (d : Int).tdiv c ∧ (c : Int).tmod b = (d : Int).tmod c) then
          .got (.mult ((b : Int).tdiv a) ((b : Int).tmod a))
        else .unknown)) := by
  unfold calculateDiff
  simp only [Bool.and_eq_true, Bool.or_eq_true, beq_iff_eq, Prod.mk.injEq]
  -- `split` only for the two `match`es: on a goal of this size a `by_cases` with `rw [if_pos ..]`
  -- on both sides is checked several times faster than `split` on an `if`
  by_cases hs : a = b ∧ b = c ∧ c = d
  · rw [if_pos hs, if_pos ⟨⟨hs.1, hs.2.1⟩, hs.2.2⟩]
  rw [if_neg hs, if_neg (fun h => hs ⟨h.1.1, h.1.2, h.2⟩)]
  split
  · next d1 d2 d3 h1 h2 h3 =>
    obtain ⟨rfl, l1, u1⟩ := diffTryFrom_some h1
    obtain ⟨rfl, -⟩ := diffTryFrom_some h2
    obtain ⟨rfl, -⟩ := diffTryFrom_some h3
    by_cases hp : (b : Int) - a = c - b ∧ (c : Int) - b = d - c
    · rw [if_pos hp, if_pos ⟨l1, u1, hp.1.symm, (hp.1.trans hp.2).symm⟩]
    rw [if_neg hp, if_neg (fun h => hp ⟨h.2.2.1.symm, h.2.2.1.trans h.2.2.2.symm⟩)]
    split
    · next a' b' c' d' ha hb hc hd =>
      obtain ⟨rfl, -, ua⟩ := diffTryFrom_some ha
      obtain ⟨rfl, -, ub⟩ := diffTryFrom_some hb
      obtain ⟨rfl, -, uc⟩ := diffTryFrom_some hc
      obtain ⟨rfl, -, ud⟩ := diffTryFrom_some hd
      by_cases h0 : (a : Int) = 0 ∨ (b : Int) = 0
      · rw [if_pos h0, if_neg (fun h => h.2.1 h0)]
      rw [if_neg h0]
      by_cases h12 : (b : Int).tdiv a = (c : Int).tdiv b ∧ (b : Int).tmod a = (c : Int).tmod b
      · rw [if_pos h12]
        by_cases hc0 : (c : Int) = 0
        · exact absurd hc0 (ne_zero_of_divmod_eq (fun h => h0 (Or.inr h)) h12)
        rw [if_neg hc0]
        by_cases h23 : (c : Int).tdiv b = (d : Int).tdiv c ∧ (c : Int).tmod b = (d : Int).tmod c
        · rw [if_pos h23, if_pos ⟨⟨ua, ub, uc, ud⟩, h0, h12, h23⟩]
        · rw [if_neg h23, if_neg (fun h => h23 h.2.2.2)]
      · rw [if_neg h12, if_neg (fun h => h12 h.2.2.1)]
    · next hn =>
      rw [if_neg]
      exact fun h => hn _ _ _ _ (diffTryFrom_natCast h.1.1) (diffTryFrom_natCast h.1.2.1)
        (diffTryFrom_natCast h.1.2.2.1) (diffTryFrom_natCast h.1.2.2.2)
  · next hn =>
    rw [if_neg, if_neg]
    · exact fun h => hn _ _ _ (if_pos (sub_inRange h.1.1 h.1.2.1))
        (if_pos (sub_inRange h.1.2.1 h.1.2.2.1)) (if_pos (sub_inRange h.1.2.2.1 h.1.2.2.2))
    · rintro ⟨l, u, e2, e3⟩
      exact hn _ _ _ (diffTryFrom_of_range l u) (e2 ▸ diffTryFrom_of_range l u)
        (e3 ▸ diffTryFrom_of_range l u)

theorem calculateDiff_ne_error (a b c d : Nat) (e : PErr) : calculateDiff a b c d ≠ .error e := by
  rw [calculateDiff_eq]
  split <;> exact fun h => nomatch h

end BB.RuleArith
