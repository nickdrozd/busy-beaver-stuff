/-
C04: what `getEntrypoints`, `checkedSteps`, `getIndef`, `sameSteps` and `getValidSteps` contain, in
both directions (membership lemmas only; no semantics).
-/
import BB.Model.Reason

namespace BB.Reason

open BB

theorem Entrypoints.get_cons (k : Nat) (v : Entries × Entries) (rest : Entrypoints) (st : Nat) :
    Entrypoints.get ((k, v) :: rest) st = if k == st then some v else Entrypoints.get rest st := rfl

/-- what each of the three branches of `Entrypoints.push` does to the pair of lists of a state -/
def addEntry (b : Bool) (en : Entry) (v : Entries × Entries) : Entries × Entries :=
  if b then (v.1 ++ [en], v.2) else (v.1, v.2 ++ [en])

theorem mem_addEntry {b b' : Bool} {en en' : Entry} {v : Entries × Entries} :
    en' ∈ (if b' then (addEntry b en v).1 else (addEntry b en v).2) ↔
      en' ∈ (if b' then v.1 else v.2) ∨ (b' = b ∧ en' = en) := by
  cases b <;> cases b' <;> simp [addEntry]

theorem Entrypoints.push_nil (st : Nat) (b : Bool) (en : Entry) :
    Entrypoints.push [] st b en = [(st, addEntry b en ([], []))] := rfl

theorem Entrypoints.push_cons (k : Nat) (v : Entries × Entries) (rest : Entrypoints) (st : Nat)
    (b : Bool) (en : Entry) :
    Entrypoints.push ((k, v) :: rest) st b en =
      if k == st then (k, addEntry b en v) :: rest
      else if st < k then (st, addEntry b en ([], [])) :: (k, v) :: rest
      else (k, v) :: Entrypoints.push rest st b en := rfl

def ESorted : Entrypoints → Prop
  | [] => True
  | (k, _) :: rest => (∀ kv ∈ rest, k < kv.1) ∧ ESorted rest

theorem Entrypoints.get_none_of_lt (ep : Entrypoints) (st : Nat) (h : ∀ kv ∈ ep, st < kv.1) :
    ep.get st = none := by
  induction ep with
  | nil => rfl
  | cons kv rest ih =>
    obtain ⟨k, v⟩ := kv
    have hk : st < k := h (k, v) List.mem_cons_self
    rw [Entrypoints.get_cons, if_neg (mt beq_iff_eq.1 (Nat.ne_of_gt hk))]
    exact ih fun kv hkv => h kv (List.mem_cons_of_mem _ hkv)

theorem Entrypoints.push_lb {ep : Entrypoints} {st : Nat} (b : Bool) (en : Entry) {m : Nat}
    (h : ∀ kv ∈ ep, m < kv.1) (hst : m < st) : ∀ kv ∈ ep.push st b en, m < kv.1 := by
  induction ep with
  | nil =>
    intro kv hkv
    cases List.mem_singleton.1 hkv
    exact hst
  | cons kv0 rest ih =>
    obtain ⟨k, v⟩ := kv0
    have hk : m < k := h (k, v) List.mem_cons_self
    have hrest : ∀ kv ∈ rest, m < kv.1 := fun kv hkv => h kv (List.mem_cons_of_mem _ hkv)
    rw [Entrypoints.push_cons]
    intro kv hkv
    by_cases h1 : (k == st) = true
    · rw [if_pos h1] at hkv
      rcases List.mem_cons.1 hkv with rfl | hm
      · exact hk
      · exact hrest kv hm
    · rw [if_neg h1] at hkv
      by_cases h2 : st < k
      · rw [if_pos h2] at hkv
        rcases List.mem_cons.1 hkv with rfl | hm
        · exact hst
        · exact h kv hm
      · rw [if_neg h2] at hkv
        rcases List.mem_cons.1 hkv with rfl | hm
        · exact hk
        · exact ih hrest kv hm

theorem Entrypoints.push_sorted (ep : Entrypoints) (st : Nat) (b : Bool) (en : Entry)
    (h : ESorted ep) : ESorted (ep.push st b en) := by
  induction ep with
  | nil => exact ⟨fun _ hkv => absurd hkv List.not_mem_nil, trivial⟩
  | cons kv0 rest ih =>
    obtain ⟨k, v⟩ := kv0
    obtain ⟨h1, h2⟩ := h
    rw [Entrypoints.push_cons]
    by_cases hk : (k == st) = true
    · rw [if_pos hk]
      exact ⟨h1, h2⟩
    · rw [if_neg hk]
      by_cases hlt : st < k
      · rw [if_pos hlt]
        refine ⟨fun kv hkv => ?_, h1, h2⟩
        rcases List.mem_cons.1 hkv with rfl | hm
        · exact hlt
        · exact Nat.lt_trans hlt (h1 kv hm)
      · rw [if_neg hlt]
        have hne : k ≠ st := mt beq_iff_eq.2 hk
        exact ⟨Entrypoints.push_lb b en h1 (by omega), ih h2⟩

theorem Entrypoints.get_push (ep : Entrypoints) (st : Nat) (b : Bool) (en : Entry) (st' : Nat)
    (h : ESorted ep) :
    (ep.push st b en).get st' =
      if st == st' then some (addEntry b en ((ep.get st).getD ([], []))) else ep.get st' := by
  induction ep with
  | nil => rfl
  | cons kv0 rest ih =>
    obtain ⟨k, v⟩ := kv0
    obtain ⟨h1, h2⟩ := h
    rw [Entrypoints.push_cons]
    by_cases hk : k = st
    · -- the entry of `st` is updated in place
      obtain rfl := hk
      rw [if_pos (beq_self_eq_true k), Entrypoints.get_cons, Entrypoints.get_cons,
        Entrypoints.get_cons, if_pos (beq_self_eq_true k)]
      cases k == st' <;> rfl
    · rw [if_neg (mt beq_iff_eq.1 hk)]
      by_cases hlt : st < k
      · -- `st` is new and below all keys
        rw [if_pos hlt, Entrypoints.get_cons, Entrypoints.get_none_of_lt _ st fun kv hkv =>
          (List.mem_cons.1 hkv).elim (fun e => e ▸ hlt) fun hm => Nat.lt_trans hlt (h1 kv hm)]
        rfl
      · -- the first entry stays, and is not the one of `st`
        rw [if_neg hlt, Entrypoints.get_cons, Entrypoints.get_cons, Entrypoints.get_cons,
          if_neg (mt beq_iff_eq.1 hk), ih h2]
        by_cases hk' : k = st'
        · obtain rfl := hk'
          rw [if_pos (beq_self_eq_true k), if_neg (mt beq_iff_eq.1 (Ne.symm hk)),
            if_pos (beq_self_eq_true k)]
        · rw [if_neg (mt beq_iff_eq.1 hk'), if_neg (mt beq_iff_eq.1 hk')]

def EIn (ep : Entrypoints) (st : Nat) (isSame : Bool) (en : Entry) : Prop :=
  ∃ same diff, ep.get st = some (same, diff) ∧ en ∈ (if isSame then same else diff)

theorem EIn_push {ep : Entrypoints} (hs : ESorted ep) (st : Nat) (b : Bool) (en : Entry) (st' : Nat)
    (b' : Bool) (en' : Entry) :
    EIn (ep.push st b en) st' b' en' ↔ EIn ep st' b' en' ∨ (st' = st ∧ b' = b ∧ en' = en) := by
  unfold EIn
  rw [Entrypoints.get_push _ _ _ _ _ hs]
  by_cases he : st = st'
  · cases he
    rw [if_pos (beq_self_eq_true st)]
    constructor
    · rintro ⟨same, diff, hg, hm⟩
      obtain ⟨rfl, rfl⟩ := Prod.mk.inj (Option.some.inj hg)
      rcases mem_addEntry.1 hm with hm | hm
      · cases hget : ep.get st with
        | none => rw [hget] at hm; cases b' <;> cases hm
        | some v => rw [hget] at hm; exact Or.inl ⟨v.1, v.2, rfl, hm⟩
      · exact Or.inr ⟨rfl, hm⟩
    · rintro (⟨same, diff, hg, hm⟩ | ⟨_, hm⟩)
      · exact ⟨_, _, rfl, mem_addEntry.2 (Or.inl (by rw [hg]; exact hm))⟩
      · exact ⟨_, _, rfl, mem_addEntry.2 (Or.inr hm)⟩
  · rw [if_neg (mt beq_iff_eq.1 he)]
    exact ⟨Or.inl, fun h => h.elim id fun h => absurd h.1.symm he⟩

theorem getEntrypoints_foldl (l : List (Slot × Instr)) (acc : Entrypoints) (hs : ESorted acc) :
    let r := l.foldl (fun acc kv =>
      let slot := kv.1
      let (color, shift, state) := kv.2
      Entrypoints.push acc state (slot.1 == state) (slot, (color, shift))) acc
    ESorted r ∧ ∀ st b en, EIn r st b en ↔
      EIn acc st b en ∨ ((en.1, (en.2.1, en.2.2, st)) ∈ l ∧ b = (en.1.1 == st)) := by
  induction l generalizing acc with
  | nil =>
    exact ⟨hs, fun st b en => ⟨Or.inl, fun h => h.elim id fun h => absurd h.1 List.not_mem_nil⟩⟩
  | cons kv rest ih =>
    obtain ⟨slot, color, shift, state⟩ := kv
    obtain ⟨r1, r2⟩ := ih _ (Entrypoints.push_sorted acc state (slot.1 == state)
      (slot, (color, shift)) hs)
    refine ⟨r1, fun st b en => (r2 st b en).trans ?_⟩
    obtain ⟨slot', color', shift'⟩ := en
    rw [EIn_push hs, List.mem_cons]
    constructor
    · rintro ((h | ⟨rfl, rfl, he⟩) | ⟨h, hb⟩)
      · exact Or.inl h
      · cases he; exact Or.inr ⟨Or.inl rfl, rfl⟩
      · exact Or.inr ⟨Or.inr h, hb⟩
    · rintro (h | ⟨he | h, hb⟩)
      · exact Or.inl (Or.inl h)
      · cases he; exact Or.inl (Or.inr ⟨rfl, hb, rfl⟩)
      · exact Or.inr ⟨h, hb⟩

theorem EIn_getEntrypoints {p : Prog} {st : Nat} {b : Bool} {q r pr : Nat} {sh : Bool} :
    EIn (getEntrypoints p) st b ((q, r), (pr, sh)) ↔ ((q, r), (pr, sh, st)) ∈ p ∧ b = (q == st) :=
  ((getEntrypoints_foldl p [] trivial).2 st b _).trans
    ⟨fun h => h.elim (fun ⟨_, _, hg, _⟩ => by cases hg) id, Or.inr⟩

theorem getEntrypoints_real {p : Prog} {st : Nat} {same diff : Entries}
    (hg : (getEntrypoints p).get st = some (same, diff)) {e : Entry} (he : e ∈ same ++ diff) :
    (e.1, (e.2.1, e.2.2, st)) ∈ p :=
  (List.mem_append.1 he).elim
    (fun h => ((EIn_getEntrypoints (b := true)).1 ⟨same, diff, hg, h⟩).1)
    (fun h => ((EIn_getEntrypoints (b := false)).1 ⟨same, diff, hg, h⟩).1)

theorem mem_checkedSteps {tape : Backstepper} {entries : Entries} {i : Instr} :
    i ∈ checkedSteps tape entries ↔
      ∃ pr, ((i.2.2, i.1), (pr, i.2.1)) ∈ entries ∧ tape.checkStep i.2.1 pr = true := by
  rw [checkedSteps, List.mem_filterMap]
  constructor
  · rintro ⟨⟨⟨st, co⟩, pr, sh⟩, hm, hi⟩
    by_cases hc : tape.checkStep sh pr = true
    · cases (if_pos hc).symm.trans hi
      exact ⟨pr, hm, hc⟩
    · cases (if_neg hc).symm.trans hi
  · rintro ⟨pr, hm, hc⟩
    exact ⟨_, hm, if_pos hc⟩

/-- `hfilter`: the entry is not the sweeping instruction itself, which `get_indef` leaves out -/
theorem getIndef_some (push : Bool) (X : Config) (diff same : Entries) (q' r' pr' : Nat) (sh' : Bool)
    (hmem : ((q', r'), (pr', sh')) ∈ diff ++ same)
    (hfilter : ¬ (q' = X.state ∧ sh' = push ∧ X.tape.scan = r'))
    (hcheck : (X.tape.pushIndef push).checkStep sh' pr' = true) :
    ∃ steps, getIndef push X diff same = some (steps, Config.new X.state (X.tape.pushIndef push)) ∧
      (r', sh', q') ∈ steps := by
  have hin : ((q', r'), (pr', sh')) ∈ (diff ++ same).filter (fun en =>
      let ((state, color), (_, shift)) := en
      !(state == X.state && shift == push && X.tape.scan == color)) :=
    List.mem_filter.2 ⟨hmem, Bool.not_eq_true' _ ▸ Bool.eq_false_iff.2 fun h => by
      rw [Bool.and_eq_true, Bool.and_eq_true, beq_iff_eq, beq_iff_eq, beq_iff_eq] at h
      exact hfilter ⟨h.1.1, h.1.2, h.2⟩⟩
  have hst : (r', sh', q') ∈ checkedSteps (X.tape.pushIndef push) _ :=
    mem_checkedSteps.2 ⟨pr', hin, hcheck⟩
  refine ⟨_, ?_, hst⟩
  rw [getIndef]
  exact (if_neg fun he => List.ne_nil_of_mem hin (List.isEmpty_iff.1 he)).trans
    (if_neg fun he => List.ne_nil_of_mem hst (List.isEmpty_iff.1 he))

theorem mem_of_getIndef {push : Bool} {X : Config} {diff same : Entries} {steps : List Instr}
    {cfg : Config} (h : getIndef push X diff same = some (steps, cfg)) :
    cfg = Config.new X.state (X.tape.pushIndef push) ∧
    ∀ i ∈ steps, ∃ pr, ((i.2.2, i.1), (pr, i.2.1)) ∈ diff ++ same ∧
      (X.tape.pushIndef push).checkStep i.2.1 pr = true := by
  rw [getIndef, Option.ite_none_left_eq_some] at h
  have h := h.2
  dsimp only at h
  rw [Option.ite_none_left_eq_some] at h
  cases h.2
  refine ⟨rfl, fun i hi => ?_⟩
  obtain ⟨pr, hm, hc⟩ := mem_checkedSteps.1 hi
  exact ⟨pr, (List.mem_filter.1 hm).1, hc⟩

theorem sameSteps_cons (f : Bool) (X : Config) (diff same : Entries) (q r pr : Nat) (sh : Bool)
    (rest : Entries) :
    sameSteps f X diff same (((q, r), (pr, sh)) :: rest) =
      if !X.tape.checkStep sh pr then sameSteps f X diff same rest
      else
        match X.tape.checkSpinout sh r with
        | none => ((r, sh, q) :: (sameSteps f X diff same rest).1, (sameSteps f X diff same rest).2)
        | some false =>
          if f && !X.tape.sweepAbsorbed sh then
            ((r, sh, q) :: (sameSteps f X diff same rest).1, (sameSteps f X diff same rest).2)
          else sameSteps f X diff same rest
        | some true =>
          match getIndef sh X diff same with
          | some indef => ((sameSteps f X diff same rest).1, indef :: (sameSteps f X diff same rest).2)
          | none => sameSteps f X diff same rest :=
  rfl

theorem sameSteps_cons_sub (f : Bool) (X : Config) (diff same : Entries) (e : Entry) (rest : Entries) :
    (∀ i ∈ (sameSteps f X diff same rest).1, i ∈ (sameSteps f X diff same (e :: rest)).1) ∧
    (∀ y ∈ (sameSteps f X diff same rest).2, y ∈ (sameSteps f X diff same (e :: rest)).2) := by
  obtain ⟨⟨q, r⟩, pr, sh⟩ := e
  have keep : ∀ (i : Instr) (y : List Instr × Config),
      (∀ i' ∈ (sameSteps f X diff same rest).1, i' ∈ i :: (sameSteps f X diff same rest).1) ∧
      (∀ y' ∈ (sameSteps f X diff same rest).2, y' ∈ y :: (sameSteps f X diff same rest).2) :=
    fun _ _ => ⟨fun _ h => List.mem_cons_of_mem _ h, fun _ h => List.mem_cons_of_mem _ h⟩
  rw [sameSteps_cons]
  cases !X.tape.checkStep sh pr
  · cases X.tape.checkSpinout sh r with
    | none => exact ⟨(keep _ ([], X)).1, fun _ h => h⟩
    | some b =>
      cases b
      · cases f && !X.tape.sweepAbsorbed sh
        · exact ⟨fun _ h => h, fun _ h => h⟩
        · exact ⟨(keep _ ([], X)).1, fun _ h => h⟩
      · cases getIndef sh X diff same with
        | none => exact ⟨fun _ h => h, fun _ h => h⟩
        | some y => exact ⟨fun _ h => h, (keep (0, false, 0) y).2⟩
  · exact ⟨fun _ h => h, fun _ h => h⟩

theorem sameSteps_mem (f : Bool) (X : Config) (diff same : Entries) (q r pr : Nat) (sh : Bool)
    (hc : X.tape.checkStep sh pr = true) : ∀ (l : Entries), ((q, r), (pr, sh)) ∈ l →
    match X.tape.checkSpinout sh r with
    | none => (r, sh, q) ∈ (sameSteps f X diff same l).1
    | some false => (f && !X.tape.sweepAbsorbed sh) = true → (r, sh, q) ∈ (sameSteps f X diff same l).1
    | some true => ∀ indef, getIndef sh X diff same = some indef →
        indef ∈ (sameSteps f X diff same l).2 := by
  intro l
  induction l with
  | nil => exact fun h => absurd h List.not_mem_nil
  | cons e rest ih =>
    intro h
    rcases List.mem_cons.1 h with he | hm
    · cases he
      rw [sameSteps_cons, hc]
      cases X.tape.checkSpinout sh r with
      | none => exact List.mem_cons_self
      | some b =>
        cases b
        · exact fun hf => (if_pos hf).symm ▸ List.mem_cons_self
        · exact fun indef hi => hi.symm ▸ List.mem_cons_self
    · have := ih hm
      have hsub := sameSteps_cons_sub f X diff same e rest
      cases hcs : X.tape.checkSpinout sh r with
      | none => rw [hcs] at this; exact hsub.1 _ this
      | some b =>
        rw [hcs] at this
        cases b
        · exact fun hf => hsub.1 _ (this hf)
        · exact fun indef hi => hsub.2 _ (this indef hi)

theorem mem_of_sameSteps (f : Bool) (X : Config) (diff same : Entries) : ∀ (l : Entries),
    (∀ i ∈ (sameSteps f X diff same l).1, ∃ pr, ((i.2.2, i.1), (pr, i.2.1)) ∈ l ∧
      X.tape.checkStep i.2.1 pr = true) ∧
    (∀ y ∈ (sameSteps f X diff same l).2, ∃ sh r, X.tape.checkSpinout sh r = some true ∧
      getIndef sh X diff same = some y) := by
  intro l
  induction l with
  | nil => exact ⟨fun _ hi => absurd hi List.not_mem_nil, fun _ hy => absurd hy List.not_mem_nil⟩
  | cons e rest ih =>
    obtain ⟨⟨q, r⟩, pr, sh⟩ := e
    obtain ⟨ih1, ih2⟩ := ih
    have old : ∀ i ∈ (sameSteps f X diff same rest).1, ∃ pr',
        ((i.2.2, i.1), (pr', i.2.1)) ∈ ((q, r), (pr, sh)) :: rest ∧
        X.tape.checkStep i.2.1 pr' = true := fun i hi =>
      (ih1 i hi).imp fun _ h => ⟨List.mem_cons_of_mem _ h.1, h.2⟩
    rw [sameSteps_cons]
    cases hck : X.tape.checkStep sh pr
    · exact ⟨old, ih2⟩
    · have new : ∀ i ∈ (r, sh, q) :: (sameSteps f X diff same rest).1, ∃ pr',
          ((i.2.2, i.1), (pr', i.2.1)) ∈ ((q, r), (pr, sh)) :: rest ∧
          X.tape.checkStep i.2.1 pr' = true := fun i hi =>
        (List.mem_cons.1 hi).elim (fun e => e ▸ ⟨pr, List.mem_cons_self, hck⟩) (old i)
      cases hcs : X.tape.checkSpinout sh r with
      | none => exact ⟨new, ih2⟩
      | some b =>
        cases b
        · cases f && !X.tape.sweepAbsorbed sh
          · exact ⟨old, ih2⟩
          · exact ⟨new, ih2⟩
        · cases hgi : getIndef sh X diff same with
          | none => exact ⟨old, ih2⟩
          | some y =>
            exact ⟨old, fun y' hy => (List.mem_cons.1 hy).elim
              (fun e => e ▸ ⟨sh, r, hcs, hgi⟩) (ih2 y')⟩

theorem getValidSteps_cons (f : Bool) (ep : Entrypoints) (X : Config) (rest : Configs) :
    getValidSteps f ep (X :: rest) =
      match ep.get X.state with
      | none =>
        if X.state == 0 then getValidSteps f ep rest else .error (.panic "assert!(*state == 0)")
      | some (same, diff) =>
        match getValidSteps f ep rest with
        | .error e => .error e
        | .ok checked =>
          .ok ((sameSteps f X diff same same).2 ++
            (if (checkedSteps X.tape diff ++ (sameSteps f X diff same same).1).isEmpty then checked
              else (checkedSteps X.tape diff ++ (sameSteps f X diff same same).1, X) :: checked)) :=
  rfl

/-- `v` is one of the entries that `get_valid_steps` produces for the configuration `X`: one of
    its indefinite steps or, unless there is none, its list of validated instructions -/
def ValidOf (f : Bool) (ep : Entrypoints) (X : Config) (v : List Instr × Config) : Prop :=
  ∃ same diff, ep.get X.state = some (same, diff) ∧
    (v ∈ (sameSteps f X diff same same).2 ∨
      (v = (checkedSteps X.tape diff ++ (sameSteps f X diff same same).1, X) ∧ v.1 ≠ []))

theorem mem_getValidSteps {f : Bool} {ep : Entrypoints} {configs : Configs} {vs : ValidatedSteps}
    (h : getValidSteps f ep configs = .ok vs) {v : List Instr × Config} :
    v ∈ vs ↔ ∃ X ∈ configs, ValidOf f ep X v := by
  induction configs generalizing vs with
  | nil =>
    cases h
    exact ⟨fun h => absurd h List.not_mem_nil, fun ⟨_, h, _⟩ => absurd h List.not_mem_nil⟩
  | cons c rest ih =>
    have hcons : (∃ X ∈ c :: rest, ValidOf f ep X v) ↔
        ValidOf f ep c v ∨ ∃ X ∈ rest, ValidOf f ep X v :=
      ⟨fun ⟨X, hX, h⟩ => (List.mem_cons.1 hX).elim (fun e => Or.inl (e ▸ h)) fun hX =>
        Or.inr ⟨X, hX, h⟩, fun h => h.elim (fun h => ⟨c, List.mem_cons_self, h⟩)
        fun ⟨X, hX, h⟩ => ⟨X, List.mem_cons_of_mem _ hX, h⟩⟩
    rw [hcons]
    rw [getValidSteps_cons] at h
    cases hgc : ep.get c.state with
    | none =>
      rw [hgc] at h
      have h' : getValidSteps f ep rest = .ok vs := by
        by_cases h0 : (c.state == 0) = true
        · exact (if_pos h0).symm.trans h
        · cases (if_neg h0).symm.trans h
      exact (ih h').trans
        ⟨Or.inr, fun h => h.elim (fun ⟨_, _, hg, _⟩ => by cases hgc.symm.trans hg) id⟩
    | some sd =>
      obtain ⟨same, diff⟩ := sd
      rw [hgc] at h
      cases hr : getValidSteps f ep rest with
      | error e => rw [hr] at h; cases h
      | ok checked =>
        rw [hr] at h
        cases h
        rw [List.mem_append, ← ih hr]
        -- with `get c.state` known, `ValidOf .. c v` speaks of these `same` and `diff`
        have hc : ValidOf f ep c v ↔ v ∈ (sameSteps f c diff same same).2 ∨
            (v = (checkedSteps c.tape diff ++ (sameSteps f c diff same same).1, c) ∧ v.1 ≠ []) :=
          ⟨fun ⟨_, _, hg, h⟩ => by cases hgc.symm.trans hg; exact h, fun h => ⟨_, _, hgc, h⟩⟩
        rw [hc, or_assoc]
        refine or_congr_right ?_
        by_cases hne : (checkedSteps c.tape diff ++ (sameSteps f c diff same same).1).isEmpty
        · rw [if_pos hne]
          exact ⟨Or.inr, fun h => h.elim (fun ⟨hv, hn⟩ => by subst hv; exact absurd (List.isEmpty_iff.1 hne) hn) id⟩
        · rw [if_neg hne, List.mem_cons]
          exact or_congr_left ⟨fun h => ⟨h, h ▸ mt List.isEmpty_iff.2 hne⟩, fun h => h.1⟩

/-- the instruction comes from an entry of state `st` whose printed colour fits the tape -/
def Valid (ep : Entrypoints) (st : Nat) (t : Backstepper) (i : Instr) : Prop :=
  ∃ same diff pr, ep.get st = some (same, diff) ∧ ((i.2.2, i.1), (pr, i.2.1)) ∈ same ++ diff ∧
    t.checkStep i.2.1 pr = true

theorem getValidSteps_valid {f : Bool} {ep : Entrypoints} {configs : Configs}
    {vs : ValidatedSteps} (hv : getValidSteps f ep configs = .ok vs) {v : List Instr × Config}
    (hm : v ∈ vs) :
    ∃ X ∈ configs, v.2.state = X.state ∧
      (v.2.tape = X.tape ∨
        ∃ sh r, X.tape.checkSpinout sh r = some true ∧ v.2.tape = X.tape.pushIndef sh) ∧
      ∀ i ∈ v.1, Valid ep v.2.state v.2.tape i := by
  obtain ⟨X, hX, same, diff, hg, hcase⟩ := (mem_getValidSteps hv).1 hm
  obtain ⟨c1, c2⟩ := mem_of_sameSteps f X diff same same
  refine ⟨X, hX, ?_⟩
  rcases hcase with h1 | ⟨rfl, _⟩
  · obtain ⟨sh, r, hcs, hgi⟩ := c2 v h1
    obtain ⟨steps, cfg⟩ := v
    obtain ⟨rfl, hst⟩ := mem_of_getIndef hgi
    refine ⟨rfl, Or.inr ⟨sh, r, hcs, rfl⟩, fun i hi => ?_⟩
    obtain ⟨pr, h1, h2⟩ := hst i hi
    exact ⟨same, diff, pr, hg, List.mem_append.2 (List.mem_append.1 h1).symm, h2⟩
  · refine ⟨rfl, Or.inl rfl, fun i hi => ?_⟩
    rcases List.mem_append.1 hi with h3 | h3
    · obtain ⟨pr, h1, h2⟩ := mem_checkedSteps.1 h3
      exact ⟨same, diff, pr, hg, List.mem_append_right _ h1, h2⟩
    · obtain ⟨pr, h1, h2⟩ := c1 i h3
      exact ⟨same, diff, pr, hg, List.mem_append_left _ h1, h2⟩

end BB.Reason
