/-
Monotonicity in the depth limit of the backward reasoner (part of C15).
-/
import BB.Lemmas.ReasonInstr

namespace BB.Reason

theorem cantReachLoop_mono (fixF1 : Bool) (ep : Entrypoints) :
    ∀ (fuel step : Nat) (configs : Configs) (blanks : Blanks) (indef : ValidatedSteps)
      (r : PRes BackwardResult),
      cantReachLoop fixF1 ep fuel step configs blanks indef = r → r ≠ .ok .stepLimit →
      ∀ fuel', fuel ≤ fuel' → cantReachLoop fixF1 ep fuel' step configs blanks indef = r := by
  intro fuel step configs blanks indef r h hne fuel' hle
  subst h
  induction fuel generalizing step configs blanks indef fuel' with
  | zero => exact absurd rfl hne
  | succ n ih =>
    obtain ⟨m, rfl⟩ : ∃ m, fuel' = m + 1 := ⟨fuel' - 1, by omega⟩
    -- one iteration on both sides: they differ only in the recursive call
    rw [cantReachLoop_succ] at hne
    rw [cantReachLoop_succ, cantReachLoop_succ]
    revert hne
    cases getValidSteps fixF1 ep configs with
    | error e => exact fun _ => rfl
    | ok vs =>
      intro hne
      dsimp only at hne ⊢
      refine ite_congr rfl (fun _ => rfl) fun h1 => ite_congr rfl (fun _ => rfl) fun h2 => ?_
      rw [if_neg h1, if_neg h2] at hne
      revert hne
      cases stepConfigs vs blanks with
      | error e => exact fun _ => rfl
      | ok res =>
        intro hne
        dsimp only at hne ⊢
        refine ite_congr rfl (fun _ => rfl) fun h3 => ?_
        rw [if_neg h3] at hne
        exact ih _ _ _ _ _ (by omega) hne

end BB.Reason
