/-
C04: the three target lists (halt, erase, zero-reflexive).  None of them contains the blank tape in
state 0, unless the search answers `init` at once; the halt and spin-out targets are coherent, the
erase targets have `blanks` at both ends.
-/
import BB.Lemmas.ReasonDet

namespace BB.Reason

open BB

theorem mem_haltSlots {p : Prog} {f : Bool} {s : Slot} :
    s ∈ p.haltSlots f ↔ s.1 ≤ (if f then p.paramsFix else p.params).1 ∧
      s.2 ≤ (if f then p.paramsFix else p.params).2 ∧ p.get s = none := by
  simp only [Prog.haltSlots, List.mem_flatMap, List.mem_range, List.mem_filterMap,
    Nat.lt_succ_iff, Option.ite_none_right_eq_some, Option.some.injEq, Option.isNone_iff_eq_none]
  exact ⟨fun ⟨_, h1, _, h2, h3, e⟩ => e ▸ ⟨h1, h2, h3⟩, fun ⟨h1, h2, h3⟩ => ⟨_, h1, _, h2, h3, rfl⟩⟩

theorem haltConfigs_mem {p : Prog} {f : Bool} {T : Config} (h : T ∈ haltConfigs p f) :
    ∃ st co, T = Config.initHalt st co ∧ p.get (st, co) = none := by
  obtain ⟨⟨st, co⟩, hm, rfl⟩ := List.mem_map.1 h
  exact ⟨st, co, rfl, (mem_haltSlots.1 hm).2.2⟩

theorem haltConfigs_noInit (p : Prog) (f : Bool) (h0 : (p.get (0, 0)).isSome) :
    NoInit (haltConfigs p f) := by
  intro X hX ⟨hs, hb⟩
  obtain ⟨st, co, rfl, hnone⟩ := haltConfigs_mem hX
  simp only [Config.initHalt, Config.new] at hs hb
  simp only [Backstepper.initHalt, Backstepper.blank, Bool.and_eq_true, beq_iff_eq] at hb
  rw [hs, hb.1.1] at hnone
  rw [hnone] at h0
  cases h0

theorem halt_coherent (p : Prog) (f : Bool) : TargetsCoherent p (haltConfigs p f) := by
  constructor
  · intro T1 h1 T2 h2 c g1 g2
    obtain ⟨s1, c1, rfl, _⟩ := haltConfigs_mem h1
    obtain ⟨s2, c2, rfl, _⟩ := haltConfigs_mem h2
    have e1 : c.scan = c1 := g1.2.1
    have e2 : c.scan = c2 := g2.2.1
    have : c1 = c2 := by rw [← e1, ← e2]
    subst this
    exact SameSpans.refl _
  · intro T hT c g pr sh s hget
    obtain ⟨st, co, rfl, hnone⟩ := haltConfigs_mem hT
    have e1 : c.state = st := g.1
    have e2 : c.scan = co := g.2.1
    rw [e1, e2, hnone] at hget
    cases hget

theorem mem_eraseSlots {p : Prog} {s : Slot} :
    s ∈ p.eraseSlots ↔ s.2 ≠ 0 ∧ ∃ sh q, (s, (0, sh, q)) ∈ p := by
  simp only [Prog.eraseSlots, List.mem_filterMap, Option.ite_none_right_eq_some, Option.some.injEq,
    Bool.and_eq_true, beq_iff_eq, bne_iff_ne]
  exact ⟨fun ⟨⟨_, pr, sh, q⟩, hm, ⟨h1, h2⟩, e⟩ => by cases e; cases h1; exact ⟨h2, sh, q, hm⟩,
    fun ⟨h2, sh, q, hm⟩ => ⟨_, hm, ⟨rfl, h2⟩, rfl⟩⟩

theorem eraseConfigs_mem {p : Prog} {T : Config} (h : T ∈ eraseConfigs p) :
    ∃ st co, T = Config.initBlank st co ∧ co ≠ 0 := by
  obtain ⟨⟨st, co⟩, hm, rfl⟩ := List.mem_map.1 h
  exact ⟨st, co, rfl, (mem_eraseSlots.1 hm).1⟩

theorem eraseConfigs_noInit (p : Prog) : NoInit (eraseConfigs p) := by
  intro X hX ⟨_, hb⟩
  obtain ⟨st, co, rfl, hco⟩ := eraseConfigs_mem hX
  simp only [Config.initBlank, Config.new, Backstepper.initBlank, Backstepper.blank,
    Bool.and_eq_true, beq_iff_eq] at hb
  exact hco hb.1.1

theorem eraseConfigs_endsB (p : Prog) : ∀ X ∈ eraseConfigs p, EndsB X.tape := by
  intro X hX
  obtain ⟨st, co, rfl, _⟩ := eraseConfigs_mem hX
  exact ⟨rfl, rfl⟩

theorem mem_zrShifts {p : Prog} {st : Nat} {sh : Bool} :
    (st, sh) ∈ p.zrShifts ↔ ∃ pr, ((st, 0), (pr, sh, st)) ∈ p := by
  simp only [Prog.zrShifts, List.mem_filterMap, Option.ite_none_right_eq_some, Option.some.injEq,
    Bool.and_eq_true, beq_iff_eq]
  exact ⟨fun ⟨⟨⟨q, r⟩, pr, sh', q'⟩, hm, ⟨h1, h2⟩, e⟩ => by
      cases e; cases h1; cases h2; exact ⟨pr, hm⟩,
    fun ⟨pr, hm⟩ => ⟨_, hm, ⟨rfl, rfl⟩, rfl⟩⟩

/-- The blank tape in state 0 is a spin-out target only if `(0,0)` is zero-reflexive; then the
    search steps back from it to itself in its first iteration, and answers `init`. -/
theorem zeroReflexiveConfigs_noInit_of_refuted (p : Prog) (depth k : Nat)
    (h : cantSpinOut p depth true = .ok (.refuted k))
    (hp : (cantReachI true p depth (zeroReflexiveConfigs p)).2 = true) :
    NoInit (zeroReflexiveConfigs p) := by
  intro X hX ⟨hs, _⟩
  obtain ⟨⟨st, sh⟩, hz, rfl⟩ := List.mem_map.1 hX
  cases (show st = 0 from hs)
  obtain ⟨pr, hmem⟩ := mem_zrShifts.1 hz
  obtain ⟨same, diff, hepg, hein⟩ := EIn_getEntrypoints.2 ⟨hmem, rfl⟩
  have hkey := containsKey_of_EIn ⟨same, diff, hepg, hein⟩
  obtain ⟨vs, hv, hhandled⟩ := good_handled (good_of_refuted h hp hX hkey)
  have hss := sameSteps_mem true (Config.initSpinout 0 sh) diff same 0 0 pr sh
    (by cases sh <;> rfl) same hein
  rw [show (Config.initSpinout 0 sh).tape.checkSpinout sh 0 = none by cases sh <;> rfl] at hss
  have hi := List.mem_append_right (checkedSteps (Config.initSpinout 0 sh).tape diff) hss
  obtain ⟨_, _, _, _, _, _, hh⟩ := hhandled _ _ ((mem_getValidSteps hv).2
    ⟨_, List.mem_filter.2 ⟨hX, hkey⟩, same, diff, hepg, Or.inr ⟨rfl, List.ne_nil_of_mem hi⟩⟩) 0 sh 0 hi
  exact hh.1 ⟨by cases sh <;> rfl, rfl⟩

theorem zeroReflexiveConfigs_mem {p : Prog} (hf : p.functionalB = true) {T : Config}
    (h : T ∈ zeroReflexiveConfigs p) :
    ∃ st sh pr, T = Config.initSpinout st sh ∧ p.get (st, 0) = some (pr, sh, st) := by
  simp only [zeroReflexiveConfigs, List.mem_map] at h
  obtain ⟨⟨st, sh⟩, hm, rfl⟩ := h
  obtain ⟨pr, hmem⟩ := mem_zrShifts.1 hm
  exact ⟨st, sh, pr, rfl, Prog.get_of_mem hf hmem⟩

theorem initSpinout_scan (sh : Bool) : (Backstepper.initSpinout sh).scan = 0 := by
  cases sh <;> rfl

theorem initSpinout_pullSpan (sh : Bool) :
    (Backstepper.initSpinout sh).pullSpan sh = ⟨[], .unknown⟩ := by
  cases sh <;> rfl

theorem initSpinout_pushSpan (sh : Bool) :
    (Backstepper.initSpinout sh).pushSpan sh = ⟨[], .blanks⟩ := by
  cases sh <;> rfl

theorem spinout_coherent (p : Prog) (hf : p.functionalB = true) :
    TargetsCoherent p (zeroReflexiveConfigs p) := by
  constructor
  · intro T1 h1 T2 h2 c g1 g2
    obtain ⟨s1, sh1, pr1, rfl, hg1⟩ := zeroReflexiveConfigs_mem hf h1
    obtain ⟨s2, sh2, pr2, rfl, hg2⟩ := zeroReflexiveConfigs_mem hf h2
    have e1 : c.state = s1 := g1.1
    have e2 : c.state = s2 := g2.1
    have : s1 = s2 := by rw [← e1, ← e2]
    subst this
    rw [hg1] at hg2
    simp only [Option.some.injEq, Prod.mk.injEq, and_true] at hg2
    obtain ⟨_, rfl⟩ := hg2
    exact SameSpans.refl _
  · intro T hT c g pr sh s hget
    obtain ⟨st, sh0, pr0, rfl, hg0⟩ := zeroReflexiveConfigs_mem hf hT
    have g' : GammaT st (Backstepper.initSpinout sh0) c := g
    have e2 : c.scan = 0 := g'.2.1.trans (initSpinout_scan sh0)
    rw [g'.1, e2, hg0] at hget
    simp only [Option.some.injEq, Prod.mk.injEq] at hget
    obtain ⟨rfl, rfl, rfl⟩ := hget
    refine ⟨rfl, ?_, ?_⟩
    · -- the sweep goes on: the cells ahead are the zeros that were ahead before
      have hp := isPred_move c pr0 sh0 st
      obtain ⟨_, _, _, hpush⟩ := (gammaT_sides _ _ c sh0).1 g'
      rw [initSpinout_pushSpan] at hpush
      cases hpush with
      | nilBlanks hz =>
        show GammaT st (Backstepper.initSpinout sh0) (c.move pr0 sh0 st)
        rw [gammaT_sides _ _ _ sh0, initSpinout_pullSpan, initSpinout_pushSpan]
        exact ⟨c.move_state pr0 sh0 st, by rw [← hp.push0, hz 0, initSpinout_scan],
          SpanMatch.nilUnknown, SpanMatch.nilBlanks fun i => by rw [← hp.pushS]; exact hz _⟩
    · intro t' ⟨h1, h2, h3⟩
      obtain ⟨sc, l, r, hd⟩ := t'
      cases h1; cases h2; cases h3
      rw [e2]
      cases sh0 <;> exact ⟨rfl, rfl, rfl⟩

end BB.Reason
