/-
C16 — macro objects over a base table: one level (`histIndep_one`) and a macro over a macro
(`histIndep_two`) are history-independent, and the Boolean legality tests of the statements
(`slotLegal`, `slotLegal2`) imply the legality `HistIndep` asks for.  The stateless reference
never errs over an inner program that never errs, for a non-empty window and the repaired split
(`pureInstr_ok`).
-/
import BB.Lemmas.MacroHistSeq

namespace BB.Macros

/-- the stateless reference of a macro with parameters `lp` over the base table `p` -/
abbrev pure1 (p : Prog) (lp : LogicParams) (fixF3 : Bool) : Slot → Res (Option Instr) :=
  pureInstr (progFn p) lp fixF3

/-- the stateless reference of a macro (`lpo`) over a macro (`lpi`) over the base table `p` -/
abbrev pure2 (p : Prog) (lpi lpo : LogicParams) (fixF3 : Bool) : Slot → Res (Option Instr) :=
  pureInstr (pure1 p lpi fixF3) lpo fixF3

theorem macroColors_pos (lp : LogicParams) (hb : 0 < lp.baseColors) : 0 < lp.macroColors := by
  unfold LogicParams.macroColors
  split
  · exact Nat.pow_pos hb
  · exact hb

theorem slotLegal_iff {σ : Type} {m : MacroProg σ} {lp : LogicParams} (hp : m.logic.params = lp)
    (s : Slot) :
    slotLegal m s = true ↔ MLS TrueLeg m s.1 ∧ MLC (LtLeg lp.baseColors) m s.2 := by
  unfold slotLegal ownLegal slotColor MLS MLC TrueLeg LtLeg
  rw [hp]
  cases lp.kind with
  | block => simp only [Bool.and_true, true_and]
  | backsymbol => simp only [Bool.and_eq_true, decide_eq_true_eq, and_true]

theorem slotLegal_sound {σ : Type} {f : Slot → Res (Option Instr)} {lp : LogicParams}
    {fixF3 : Bool} {IInv : σ → Prop} (m : MacroProg σ) (s : Slot)
    (hI : MInv f lp fixF3 IInv TrueLeg (LtLeg lp.baseColors) m) (h : slotLegal m s = true) :
    MLS TrueLeg m s.1 ∧ MLC (LtLeg lp.baseColors) m s.2 :=
  (slotLegal_iff hI.params s).1 h

theorem inv_step {σ : Type} {get : GetFn σ} {f : Slot → Res (Option Instr)} {IInv : σ → Prop}
    {lp : LogicParams} {fixF3 : Bool} (H : HistIndep get f IInv TrueLeg (LtLeg lp.baseColors))
    (hb : 0 < lp.baseColors) (hfix : fixOk lp fixF3 = true) {m : MacroProg σ}
    (hI : MInv f lp fixF3 IInv TrueLeg (LtLeg lp.baseColors) m) {slot : Slot}
    (hl : slotLegal m slot = true) {a : Option Instr} {m' : MacroProg σ}
    (hget : MacroProg.getInstr get m slot fixF3 = .ok (a, m')) :
    MInv f lp fixF3 IInv TrueLeg (LtLeg lp.baseColors) m' ∧ pureInstr f lp fixF3 slot = .ok a ∧
      (∀ c, handedOut m c = true → handedOut m' c = true) ∧
      (∀ pr sh nx, a = some (pr, sh, nx) → slotLegal m' (nx, pr) = true) := by
  obtain ⟨hq, hc⟩ := slotLegal_sound m slot hI hl
  obtain ⟨u, hpure, hI', hext, hans⟩ :=
    (macro_step H (fun _ _ _ h => h) hb (fixOk_imp hfix) hI slot.1 slot.2 hq hc).of_ok hget
  refine ⟨hI', pureGet_ok hpure, hext.2.1, fun pr sh nx ha => ?_⟩
  obtain ⟨h1, h2⟩ := hans pr sh nx ha
  exact (slotLegal_iff hI'.params (nx, pr)).2 ⟨h2, h1⟩

theorem histIndep_one (p : Prog) (lp : LogicParams) (fixF3 : Bool) (hb : 0 < lp.baseColors)
    (hcol : progColorsLt p lp.baseColors = true) (hfix : fixOk lp fixF3 = true) :
    HistIndep (macroGet compGet fixF3) (pure1 p lp fixF3) (Inv p lp fixF3)
      (MLS TrueLeg) (MLC (LtLeg lp.baseColors)) :=
  macro_histIndep (histIndep_comp p lp.baseColors hb (progColorsLt_sound p _ hcol))
    (fun _ _ _ h => h) hb (fixOk_imp hfix)

section TwoLevels

variable (p : Prog) (lpi lpo : LogicParams) (fixF3 : Bool)

/-- the invariant of the outer object of a macro over a macro over the base table `p` -/
abbrev Inv2 (m : MacroProg (MacroProg Prog)) : Prop :=
  MInv (pure1 p lpi fixF3) lpo fixF3 (Inv p lpi fixF3) (MLS TrueLeg) (MLC (LtLeg lpi.baseColors)) m

theorem histIndep_two (hbi : 0 < lpi.baseColors) (hcol : progColorsLt p lpi.baseColors = true)
    (hle : lpi.macroColors ≤ lpo.baseColors)
    (hfixi : fixOk lpi fixF3 = true) (hfixo : fixOk lpo fixF3 = true) :
    HistIndep (macroGet (macroGet compGet fixF3) fixF3) (pure2 p lpi lpo fixF3)
      (Inv2 p lpi lpo fixF3) (MLS (MLS TrueLeg)) (MLC (MLC (LtLeg lpi.baseColors))) :=
  macro_histIndep (histIndep_one p lpi fixF3 hbi hcol hfixi)
    (fun st c hI hc => Nat.lt_of_lt_of_le (macro_bound (fun _ _ _ h => h) st c hI hc) hle)
    (Nat.lt_of_lt_of_le (macroColors_pos lpi hbi) hle) (fixOk_imp hfixo)

theorem inv2_init (hbi : 0 < lpi.baseColors) (hcol : progColorsLt p lpi.baseColors = true)
    (hle : lpi.macroColors ≤ lpo.baseColors) (hfixi : fixOk lpi fixF3 = true) :
    Inv2 p lpi lpo fixF3 (freshMacro (freshMacro p lpi) lpo) :=
  have hIi : Inv p lpi fixF3 (freshMacro p lpi) := MInv.init lpi p rfl hbi hbi
  MInv.init lpo _ hIi ((histIndep_one p lpi fixF3 hbi hcol hfixi).zero _ hIi).2
    (Nat.lt_of_lt_of_le (macroColors_pos lpi hbi) hle)

theorem mlsB_sound {σ : Type} {ls : σ → Nat → Bool} {LS : σ → Nat → Prop} (m : MacroProg σ)
    (h : ∀ q, ls m.prog q = true → LS m.prog q) (q : Nat) (hq : mlsB ls m q = true) :
    MLS LS m q := by
  unfold mlsB at hq
  unfold MLS
  split
  · next hk => simp only [hk] at hq; exact h _ hq
  · next hk =>
    simp only [hk, Bool.and_eq_true] at hq
    exact ⟨hq.1, h _ hq.2⟩

theorem mlcB_sound {σ : Type} {lc : σ → Nat → Bool} {LC : σ → Nat → Prop} (m : MacroProg σ)
    (h : ∀ c, lc m.prog c = true → LC m.prog c) (c : Nat) (hc : mlcB lc m c = true) :
    MLC LC m c := by
  unfold mlcB at hc
  unfold MLC
  split
  · next hk => simp only [hk] at hc; exact hc
  · next hk => simp only [hk] at hc; exact h _ hc

theorem slotLegal2_sound (m : MacroProg (MacroProg Prog)) (s : Slot)
    (hI : Inv2 p lpi lpo fixF3 m) (h : slotLegal2 m s = true) :
    MLS (MLS TrueLeg) m s.1 ∧ MLC (MLC (LtLeg lpi.baseColors)) m s.2 := by
  unfold slotLegal2 at h
  simp only [Bool.and_eq_true] at h
  constructor
  · exact mlsB_sound m (fun q hq => mlsB_sound m.prog (fun _ _ => trivial) q hq) _ h.1
  · refine mlcB_sound m (fun c hc => mlcB_sound m.prog (fun c' hc' => ?_) c hc) _ h.2
    rw [hI.inner.params] at hc'
    simpa only [decide_eq_true_eq] using hc'

end TwoLevels

theorem simLoop_noerr (f : Slot → Res (Option Instr)) (hf : ∀ s, ∃ a, f s = .ok a) :
    ∀ (fuel state : Nat) (w : Win), ∃ r, simLoop (pureGet f) fuel () state w = .ok (r, ()) := by
  intro fuel
  induction fuel with
  | zero => intro state w; exact ⟨none, rfl⟩
  | succ fuel ih =>
    intro state w
    obtain ⟨a, ha⟩ := hf (state, w.scan)
    simp only [simLoop, pureGet, ha]
    cases a with
    | none => exact ⟨none, rfl⟩
    | some instr =>
      simp only
      cases simStep state w instr with
      | exit cfg => exact ⟨some cfg, rfl⟩
      | cont s' w' => exact ih s' w'

theorem runSimulator_noerr (f : Slot → Res (Option Instr)) (hf : ∀ s, ∃ a, f s = .ok a)
    (simLim : Nat) (cfg : Config) (hne : 0 < cfg.2.2.length) :
    ∃ r, runSimulator (pureGet f) simLim () cfg = .ok (r, ()) := by
  obtain ⟨state, rightEdge, tape⟩ := cfg
  obtain ⟨w, _, _, hrun⟩ := MacroSim.runSimulator_enter (pureGet f) simLim () state rightEdge
    (List.ne_nil_of_length_pos hne)
  exact hrun ▸ simLoop_noerr f hf simLim state w

theorem pureInstr_ok (f : Slot → Res (Option Instr)) (hf : ∀ s, ∃ a, f s = .ok a)
    (lp : LogicParams) (fixF3 : Bool) (hb : 0 < lp.baseColors) (hw : 0 < lp.window)
    (hfix : fixOk lp fixF3 = true) (slot : Slot) : ∃ a, pureInstr f lp fixF3 slot = .ok a := by
  obtain ⟨cfg, hdec, hlen⟩ := pureDeconstruct_ok lp hb slot
  obtain ⟨r, hr⟩ := runSimulator_noerr f hf lp.simLim cfg (by rw [hlen]; exact hw)
  -- the tape the simulator leaves with has the length of the one it started with
  have hpost := runSimulator_pure (histIndep_pureGet f) lp.simLim () cfg trivial trivial
    (fun _ _ => trivial)
  obtain ⟨_, _, _, _, hout⟩ := hpost.of_ok hr
  cases r with
  | none => exact ⟨none, by simp only [pureInstr, hdec, hr]⟩
  | some out =>
    obtain ⟨_, holen, _⟩ := hout out rfl
    rw [hlen] at holen
    obtain ⟨state, rightEdge, tape⟩ := out
    simp only at holen
    unfold LogicParams.window at holen
    cases hk : lp.kind with
    | block =>
      exact ⟨_, by simp only [pureInstr, hdec, hr, pureReconstructOutputs, hk]; rfl⟩
    | backsymbol =>
      cases fixOk_imp hfix hk
      simp only [hk] at holen
      obtain ⟨backspan, mc, hsplit, _⟩ := backsymbolSplit_fix lp.cells (!rightEdge) tape holen
      exact ⟨_, by simp only [pureInstr, hdec, hr, pureReconstructOutputs, hk, hsplit]; rfl⟩

theorem progFn_ok (p : Prog) : ∀ s, ∃ a, progFn p s = .ok a := fun s => ⟨p.get s, rfl⟩

end BB.Macros
