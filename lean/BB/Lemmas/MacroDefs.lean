/-
C08 / C09: the definitions the statements use (window embedding into L0, decoding of a
macro configuration, the macro program as a `ProgF`).
-/
import BB.Lemmas.Positional
import BB.Lemmas.StepRefine

namespace BB.MacroSim

open BB BB.Macros

/-- the base program `p` as the stateless inner `get_instr` of a macro (never an error).
    For a table `t : Prog`, `innerOf t.toF = fun s => .ok (t.get s)` holds by `rfl`. -/
def innerOf (p : ProgF) : Slot → Res (Option Instr) := fun s => .ok (p s.1 s.2)

/-- `p` restricted to states `< S` and colours `< C` prints only colours `< C` and goes only to
    states `< S`: the program really has the `params` the macro was built with.  (Decidable: a
    finite check.) -/
def closedB (p : ProgF) (S C : Nat) : Bool :=
  (List.range S).all fun q => (List.range C).all fun s =>
    match p q s with
    | none => true
    | some (pr, _, q') => decide (pr < C) && decide (q' < S)

/-- the `Prop` behind `closedB` -/
def Closed (p : ProgF) (S C : Nat) : Prop :=
  ∀ q s pr sh q', q < S → s < C → p q s = some (pr, sh, q') → pr < C ∧ q' < S

/-- L0 configuration: state `q`, head on the scanned cell of the window `w`; the cells left of the
    window are `outL` (nearest first), the cells right of it `outR` (nearest first). -/
def embed (q : Nat) (w : Win) (outL outR : List Nat) : Cfg :=
  ⟨q, w.left ++ outL, w.scan, w.right ++ outR⟩

/-- the head of `c` is on one of the `k` cells of the window whose outside is `outL` / `outR`
    (cell lists compared literally, so the head position is `|c.left| - |outL|`). -/
def InWindow (k : Nat) (outL outR : List Nat) (c : Cfg) : Prop :=
  ∃ w : Win, w.toTape.length = k ∧ c = embed c.state w outL outR

/-- state `q`, the window holds `tape` (left to right), head on its right end cell
    (`rightEdge = true`) or on its left end cell (`false`).  Meant for `tape ≠ []`. -/
def enterCfg (q : Nat) (rightEdge : Bool) (tape outL outR : List Nat) : Cfg :=
  if rightEdge then ⟨q, tape.reverse.tail ++ outL, tape.reverse.headD 0, outR⟩
  else ⟨q, outL, tape.headD 0, tape.tail ++ outR⟩

/-- state `q`, the window holds `tape`, the head has just left it: on the first cell right of the
    window (`d = true`) or the first cell left of it (`d = false`).  Outside cells unchanged. -/
def exitCfg (q : Nat) (d : Bool) (tape outL outR : List Nat) : Cfg :=
  if d then ⟨q, tape.reverse ++ outL, outR.headD 0, outR.tail⟩
  else ⟨q, outL.tail, outL.headD 0, tape ++ outR⟩

/-- `c` runs `n` steps to `c'` and the configurations at steps `0 .. n-1` have the head in the
    window. -/
def RunsIn (p : ProgF) (k : Nat) (outL outR : List Nat) (n : Nat) (c c' : Cfg) : Prop :=
  stepN p n c = some c' ∧ ∀ i, i < n → ∃ ci, stepN p i c = some ci ∧ InWindow k outL outR ci

/-- from `c` the machine stays in the window until it stands, still in the window, on an
    undefined instruction -/
def HaltsInside (p : ProgF) (k : Nat) (outL outR : List Nat) (c : Cfg) : Prop :=
  ∃ n c', RunsIn p k outL outR n c c' ∧ InWindow k outL outR c' ∧ step1 p c' = none

/-- from `c` the machine runs for ever and the head is in the window at every step -/
def NeverLeaves (p : ProgF) (k : Nat) (outL outR : List Nat) (c : Cfg) : Prop :=
  ∀ n, ∃ c', stepN p n c = some c' ∧ InWindow k outL outR c'

/-- the head is in the window at all of the steps `0 .. n`, for some `n ≥ m` -/
def StaysFor (p : ProgF) (k : Nat) (outL outR : List Nat) (m : Nat) (c : Cfg) : Prop :=
  ∃ n c', m ≤ n ∧ RunsIn p k outL outR n c c' ∧ InWindow k outL outR c'

/-- The macro machine as an L0 program over macro states and macro colours: the pure macro
    instruction; a slot with no instruction or with an error is undefined (a block macro with
    `k ≥ 1` and the repaired backsymbol macro have no error: `block_instr_no_error`,
    `backsym_instr_no_error_fixF3`). -/
def macroF (p : ProgF) (lp : LogicParams) (fixF3 : Bool) : ProgF := fun ms mc =>
  match pureInstr (innerOf p) lp fixF3 (ms, mc) with
  | .ok (some i) => some i
  | _ => none

/-- cells of the macro half-tape `L` left of the head, nearest first: each macro colour is a block
    of `k` base cells, and a block's cells are listed right to left. -/
def decL (b k : Nat) (L : List Nat) : List Nat := L.flatMap fun m => (decode b k m).reverse

/-- cells of the macro half-tape `R` right of the head, nearest first. -/
def decR (b k : Nat) (R : List Nat) : List Nat := R.flatMap fun m => decode b k m

/-- **Decoding a block-macro configuration.**  Macro state `ms` = base state `ms / 2`, head on the
    left end (`ms % 2 = 0`) or right end (`ms % 2 = 1`) of the block under the macro head. -/
def decCfg (lp : LogicParams) (c : Cfg) : Cfg :=
  enterCfg (c.state / 2) (c.state % 2 == 1) (decode lp.baseColors lp.cells c.scan)
    (decL lp.baseColors lp.cells c.left) (decR lp.baseColors lp.cells c.right)

theorem closed_of_closedB {p : ProgF} {S C : Nat} (h : closedB p S C = true) : Closed p S C := by
  intro q s pr sh q' hq hs hp
  simp only [closedB, List.all_eq_true, List.mem_range] at h
  have := h q hq s hs
  rw [hp] at this
  simpa using this

theorem closedB_of_closed {p : ProgF} {S C : Nat} (h : Closed p S C) : closedB p S C = true := by
  simp only [closedB, List.all_eq_true, List.mem_range]
  intro q hq s hs
  cases hp : p q s with
  | none => rfl
  | some i =>
    obtain ⟨pr, sh, q'⟩ := i
    have := h q s pr sh q' hq hs hp
    simp [this.1, this.2]

theorem decode_encode {b k : Nat} {t : List Nat} (hl : t.length = k) (h : ∀ x ∈ t, x < b) :
    decode b k (encode b t) = t :=
  hl ▸ (encode_lt_and_decode b t h).2

end BB.MacroSim
