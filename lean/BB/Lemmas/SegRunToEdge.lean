/-
C05 — segment analysis, `run_to_edge`: the deterministic evolution of a segment configuration
while the head stays inside the window (`cstep`) is simulated by the L0 machine when the
configuration is exact, and a configuration of the run that recurs (inside the window, or as a
return to the blank initial configuration) gives `NeverHalts`.  So for a configuration whose `init`
flag is set (`runToEdge_post`): it stays exact; a halt / spin-out found on it is real; a repeat
found on it means the machine never halts.
-/
import BB.Lemmas.SegTape

namespace BB.Segment

open BB

theorem neverHalts_of_recur {p : ProgF} {n N : Nat} {c c' : Cfg} (hr : RunAt p n c) (hN : 0 < N)
    (hs : stepN p N c = some c') (he : c' ≈c c) : NeverHalts p := by
  have key : ∀ j : Nat, ∃ d, RunAt p (n + j * N) d ∧ d ≈c c := by
    intro j
    induction j with
    | zero => exact ⟨c, by rw [Nat.zero_mul]; exact hr, Cfg.Equiv.refl _⟩
    | succ j ih =>
      obtain ⟨d, hd, hdc⟩ := ih
      obtain ⟨d', hs', he'⟩ := stepN_congr hdc.symm hs
      refine ⟨d', ?_, he'.symm.trans he⟩
      rw [Nat.succ_mul, ← Nat.add_assoc]
      exact stepN_add_of_eq hd hs'
  intro t
  obtain ⟨d, hd, _⟩ := key t
  exact stepN_le hd (Nat.le_trans (Nat.le_mul_of_pos_right t hN) (Nat.le_add_left _ _))

/-- state and tape of a configuration (everything except the `init` flag) -/
abbrev Core := Nat × Tape

def Config.core (c : Config) : Core := (c.state, c.tape)

/-- one iteration of `run_to_edge` on state and tape: look up the instruction, `Tape.step` -/
def cstep (prog : Prog) (x : Core) : Option Core :=
  match x.2.scan with
  | none => none
  | some s =>
    match prog.get (x.1, s) with
    | none => none
    | some instr =>
      match Tape.step x.2 instr.2.1 instr.1 (instr.2.2 == x.1) with
      | none => none
      | some t => some (instr.2.2, t)

def citer (prog : Prog) : Nat → Core → Option Core
  | 0, x => some x
  | n + 1, x => (cstep prog x).bind (citer prog n)

theorem citer_add (prog : Prog) (a b : Nat) (x : Core) :
    citer prog (a + b) x = (citer prog a x).bind (citer prog b) := by
  induction a generalizing x with
  | zero => simp [citer]
  | succ a ih =>
    have : a + 1 + b = (a + b) + 1 := by omega
    rw [this]
    simp only [citer]
    cases cstep prog x with
    | none => rfl
    | some y => simpa using ih y

theorem citer_succ_last (prog : Prog) (n : Nat) (x : Core) :
    citer prog (n + 1) x = (citer prog n x).bind (cstep prog) := by
  rw [citer_add]
  cases citer prog n x with
  | none => rfl
  | some y =>
    simp only [Option.bind_some, citer]
    cases cstep prog y <;> rfl

theorem citer_le {prog : Prog} {n a : Nat} {x y : Core} (h : citer prog n x = some y)
    (ha : a ≤ n) : ∃ z, citer prog a x = some z := by
  obtain ⟨b, rfl⟩ : ∃ b, n = a + b := ⟨n - a, by omega⟩
  rw [citer_add] at h
  cases h1 : citer prog a x with
  | none => rw [h1] at h; cases h
  | some z => exact ⟨z, rfl⟩

theorem Config.step_core {c c' : Config} {instr : Instr} (h : Config.step c instr = some c') :
    Tape.step c.tape instr.2.1 instr.1 (instr.2.2 == c.state) = some c'.tape ∧
      c'.state = instr.2.2 ∧ c'.init = c.init := by
  unfold Config.step at h
  cases ht : Tape.step c.tape instr.2.1 instr.1 (instr.2.2 == c.state) with
  | none => rw [ht] at h; cases h
  | some t =>
    rw [ht] at h
    simp only [Option.some.injEq] at h
    subst h
    exact ⟨rfl, rfl, rfl⟩

theorem cstep_of_step {prog : Prog} {c c' : Config} {s : Nat} {instr : Instr}
    (hs : c.tape.scan = some s) (hg : prog.get (c.state, s) = some instr)
    (h : Config.step c instr = some c') : cstep prog c.core = some c'.core := by
  obtain ⟨h1, h2, _⟩ := Config.step_core h
  simp only [cstep, Config.core, hs, hg, h1, h2]

theorem cstep_some {prog : Prog} {x y : Core} (h : cstep prog x = some y) :
    ∃ s pr d, x.2.scan = some s ∧ prog.get (x.1, s) = some (pr, d, y.1) ∧
      Tape.step x.2 d pr (y.1 == x.1) = some y.2 := by
  unfold cstep at h
  cases hs : x.2.scan with
  | none => rw [hs] at h; cases h
  | some s =>
    rw [hs] at h
    simp only at h
    cases hg : prog.get (x.1, s) with
    | none => rw [hg] at h; cases h
    | some instr =>
      rw [hg] at h
      simp only at h
      cases ht : Tape.step x.2 instr.2.1 instr.1 (instr.2.2 == x.1) with
      | none => rw [ht] at h; cases h
      | some t =>
        rw [ht] at h
        cases h
        exact ⟨s, instr.1, instr.2.1, rfl, hg, ht⟩

theorem cstep_exact {prog : Prog} {x y : Core} (hwf : x.2.WF) (h : cstep prog x = some y)
    {c : Cfg} (hc : c ≈c (⟨x.1, x.2, false⟩ : Config).toCfg) :
    y.2.WF ∧ Tape.cells y.2 = Tape.cells x.2 ∧ ∃ k c', 0 < k ∧ stepN prog.toF k c = some c' ∧
      c' ≈c (⟨y.1, y.2, false⟩ : Config).toCfg := by
  obtain ⟨s, pr, d, hs, hg, hst⟩ := cstep_some h
  obtain ⟨t', k, h1, h2, h3, _, h5, h6, _⟩ :=
    Tape.step_spec prog.toF x.2 x.1 pr y.1 s d [] [] hwf hs hg
  cases h1.symm.trans hst
  rw [Tape.toCfgX_nil hwf, Tape.toCfgX_nil h2] at h5
  obtain ⟨c', hc', he⟩ := stepN_congr hc.symm h5
  exact ⟨h2, h6, k, c', h3, hc', he.symm⟩

theorem citer_exact {prog : Prog} {j : Nat} {x y : Core} (hwf : x.2.WF)
    (h : citer prog j x = some y) {c : Cfg} (hc : c ≈c (⟨x.1, x.2, false⟩ : Config).toCfg) :
    ∃ k c', j ≤ k ∧ stepN prog.toF k c = some c' ∧ c' ≈c (⟨y.1, y.2, false⟩ : Config).toCfg := by
  induction j generalizing x c with
  | zero => cases h; exact ⟨0, c, Nat.le_refl _, rfl, hc⟩
  | succ j ih =>
    simp only [citer] at h
    cases h1 : cstep prog x with
    | none => rw [h1] at h; cases h
    | some z =>
      rw [h1] at h
      obtain ⟨hz, -, k, c', hk, hs, he⟩ := cstep_exact hwf h1 hc
      obtain ⟨k', c'', hk', hs', he'⟩ := ih hz h he
      exact ⟨k + k', c'', by omega, stepN_add_of_eq hs hs', he'⟩

theorem neverHalts_of_cycle {prog : Prog} {i n : Nat} {x : Core} {c : Cfg} (hwf : x.2.WF)
    (hi : 0 < i) (h : citer prog i x = some x) (hr : RunAt prog.toF n c)
    (hc : c ≈c (⟨x.1, x.2, false⟩ : Config).toCfg) : NeverHalts prog.toF := by
  obtain ⟨k, c', hk, hs, he⟩ := citer_exact hwf h hc
  exact neverHalts_of_recur hr (Nat.lt_of_lt_of_le hi hk) hs (he.trans hc.symm)

theorem ExactAt.congr_core {p : ProgF} {a b : Config} {n : Nat} (h : ExactAt p a n)
    (hs : a.state = b.state) (ht : a.tape = b.tape) : ExactAt p b n := by
  obtain ⟨c, hr, he⟩ := h
  refine ⟨c, hr, ?_⟩
  unfold Config.toCfg at he ⊢
  rw [← hs, ← ht]; exact he

theorem exact_of_blank {cfg : Config} (hwf : cfg.tape.WF) (hb : Tape.blank cfg.tape = true)
    (hs : cfg.state = 0) : Cfg.init ≈c cfg.toCfg := by
  obtain ⟨h1, h2, h3⟩ := (Tape.blank_iff hwf).1 hb
  exact ⟨hs.symm, h1.symm, sameCells_nil_left.2 h2, sameCells_nil_left.2 h3⟩

theorem exactAt_zero_of_blank {p : ProgF} {cfg : Config} (hwf : cfg.tape.WF)
    (hb : Tape.blank cfg.tape = true) (hs : cfg.state = 0) : ExactAt p cfg 0 :=
  ⟨Cfg.init, rfl, exact_of_blank hwf hb hs⟩

theorem Config.step_exact {prog : Prog} {c c' : Config} {s : Nat} {instr : Instr}
    (hwf : c.tape.WF) (hs : c.tape.scan = some s) (hg : prog.get (c.state, s) = some instr)
    (h : Config.step c instr = some c') :
    c'.tape.WF ∧ ∀ n, ExactAt prog.toF c n → ∃ k, 0 < k ∧ ExactAt prog.toF c' (n + k) := by
  have hc := cstep_of_step hs hg h
  have hwf' : c.core.2.WF := hwf
  refine ⟨(cstep_exact hwf' hc (Cfg.Equiv.refl _)).1, ?_⟩
  intro n ⟨c0, hr, he⟩
  obtain ⟨_, _, k, c1, hk, hst, he1⟩ := cstep_exact (c := c0) hwf' hc he
  exact ⟨k, hk, c1, stepN_add_of_eq hr hst, he1⟩

/-- how one iteration of `runLoop` ends: `run_to_edge` returns, or the loop goes on -/
inductive BodyOut where
  | exit (out : RunOut)
  | loop (self copy : Config) (step : Bool) (configs : Configs)

/-- the spin-out test of `runLoop` (the `(spin, configs)` pair) -/
def spinCheck (goal : Term) (self : Config) (instr : Instr) (configs : Configs) : Bool × Configs :=
  if (self.init || goal == .spinout) && Config.spinout self instr then
    if self.init then (true, configs) else Configs.checkReached configs self goal
  else (false, configs)

/-- the `if print == 0 && self.tape.blank()` block of `runLoop` (its `blk`) -/
def blankCheck (goal : Term) (instr : Instr) (self : Config) (configs : Configs) :
    Option SearchResult × Config × Configs :=
  if instr.1 == 0 && Tape.blank self.tape then
    if instr.2.2 == 0 && self.init then (some .repeat, self, configs)
    else
      let self := if instr.2.2 == 0 then { self with init := true } else self
      let configs :=
        { configs with blanks := dictSetInsert configs.blanks instr.2.2 (Tape.pos self.tape) }
      if goal == .blank then (some (.found .blank), self, configs)
      else (none, self, configs)
  else (none, self, configs)

/-- the tortoise's step; `none` = panic -/
def copyStep (prog : Prog) (copy : Config) : Option Config :=
  match Config.slot copy with
  | none => none
  | some cslot =>
    match prog.get cslot with
    | none => none
    | some cinstr => Config.step copy cinstr

/-- the part of an iteration after the blank test: leave with its result, or advance the tortoise
    on every second iteration and compare -/
def runTail (prog : Prog) (copy : Config) (step : Bool)
    (blk : Option SearchResult × Config × Configs) : Except Err BodyOut :=
  match blk.1 with
  | some r => .ok (.exit ⟨some r, blk.2.1, blk.2.2⟩)
  | none =>
    if !step then .ok (.loop blk.2.1 copy true blk.2.2)
    else
      match copyStep prog copy with
      | none => .error .panic
      | some copy1 =>
        if copy1.state == blk.2.1.state && copy1.tape == blk.2.1.tape then
          .ok (.exit ⟨some .repeat, blk.2.1, blk.2.2⟩)
        else .ok (.loop blk.2.1 copy1 false blk.2.2)

/-- the body of `runLoop`, with the recursive calls left to the caller (`runLoop_succ`) -/
def runBody (prog : Prog) (goal : Term) (self copy : Config) (step : Bool) (configs : Configs) :
    Except Err BodyOut :=
  match Config.slot self with
  | none => .ok (.exit ⟨none, self, configs⟩)
  | some slot =>
    match prog.get slot with
    | none => .ok (.exit ⟨some (.found .halt), self, configs⟩)
    | some instr =>
      let sc := spinCheck goal self instr configs
      if sc.1 then .ok (.exit ⟨some (.found .spinout), self, sc.2⟩)
      else
        match Config.step self instr with
        | none => .error .panic
        | some self1 => runTail prog copy step (blankCheck goal instr self1 sc.2)

theorem runBody_cases (prog : Prog) (goal : Term) (slf copy : Config) (step : Bool) (cf : Configs) :
    (slf.tape.scan = none ∧ runBody prog goal slf copy step cf = .ok (.exit ⟨none, slf, cf⟩)) ∨
    ∃ s, slf.tape.scan = some s ∧
      ((prog.get (slf.state, s) = none ∧
          runBody prog goal slf copy step cf = .ok (.exit ⟨some (.found .halt), slf, cf⟩)) ∨
        ∃ instr, prog.get (slf.state, s) = some instr ∧
          (((spinCheck goal slf instr cf).1 = true ∧
              runBody prog goal slf copy step cf =
                .ok (.exit ⟨some (.found .spinout), slf, (spinCheck goal slf instr cf).2⟩)) ∨
            ((spinCheck goal slf instr cf).1 = false ∧
              ((Config.step slf instr = none ∧
                  runBody prog goal slf copy step cf = .error .panic) ∨
                ∃ s1, Config.step slf instr = some s1 ∧
                  runBody prog goal slf copy step cf =
                    runTail prog copy step
                      (blankCheck goal instr s1 (spinCheck goal slf instr cf).2))))) := by
  unfold runBody Config.slot
  cases slf.tape.scan with
  | none => exact Or.inl ⟨rfl, rfl⟩
  | some s =>
    refine Or.inr ⟨s, rfl, ?_⟩
    dsimp only
    cases prog.get (slf.state, s) with
    | none => exact Or.inl ⟨rfl, rfl⟩
    | some instr =>
      refine Or.inr ⟨instr, rfl, ?_⟩
      dsimp only
      cases (spinCheck goal slf instr cf).1 with
      | true => exact Or.inl ⟨rfl, rfl⟩
      | false =>
        refine Or.inr ⟨rfl, ?_⟩
        cases Config.step slf instr with
        | none => exact Or.inl ⟨rfl, rfl⟩
        | some s1 => exact Or.inr ⟨s1, rfl, rfl⟩

def BodyOut.run (prog : Prog) (goal : Term) (fuel : Nat) : Except Err BodyOut → Except Err RunOut
  | .error e => .error e
  | .ok (.exit out) => .ok out
  | .ok (.loop s c st cf) => runLoop prog goal fuel s c st cf

theorem runLoop_succ (prog : Prog) (goal : Term) (fuel : Nat) (self copy : Config) (step : Bool)
    (configs : Configs) :
    runLoop prog goal (fuel + 1) self copy step configs =
      BodyOut.run prog goal fuel (runBody prog goal self copy step configs) := by
  rw [runLoop, runBody]
  cases Config.slot self with
  | none => rfl
  | some slot =>
    dsimp only
    cases prog.get slot with
    | none => rfl
    | some instr =>
      dsimp only
      -- the text of the model folds back into `spinCheck`, later into `blankCheck`
      rw [← spinCheck]
      generalize spinCheck goal self instr configs = sc
      obtain ⟨spin, cf⟩ := sc
      cases spin with
      | true => rfl
      | false =>
        cases Config.step self instr with
        | none => rfl
        | some self1 =>
          dsimp only
          rw [← blankCheck]
          generalize blankCheck goal instr self1 cf = blk
          obtain ⟨r, s2, c2⟩ := blk
          cases r with
          | some r => rfl
          | none =>
            cases step with
            | false => rfl
            | true =>
              simp only [runTail, Bool.not_true, Bool.false_eq_true, if_false, copyStep]
              cases Config.slot copy with
              | none => rfl
              | some cslot =>
                dsimp only
                cases prog.get cslot with
                | none => rfl
                | some cinstr =>
                  dsimp only
                  cases Config.step copy cinstr with
                  | none => rfl
                  | some copy1 =>
                    dsimp only
                    split <;> rfl

/-- an iteration that does not fail leaves with `Post` or goes on with `Inv` -/
def BodyOut.Sat (Inv : Config → Config → Bool → Configs → Prop) (Post : RunOut → Prop) :
    Except Err BodyOut → Prop
  | .error _ => True
  | .ok (.exit out) => Post out
  | .ok (.loop s c st cf) => Inv s c st cf

theorem runLoop_induct (prog : Prog) (goal : Term)
    (Inv : Config → Config → Bool → Configs → Prop) (Post : RunOut → Prop)
    (hbody : ∀ self copy step configs, Inv self copy step configs →
      BodyOut.Sat Inv Post (runBody prog goal self copy step configs)) :
    ∀ (fuel : Nat) (self copy : Config) (step : Bool) (configs : Configs) (out : RunOut),
      Inv self copy step configs → runLoop prog goal fuel self copy step configs = .ok out →
      Post out := by
  intro fuel
  induction fuel with
  | zero => exact fun _ _ _ _ _ _ h => nomatch h
  | succ fuel ih =>
    intro self copy step configs out hinv h
    rw [runLoop_succ] at h
    have hb := hbody self copy step configs hinv
    revert h hb
    cases runBody prog goal self copy step configs with
    | error e => exact fun h => nomatch h
    | ok b =>
      cases b with
      | exit o => intro h hb; cases h; exact hb
      | loop s c st cf => exact fun h hb => ih s c st cf out hb h

theorem runToEdge_induct (prog : Prog) (goal : Term)
    (Inv : Config → Config → Bool → Configs → Prop) (Post : RunOut → Prop)
    (hbody : ∀ self copy step configs, Inv self copy step configs →
      BodyOut.Sat Inv Post (runBody prog goal self copy step configs))
    {fuel : Nat} {self : Config} {configs : Configs} {out : RunOut}
    (hedge : self.tape.scan = none → Post ⟨none, self, configs⟩)
    (hinv : Inv self self false configs)
    (h : runToEdge prog goal fuel self configs = .ok out) : Post out := by
  unfold runToEdge at h
  cases hs : self.tape.scan with
  | none => rw [hs] at h; cases h; exact hedge hs
  | some s =>
    rw [hs] at h
    exact runLoop_induct prog goal Inv Post hbody fuel self self false configs out hinv h

theorem runTail_sat {Inv : Config → Config → Bool → Configs → Prop} {Post : RunOut → Prop}
    {prog : Prog} {copy s2 : Config} {step : Bool} {cf : Configs}
    (hskip : step = false → Inv s2 copy true cf)
    (hmeet : ∀ copy1, step = true → copyStep prog copy = some copy1 → copy1.core = s2.core →
      Post ⟨some .repeat, s2, cf⟩)
    (hon : ∀ copy1, step = true → copyStep prog copy = some copy1 → Inv s2 copy1 false cf) :
    BodyOut.Sat Inv Post (runTail prog copy step (none, s2, cf)) := by
  cases step with
  | false => exact hskip rfl
  | true =>
    simp only [runTail, Bool.not_true, Bool.false_eq_true, if_false]
    cases hcp : copyStep prog copy with
    | none => trivial
    | some copy1 =>
      dsimp only
      by_cases heq : (copy1.state == s2.state && copy1.tape == s2.tape) = true
      · rw [if_pos heq]
        rw [Bool.and_eq_true, beq_iff_eq, beq_iff_eq] at heq
        exact hmeet copy1 rfl hcp (Prod.ext heq.1 heq.2)
      · rw [if_neg heq]
        exact hon copy1 rfl hcp

theorem copyStep_core {prog : Prog} {c c' : Config} (h : copyStep prog c = some c') (hwf : c.tape.WF) :
    cstep prog c.core = some c'.core ∧ c'.tape.WF := by
  unfold copyStep Config.slot at h
  cases hsc : c.tape.scan with
  | none => rw [hsc] at h; cases h
  | some s =>
    rw [hsc] at h
    dsimp only at h
    cases hg : prog.get (c.state, s) with
    | none => rw [hg] at h; cases h
    | some instr =>
      rw [hg] at h
      exact ⟨cstep_of_step hsc hg h, (Config.step_exact hwf hsc hg h).1⟩

theorem checkReached_todo (c : Configs) (config : Config) (goal : Term) :
    (Configs.checkReached c config goal).2.todo = c.todo := by
  unfold Configs.checkReached Configs.checkReachedBlank
  split
  · split <;> rfl
  · split <;> rfl

theorem spinCheck_todo (goal : Term) (self : Config) (instr : Instr) (configs : Configs) :
    (spinCheck goal self instr configs).2.todo = configs.todo := by
  unfold spinCheck
  split
  · split
    · rfl
    · exact checkReached_todo _ _ _
  · rfl

theorem spinCheck_true {goal : Term} {self : Config} {instr : Instr} {configs : Configs}
    (h : (spinCheck goal self instr configs).1 = true) : Config.spinout self instr = true := by
  unfold spinCheck at h
  by_cases hc : ((self.init || goal == .spinout) && Config.spinout self instr) = true
  · simp only [Bool.and_eq_true] at hc
    exact hc.2
  · simp [hc] at h

theorem blankCheck_cases (goal : Term) (instr : Instr) (self : Config) (configs : Configs) :
    ((instr.1 == 0 && Tape.blank self.tape) = false ∧
      blankCheck goal instr self configs = (none, self, configs)) ∨
    (Tape.blank self.tape = true ∧ instr.2.2 = 0 ∧ self.init = true ∧
      blankCheck goal instr self configs = (some .repeat, self, configs)) ∨
    (Tape.blank self.tape = true ∧ (instr.2.2 == 0 && self.init) = false ∧
      blankCheck goal instr self configs =
        (if goal == .blank then some (.found .blank) else none,
          if instr.2.2 == 0 then { self with init := true } else self,
          { configs with blanks := dictSetInsert configs.blanks instr.2.2 (Tape.pos self.tape) })) := by
  unfold blankCheck
  by_cases hA : (instr.1 == 0 && Tape.blank self.tape) = true
  · rw [if_pos hA]
    simp only [Bool.and_eq_true] at hA
    by_cases hB : (instr.2.2 == 0 && self.init) = true
    · rw [if_pos hB]
      simp only [Bool.and_eq_true, beq_iff_eq] at hB
      exact Or.inr (Or.inl ⟨hA.2, hB.1, hB.2, rfl⟩)
    · rw [if_neg hB]
      refine Or.inr (Or.inr ⟨hA.2, Bool.eq_false_iff.2 hB, ?_⟩)
      by_cases h0 : (instr.2.2 == 0) = true <;> by_cases hg : (goal == Term.blank) = true <;>
        simp only [h0, hg, if_true, if_false, Bool.false_eq_true]
  · rw [if_neg hA]
    exact Or.inl ⟨Bool.eq_false_iff.2 hA, rfl⟩

/-- `T` is the stack, which `run_to_edge` does not touch -/
structure RunInv (prog : Prog) (T : List Config) (slf copy : Config) (step : Bool) (cf : Configs) :
    Prop where
  swf : slf.tape.WF
  cwf : copy.tape.WF
  lag : ∃ i, citer prog i copy.core = some slf.core ∧ (step = true → 0 < i)
  exa : InitExact prog.toF slf
  todo : cf.todo = T

structure RunPost (prog : Prog) (goal : Term) (T : List Config) (out : RunOut) : Prop where
  wf : out.config.tape.WF
  exa : InitExact prog.toF out.config
  halt : out.result = some (.found .halt) →
    ∃ s, out.config.tape.scan = some s ∧ prog.get (out.config.state, s) = none
  spin : out.result = some (.found .spinout) →
    ∃ s instr, out.config.tape.scan = some s ∧ prog.get (out.config.state, s) = some instr ∧
      Config.spinout out.config instr = true
  rep : out.result = some .repeat → out.config.init = true →
    NeverHalts prog.toF ∧ (goal = .blank → ∃ n, 0 < n ∧ ExactAt prog.toF out.config n)
  todo : out.configs.todo = T

theorem runTail_post {prog : Prog} {goal : Term} {T : List Config} {slf copy s2 : Config}
    {step : Bool} {cf0 cf : Configs} (htodo : cf.todo = T) (inv : RunInv prog T slf copy step cf0) (hcs : cstep prog slf.core = some s2.core)
    (hwf : s2.tape.WF) (hex : InitExact prog.toF s2)
    (hpos : goal = .blank → s2.init = true → ∃ n, 0 < n ∧ ExactAt prog.toF s2 n) :
    BodyOut.Sat (RunInv prog T) (RunPost prog goal T) (runTail prog copy step (none, s2, cf)) := by
  obtain ⟨i, hi, hipos⟩ := inv.lag
  have hi1 : citer prog (i + 1) copy.core = some s2.core := by
    rw [citer_succ_last, hi]; exact hcs
  -- once the tortoise has stepped, the hare is `i` steps ahead again
  have hlag : ∀ {copy1}, copyStep prog copy = some copy1 →
      copy1.tape.WF ∧ citer prog i copy1.core = some s2.core := fun hcp => by
    obtain ⟨hcc, hcwf⟩ := copyStep_core hcp inv.cwf
    rw [Nat.add_comm, citer_add] at hi1
    exact ⟨hcwf, by simpa only [citer, hcc, Option.bind_some] using hi1⟩
  refine runTail_sat (fun _ => ⟨hwf, inv.cwf, ⟨i + 1, hi1, fun _ => Nat.succ_pos _⟩, hex, htodo⟩)
    (fun copy1 hst hcp hce => ⟨hwf, hex, nofun, nofun, fun _ hin => ?_, htodo⟩)
    (fun copy1 _ hcp => ⟨hwf, (hlag hcp).1, ⟨i, (hlag hcp).2, nofun⟩, hex, htodo⟩)
  obtain ⟨n, c, hrun, he⟩ := hex hin
  exact ⟨neverHalts_of_cycle (x := s2.core) hwf (hipos hst) (hce ▸ (hlag hcp).2) hrun he,
    fun hgb => hpos hgb hin⟩

theorem runBody_post (prog : Prog) (goal : Term) (self copy : Config) (step : Bool)
    (configs : Configs) {T : List Config} (inv : RunInv prog T self copy step configs) :
    BodyOut.Sat (RunInv prog T) (RunPost prog goal T) (runBody prog goal self copy step configs) := by
  rcases runBody_cases prog goal self copy step configs with
    ⟨-, he⟩ | ⟨s, hsc, ⟨hg, he⟩ | ⟨instr, hg, ⟨hsp, he⟩ | ⟨-, ⟨-, he⟩ | ⟨self1, hst, he⟩⟩⟩⟩ <;>
    rw [he]
  · exact ⟨inv.swf, inv.exa, nofun, nofun, nofun, inv.todo⟩
  · exact ⟨inv.swf, inv.exa, fun _ => ⟨s, hsc, hg⟩, nofun, nofun, inv.todo⟩
  · exact ⟨inv.swf, inv.exa, nofun, fun _ => ⟨s, instr, hsc, hg, spinCheck_true hsp⟩, nofun,
      (spinCheck_todo ..).trans inv.todo⟩
  · trivial
  · have ht1 := (spinCheck_todo goal self instr configs).trans inv.todo
    generalize (spinCheck goal self instr configs).2 = cf1 at ht1 ⊢
    obtain ⟨hwf1, hex1⟩ := Config.step_exact inv.swf hsc hg hst
    obtain ⟨_, hstate1, hinit1⟩ := Config.step_core hst
    have hcs : cstep prog self.core = some self1.core := cstep_of_step hsc hg hst
    -- a flagged successor is exact at a positive time
    have hpos1 : self1.init = true → ∃ n, 0 < n ∧ ExactAt prog.toF self1 n := by
      intro hi
      obtain ⟨n, hn⟩ := inv.exa (hinit1 ▸ hi)
      obtain ⟨k, hk, he⟩ := hex1 n hn
      exact ⟨n + k, by omega, he⟩
    have hexa1 : InitExact prog.toF self1 := fun hi => (hpos1 hi).imp fun _ h => h.2
    rcases blankCheck_cases goal instr self1 cf1 with ⟨-, hb⟩ | ⟨hb, h0, hin, hbe⟩ | ⟨hb, -, hbe⟩
    · rw [hb]
      exact runTail_post ht1 inv hcs hwf1 hexa1 fun _ => hpos1
    · -- back to the blank initial configuration
      rw [hbe]
      refine ⟨hwf1, hexa1, nofun, nofun, fun _ _ => ?_, ht1⟩
      obtain ⟨n, hn, c, hrun, hec⟩ := hpos1 hin
      have hz : Cfg.init ≈c self1.toCfg := exact_of_blank hwf1 hb (hstate1.trans h0)
      exact ⟨neverHalts_of_recur (n := 0) rfl hn hrun (hec.trans hz.symm), fun _ => ⟨n, hn, c, hrun, hec⟩⟩
    · rw [hbe]
      generalize hs2 : (if instr.2.2 == 0 then { self1 with init := true } else self1) = self2
      have h2 : self2.core = self1.core ∧ self2.tape.WF ∧ InitExact prog.toF self2 := by
        subst hs2
        by_cases h0 : (instr.2.2 == 0) = true
        · rw [if_pos h0]
          exact ⟨rfl, hwf1, fun _ =>
            ⟨0, exactAt_zero_of_blank hwf1 hb (hstate1.trans (beq_iff_eq.1 h0))⟩⟩
        · rw [if_neg h0]; exact ⟨rfl, hwf1, hexa1⟩
      by_cases hgb : goal = .blank
      · rw [if_pos (beq_iff_eq.2 hgb)]
        exact ⟨h2.2.1, h2.2.2, nofun, nofun, nofun, ht1⟩
      · rw [if_neg (fun h => hgb (beq_iff_eq.1 h))]
        exact runTail_post ht1 inv (h2.1 ▸ hcs) h2.2.1 h2.2.2 fun h => absurd h hgb

theorem runToEdge_post (prog : Prog) (goal : Term) (fuel : Nat) (self : Config) (configs : Configs)
    (out : RunOut) (hwf : self.tape.WF) (hex : InitExact prog.toF self)
    (h : runToEdge prog goal fuel self configs = .ok out) : RunPost prog goal configs.todo out :=
  runToEdge_induct prog goal (RunInv prog configs.todo) (RunPost prog goal configs.todo)
    (fun s c st cf inv => runBody_post prog goal s c st cf inv)
    (fun _ => ⟨hwf, hex, nofun, nofun, nofun, rfl⟩) ⟨hwf, hwf, ⟨0, rfl, nofun⟩, hex, rfl⟩ h

end BB.Segment
