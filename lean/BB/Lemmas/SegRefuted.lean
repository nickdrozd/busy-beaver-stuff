/-
C05 — segment analysis: `refuted` is sound for the goals `halt` and `spinout`.

A search that ends with an empty stack leaves a closed explored set (`searchLoop_closed`), and the
real run, seen through any window placement, stays inside it (`sim_main`).  If the event of the
goal (`GoalCfg`) happened, then through every one of the `seg` placements it would be a recorded
goal point, so the `reached` entry of its state would hold all `seg` positions — but an entry of
that size ends the search with `reached`, not with an empty stack (`none_contra`).
-/
import BB.Lemmas.SegTable

namespace BB.Segment

open BB

/-- `reached` starts with an empty entry for each key -/
theorem dictGet_foldl_empty {α : Type} (f : α → Nat) (q : Nat) :
    ∀ (l : List α) (d : List (Nat × List Nat)),
      dictGet (l.foldl (fun d x => dictSet d (f x) []) d) q =
        if q ∈ l.map f then some [] else dictGet d q := by
  intro l
  induction l with
  | nil => intro d; rfl
  | cons x xs ih =>
    intro d
    rw [List.foldl_cons, ih, dictGet_dictSet, List.map_cons]
    by_cases h1 : q ∈ xs.map f
    · rw [if_pos h1, if_pos (List.mem_cons_of_mem _ h1)]
    · rw [if_neg h1]
      by_cases h2 : q = f x
      · rw [if_pos h2, if_pos (h2 ▸ List.mem_cons_self)]
      · rw [if_neg h2, if_neg (fun h => (List.mem_cons.1 h).elim h2 h1)]

theorem reached_new (ap : AnalyzedProg) (goal : Term) (seg q : Nat) :
    dictGet (Configs.new ap.halts ap.spinouts seg goal).reached q =
      if q ∈ reachedKeys ap goal then some [] else none := by
  cases goal with
  | blank => rfl
  | halt =>
    have := dictGet_foldl_empty (fun s : Nat => s) q ap.halts []
    rwa [List.map_id'] at this
  | spinout => exact dictGet_foldl_empty Prod.fst q ap.spinouts []

theorem sinv_new (ap : AnalyzedProg) (goal : Term) (seg : Nat) (hseg : 0 < seg) :
    SInv ap goal seg (· ∈ reachedKeys ap goal) (fun _ => False)
      (Configs.new ap.halts ap.spinouts seg goal) := by
  refine ⟨rfl, ⟨fun _ h => h.elim, fun _ _ h => h.elim, fun _ _ h => h.elim, fun _ h => h.elim,
    fun _ h => h.elim⟩, ⟨?_, ?_, fun c hc => nomatch hc⟩, ?_, ?_⟩
  · intro q t hs
    cases hs
  · rintro q pos ⟨s, hs, -⟩
    cases hs
  · intro q r hr
    rw [reached_new, Option.ite_none_right_eq_some] at hr
    rw [← Option.some.inj hr.2]; exact hseg
  · intro q hq
    rw [reached_new, if_pos hq]; rfl

theorem closed_of_sinv {ap : AnalyzedProg} {goal : Term} {seg : Nat} {K : Nat → Prop}
    {E : Core → Prop} {F : Configs} (h : SInv ap goal seg K E F) (htodo : F.todo = [])
    (hinit : ∀ pos, pos < seg → DHas F.blanks 0 pos) : Closed ap seg E := by
  -- with an empty stack every mark belongs to an explored configuration
  have hpend : ∀ {Z : Core}, ¬ ∃ c ∈ F.todo, c.core = Z := by
    rintro Z ⟨c, hc, -⟩
    rw [htodo] at hc; cases hc
  refine ⟨h.clos.eGood, h.clos.eStep, ?_, ?_⟩
  · intro X Z hE hs he
    have hm := h.clos.eEdge X Z hE hs he
    unfold Marked at hm
    split at hm
    · rename_i hb
      obtain ⟨t, t1, t2, t3, t4⟩ := h.mark.mBlank _ _ hm
      exact ⟨t, t4.resolve_right hpend, Or.inr ⟨t1, t2, hb, t3⟩⟩
    · exact ⟨Z.2, (h.mark.mSeen _ _ hm).resolve_right hpend, Or.inl rfl⟩
  · intro pos hpos
    obtain ⟨t, t1, t2, t3, t4⟩ := h.mark.mBlank _ _ (hinit pos hpos)
    exact ⟨t, t1, t2, t3, t4.resolve_right hpend⟩

theorem none_contra (ap : AnalyzedProg) (goal : Term) (hg : goal ≠ .blank) (seg : Nat)
    (hseg : 4 ≤ seg) (hbs : BranchSound ap)
    (h : allSegmentsReached ap seg goal = .ok none) {T : Nat} {cT : Cfg}
    (hrT : RunAt ap.prog.toF T cT) (hns : ∀ T', T' + 1 = T → NoSweepInto ap.prog.toF T')
    (hK : cT.state ∈ reachedKeys ap goal)
    (hgoal : ∀ (X : Core) (o : Int), View cT o X → Good seg X.2 →
      GoalIn ap.prog goal X ∨ GoalEdge ap goal X) : False := by
  unfold allSegmentsReached at h
  obtain ⟨E, F, hF, htodo, hinit⟩ := searchLoop_closed ap goal hg seg (· ∈ reachedKeys ap goal) _ _ _ _
    (sinv_new ap goal seg (by omega)) h
  have hcl := closed_of_sinv hF htodo hinit
  have hkey := hF.keys cT.state hK
  cases hr : dictGet F.reached cT.state with
  | none => rw [hr] at hkey; cases hkey
  | some r =>
    -- every position `o < seg` is in `r`, which has fewer than `seg` elements
    have hall : List.range seg ⊆ r := by
      intro o ho
      have ho := List.mem_range.1 ho
      obtain ⟨X, hE, hv⟩ := sim_main hseg hcl hbs hrT hns (o : Int)
      have hgX := hcl.eGood X hE
      have hrec : Recorded F X := (hgoal X o hv hgX).elim (hF.clos.eGoalIn X hE)
        (hF.clos.eGoalEdge X hE)
      have := hrec r (by rw [← hv.1]; exact hr)
      rwa [View.pos_eq hseg hgX ho hv] at this
    have h1 := List.nodup_range.length_le_of_subset hall
    rw [List.length_range] at h1
    exact Nat.lt_irrefl _ (Nat.lt_of_lt_of_le (hF.rLen _ _ hr) h1)

/-- the event the search for `goal` is about, as a property of a configuration of the real
    machine (the search for `blank` is treated separately: it never ends with an empty stack) -/
def GoalCfg (p : ProgF) : Term → Cfg → Prop
  | .halt, c => p c.state c.scan = none
  | .spinout, c => SpinOutCfg p c
  | .blank, _ => False

/-- so the first event of a run is not reached in the middle of a sweep (`NoSweepInto`) -/
theorem GoalCfg.of_same_slot {p : ProgF} {goal : Term} {c' c : Cfg} (h : GoalCfg p goal c)
    (hs : step1 p c' = some c) (hst : c'.state = c.state) (hsc : c'.scan = c.scan) :
    GoalCfg p goal c' := by
  cases goal with
  | blank => exact h
  | halt => show p c'.state c'.scan = none; rw [hst, hsc]; exact h
  | spinout =>
    obtain ⟨h0, pr, sh, hi, hz⟩ := h
    have hi' : p c'.state c'.scan = some (pr, sh, c.state) := by rw [hst, hsc, h0]; exact hi
    rw [step1_eq_of hi', Option.some.injEq] at hs
    refine ⟨hsc.trans h0, pr, sh, by rw [hst]; exact hi, ?_⟩
    -- the sweep moved onto a blank with blanks beyond it
    rw [← hs] at h0 hz
    cases sh
    · exact allZero_of_head_tail h0 hz
    · exact allZero_of_head_tail h0 hz

theorem View.inner {c : Cfg} {o : Int} {X : Core} {s : Nat} (hv : View c o X)
    (hsc : X.2.scan = some s) :
    c.state = X.1 ∧ c.scan = s ∧ ∃ oL oR, SameCells c.left (Span.unroll X.2.lspan ++ oL) ∧
      SameCells c.right (Span.unroll X.2.rspan ++ oR) := by
  obtain ⟨hst, hv2⟩ := hv
  rw [hsc] at hv2
  obtain ⟨⟨oL, oR, he⟩, -⟩ := hv2
  simp only [Tape.toCfgX, hsc] at he
  exact ⟨hst, he.2.1, oL, oR, he.2.2.1, he.2.2.2⟩

theorem GoalCfg.view {ap : AnalyzedProg} {goal : Term} {seg : Nat} (hseg : 4 ≤ seg) {c : Cfg}
    (h : GoalCfg ap.prog.toF goal c)
    (hspin : ∀ pr sh, ap.prog.toF c.state 0 = some (pr, sh, c.state) →
      dictGet ap.spinouts c.state = some sh)
    {o : Int} {X : Core} (hv : View c o X) (hgX : Good seg X.2) :
    GoalIn ap.prog goal X ∨ GoalEdge ap goal X := by
  cases hsc : X.2.scan with
  | some s =>
    left
    obtain ⟨hst, hs, oL, oR, hl, hr⟩ := hv.inner hsc
    cases goal with
    | blank => exact h
    | halt => exact ⟨s, hsc, by rw [← hst, ← hs]; exact h⟩
    | spinout =>
      obtain ⟨h0, pr, sh, hi, hz⟩ := h
      have hs0 : s = 0 := hs.symm.trans h0
      refine ⟨s, (pr, sh, X.1), hsc, by rw [hs0, ← hst]; exact hi, ?_⟩
      have hat : Span.blank (if sh = true then X.2.rspan else X.2.lspan) = true := by
        cases sh
        · exact (Span.blank_iff _ hgX.1.lpos).2 (allZero_append.1 (hl.allZero hz)).1
        · exact (Span.blank_iff _ hgX.1.rpos).2 (allZero_append.1 (hr.allZero hz)).1
      simp only [Config.spinout, Tape.atEdge, hsc, hs0, hat, BEq.rfl, Bool.and_self]
  | none =>
    right
    refine ⟨hsc, ?_⟩
    cases goal with
    | blank => exact h.elim
    | halt => rfl
    | spinout =>
      obtain ⟨h0, pr, sh, hi, hz⟩ := h
      obtain ⟨hst, hv2⟩ := hv
      rw [hsc] at hv2
      have hsp := hspin pr sh (h0 ▸ hi)
      rw [hst] at hsp
      -- the sweep either leaves the window on its side, or comes from beyond the far edge over
      -- blanks, and then the window is blank
      have key : ∀ side, Tape.side X.2 = some side → (sh = side ∨ Tape.blank X.2 = true) →
          goalTapeOf ap .spinout ⟨X.1, X.2, false⟩ = .ok true := by
        intro side hside hb
        simp only [goalTapeOf, hsp, hside]
        rcases hb with rfl | hb
        · simp only [BEq.rfl, Bool.true_or]
        · simp only [hb, Bool.or_true]
      rcases hv2 with ⟨hrs, mid, oL, h4, -⟩ | ⟨hls, mid, oR, h4, -⟩
      · refine key true (good_edge_right hseg hgX hsc hrs).2.2.2 ?_
        cases sh with
        | true => exact Or.inl rfl
        | false =>
          right
          rw [Tape.blank_iff hgX.1, hsc, hrs]
          exact ⟨rfl, (allZero_append.1 (allZero_append.1 (h4.allZero hz)).1).2, allZero_nil⟩
      · refine key false (good_edge_left hseg hgX hsc hls).2.2.2 ?_
        cases sh with
        | false => exact Or.inl rfl
        | true =>
          right
          rw [Tape.blank_iff hgX.1, hsc, hls]
          exact ⟨rfl, allZero_nil, (allZero_append.1 (allZero_append.1 (h4.allZero hz)).1).2⟩

theorem segmentCantReach_refuted {prog : Prog} {params : Nat × Nat} {segs k : Nat} {goal : Term}
    (h : segmentCantReach prog params segs goal = .ok (.refuted k)) :
    (goal ≠ .blank ∧ reachedKeys (AnalyzedProg.new prog params) goal = []) ∨
    ∃ seg, 4 ≤ seg ∧ allSegmentsReached (AnalyzedProg.new prog params) seg goal = .ok none := by
  rcases segmentCantReach_ok h with ⟨-, hk⟩ | h
  · exact Or.inl hk
  rcases segmentLoop_ok _ _ _ h with h' | ⟨seg', o, hs, ha, hr⟩
  · cases h'
  cases o with
  | none => exact Or.inr ⟨2 + seg', by omega, ha⟩
  | some v =>
    cases v with
    | found t => cases t <;> cases hr
    | _ => cases hr

/-- **`refuted` is sound**: with a covering table size, the event of the goal never happens. -/
theorem refuted_no_event {prog : Prog} {params : Nat × Nat} {segs k : Nat} {goal : Term}
    (hpc : paramsCover prog params = true)
    (h : segmentCantReach prog params segs goal = .ok (.refuted k)) :
    ¬ ∃ n c, RunAt prog.toF n c ∧ GoalCfg prog.toF goal c := by
  obtain ⟨S, C⟩ := params
  rintro ⟨T, cT, hrT, hgc⟩
  -- it is enough to refute the first event
  induction T using Nat.strongRecOn generalizing cT with
  | _ T hmin =>
    have hap := AnalyzedProg.new_prog prog (S, C)
    have htab := analyzed_ok prog S C
    obtain ⟨-, hC, -⟩ := paramsCover_spec hpc
    obtain ⟨r1, r2, -, -⟩ := run_inRange hpc T cT hrT
    have hspin : ∀ pr sh, prog.toF cT.state 0 = some (pr, sh, cT.state) →
        dictGet (AnalyzedProg.new prog (S, C)).spinouts cT.state = some sh :=
      fun pr sh hi => htab.spin cT.state pr sh r1 hC hi
    have hK : cT.state ∈ reachedKeys (AnalyzedProg.new prog (S, C)) goal := by
      cases goal with
      | blank => exact hgc.elim
      | halt => exact htab.halts cT.state cT.scan r1 r2 hgc
      | spinout =>
        obtain ⟨h0, pr, sh, hi, -⟩ := hgc
        exact List.mem_map.2 ⟨(cT.state, sh), dictGet_mem (hspin pr sh hi), rfl⟩
    rcases segmentCantReach_refuted h with ⟨-, hno⟩ | ⟨seg, hseg, hnone⟩
    · rw [hno] at hK; cases hK
    · have hg : goal ≠ .blank := by rintro rfl; exact hgc
      refine none_contra _ goal hg seg hseg (branchSound_of_cover hpc) hnone (T := T) (cT := cT)
        (by rw [hap]; exact hrT) ?_ hK ?_
      · intro T' hT' c' c hr' hr hsame
        rw [hap] at hr' hr
        subst hT'
        obtain rfl := hr.unique hrT
        obtain ⟨d, hd, hrd⟩ := hr'.step_of_later hr (Nat.lt_succ_self _)
        obtain rfl := hrd.unique hr
        exact hmin T' (Nat.lt_succ_self _) c' hr' (hgc.of_same_slot hd hsame.1 hsame.2)
      · intro X o hv hgX
        exact GoalCfg.view hseg (by rw [hap]; exact hgc) (by rw [hap]; exact hspin) hv hgX

/-- the parameters of the repaired wrapper (`fixF2 = true`) cover the program -/
theorem paramsCover_fix (prog : Prog) : paramsCover prog (getCompParams prog true) = true := by
  simp only [paramsCover, getCompParams, if_true, Bool.and_eq_true, decide_eq_true_eq,
    List.all_eq_true, Nat.lt_one_add_iff, Nat.zero_le, true_and]
  exact fun kv hkv => (Tree.Prog.paramsFix_bound hkv).elim fun a ⟨b, c, d⟩ => ⟨⟨⟨a, c⟩, d⟩, b⟩

end BB.Segment
