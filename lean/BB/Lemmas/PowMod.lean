/-
Modular powers for C18 (core Lean only): square-and-multiply with its correctness proof, so that the
kernel can evaluate `b ^ e % m` for large `e`, and the periodicity of `e ↦ b ^ e % m` that turns one
such evaluation into a statement about every exponent.  `BB/Generated/NumTables.lean` (printed by
tools/extract_num.py from the literal tables of tm/num.py) instantiates `entry_of_ok`, `row_of_ok`
and `depends_only_of_ok`; all that is left to the generated file is a `decide +kernel` on a closed
Boolean.
-/

namespace BB.PowMod

/-- square-and-multiply, structural on `fuel` (any `fuel ≥ e` is enough) -/
def powModAux : Nat → Nat → Nat → Nat → Nat → Nat
  | 0, _, _, _, acc => acc
  | fuel + 1, b, e, m, acc =>
    if e = 0 then acc
    else powModAux fuel (b * b % m) (e / 2) m (if e % 2 = 1 then acc * b % m else acc)

/-- `b ^ e % m` computed with `O(log e)` multiplications of numbers below `m` -/
def powMod (b e m : Nat) : Nat := powModAux e b e m 1 % m

theorem sq_step (b e m acc : Nat) :
    (if e % 2 = 1 then acc * b % m else acc) * (b * b % m) ^ (e / 2) % m = acc * b ^ e % m := by
  have hpow : b ^ e = b ^ (e % 2) * (b * b) ^ (e / 2) := by
    rw [← Nat.pow_two, ← Nat.pow_mul, ← Nat.pow_add, Nat.mod_add_div]
  have hacc : (if e % 2 = 1 then acc * b % m else acc) % m = acc * b ^ (e % 2) % m := by
    rcases Nat.mod_two_eq_zero_or_one e with h | h
    · rw [h, if_neg (by decide), Nat.pow_zero, Nat.mul_one]
    · rw [h, if_pos rfl, Nat.pow_one, Nat.mod_mod]
  rw [hpow, ← Nat.mul_assoc, Nat.mul_mod, hacc, ← Nat.pow_mod, ← Nat.mul_mod]

theorem powModAux_spec : ∀ (fuel b e m acc : Nat), e ≤ fuel →
    powModAux fuel b e m acc % m = acc * b ^ e % m := by
  intro fuel
  induction fuel with
  | zero =>
    intro b e m acc h
    rw [Nat.le_zero.mp h, Nat.pow_zero, Nat.mul_one]
    rfl
  | succ fuel ih =>
    intro b e m acc h
    unfold powModAux
    by_cases he : e = 0
    · rw [if_pos he, he, Nat.pow_zero, Nat.mul_one]
    · rw [if_neg he, ih _ _ _ _ (by omega), sq_step]

theorem powMod_eq (b e m : Nat) : powMod b e m = b ^ e % m := by
  unfold powMod
  rw [powModAux_spec e b e m 1 (Nat.le_refl e), Nat.one_mul]

/-- The pre-period `s` is there because `b` need not be invertible modulo `m`: `2 ^ e % 6` is
periodic only from `e = 1` on. -/
theorem pow_mod_shift (b m p s : Nat) (h : b ^ (s + p) % m = b ^ s % m) :
    ∀ e, s ≤ e → b ^ (e + p) % m = b ^ e % m := by
  intro e hse
  obtain ⟨d, rfl⟩ := Nat.exists_eq_add_of_le hse
  have h1 : b ^ (s + d + p) = b ^ (s + p) * b ^ d := by
    rw [← Nat.pow_add]
    congr 1
    omega
  rw [h1, Nat.mul_mod, h, ← Nat.mul_mod, ← Nat.pow_add]

theorem pow_mod_periodic (b m p s : Nat) (h : b ^ (s + p) % m = b ^ s % m) :
    ∀ e, s ≤ e → ∀ k, b ^ (e + k * p) % m = b ^ e % m := by
  intro e hse k
  induction k with
  | zero => simp
  | succ k ih =>
    have h1 : e + (k + 1) * p = (e + k * p) + p := by
      rw [Nat.succ_mul, Nat.add_assoc]
    rw [h1, pow_mod_shift b m p s h (e + k * p) (Nat.le_trans hse (Nat.le_add_right _ _)), ih]

private theorem congr_le (b m p s : Nat) (h : b ^ (s + p) % m = b ^ s % m)
    (e e' : Nat) (hs : s ≤ e) (hle : e ≤ e') (hmod : e % p = e' % p) :
    b ^ e % m = b ^ e' % m := by
  have hz : (e' - e) % p = 0 := Nat.sub_mod_eq_zero_of_mod_eq hmod.symm
  obtain ⟨c, hc⟩ := Nat.dvd_of_mod_eq_zero hz
  have he' : e' = e + c * p := by
    rw [Nat.mul_comm c p, ← hc]
    omega
  rw [he', pow_mod_periodic b m p s h e hs c]

theorem pow_mod_congr (b m p s : Nat) (h : b ^ (s + p) % m = b ^ s % m)
    (e e' : Nat) (hs : s ≤ e) (hs' : s ≤ e') (hmod : e % p = e' % p) :
    b ^ e % m = b ^ e' % m := by
  rcases Nat.le_total e e' with hle | hle
  · exact congr_le b m p s h e e' hs hle hmod
  · exact (congr_le b m p s h e' e hs' hle hmod.symm).symm

/-- the finite check behind one table entry `e % p = r ↦ v` of `b ^ e % m` for `e ≥ s`:
the period is a period from `s` on, `rep` is a representative of the residue class `r` that is
`≥ s`, and the value at the representative is `v` -/
def entryOk (b m p s rep r v : Nat) : Bool :=
  (powMod b (s + p) m == powMod b s m) && decide (s ≤ rep) && (rep % p == r)
    && (powMod b rep m == v)

theorem entry_of_ok {b m p s rep r v : Nat} (ok : entryOk b m p s rep r v = true) :
    ∀ e, s ≤ e → e % p = r → b ^ e % m = v := by
  intro e hse hr
  simp only [entryOk, Bool.and_eq_true, beq_iff_eq, decide_eq_true_eq] at ok
  obtain ⟨⟨⟨hper, hrep⟩, hrr⟩, hv⟩ := ok
  rw [powMod_eq, powMod_eq] at hper
  rw [powMod_eq] at hv
  rw [pow_mod_congr b m p s hper e rep hse hrep (hr.trans hrr.symm), hv]

/-- `entryOk` for one row `e % p = r ↦ v` of a residue table of `b ^ e % m` that is consulted for
exponents `≥ 2`; the representative `r + 2 * p` lies in the class and is `≥ 2` whenever `p ≥ 1` -/
def rowOk (b m p r v : Nat) : Bool := entryOk b m p 2 (r + 2 * p) r v

theorem row_of_ok {b m p r v : Nat} (ok : rowOk b m p r v = true) :
    ∀ e, 1 < e → e % p = r → b ^ e % m = v :=
  entry_of_ok ok

/-- the soundness of `find_period`'s answer, for any base/modulus/period (what
`exp %= period` in `Exp.__mod__` relies on once the loop has seen `val == 1`) -/
theorem period_sound (b m p : Nat) (_hp : 0 < p) (h : b ^ p % m = 1 % m) :
    ∀ e, b ^ e % m = b ^ (e % p) % m := by
  intro e
  have h0 : b ^ (0 + p) % m = b ^ 0 % m := by
    rw [Nat.zero_add, Nat.pow_zero]
    exact h
  exact pow_mod_congr b m p 0 h0 e (e % p) (Nat.zero_le _) (Nat.zero_le _) (Nat.mod_mod _ _).symm

/-- the finite check behind "the exponent may be reduced modulo `p`" (no pre-period) -/
def reduceOk (b m p : Nat) : Bool := decide (0 < p) && (powMod b p m == 1 % m)

theorem reduce_of_ok {b m p : Nat} (ok : reduceOk b m p = true) :
    ∀ e, b ^ e % m = b ^ (e % p) % m := by
  simp only [reduceOk, Bool.and_eq_true, beq_iff_eq, decide_eq_true_eq, powMod_eq] at ok
  exact period_sound b m p ok.1 ok.2

/-- the form in which the generated file states an `exp %= p` of `Exp.__mod__` -/
theorem depends_only_of_ok {b m p : Nat} (ok : reduceOk b m p = true) :
    ∀ e e', e % p = e' % p → b ^ e % m = b ^ e' % m := by
  intro e e' h
  rw [reduce_of_ok ok e, reduce_of_ok ok e', h]

/-- `mod == 2: return base % 2` -/
theorem pow_mod_two (b e : Nat) (he : 0 < e) : b ^ e % 2 = b % 2 := by
  induction e with
  | zero => omega
  | succ e ih =>
    rw [Nat.pow_succ, Nat.mul_mod]
    rcases Nat.eq_zero_or_pos e with h0 | hpos
    · subst h0; simp
    · rw [ih hpos]
      rcases Nat.mod_two_eq_zero_or_one b with h | h <;> simp [h]

/-- `mod == base: return 0` -/
theorem pow_mod_self (b e : Nat) (he : 0 < e) : b ^ e % b = 0 := by
  obtain ⟨k, rfl⟩ := Nat.exists_eq_succ_of_ne_zero (Nat.pos_iff_ne_zero.mp he)
  rw [Nat.pow_succ]
  exact Nat.mul_mod_left _ _

/-- `mod == 1: return 0` -/
theorem pow_mod_one (b e : Nat) : b ^ e % 1 = 0 := Nat.mod_one _

end BB.PowMod
