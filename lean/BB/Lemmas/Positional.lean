/-
The positional code `encode` / `decode` between the cells of a macro block and its colour.
`encode` adds the cells from the last to the first with growing powers of the base, `decode` peels
off the last cell by `% base`: both are recursions on the LAST cell, which `encode_snoc` and
`decode_succ` say; everything else is induction along these two equations.
At the end `TapeGood`, what a window of the simulator keeps when one cell is overwritten.
-/
import BB.Model.Macros

namespace BB.Macros

theorem mul_add_div_mod {M a b : Nat} (hb : b < M) : (a * M + b) / M = a ∧ (a * M + b) % M = b := by
  rw [Nat.mul_comm, Nat.mul_add_div (by omega), Nat.mul_add_mod, Nat.div_eq_of_lt hb,
    Nat.mod_eq_of_lt hb]
  exact ⟨rfl, rfl⟩

theorem mul_add_inj {M a b a' b' : Nat} (hb : b < M) (hb' : b' < M)
    (h : a * M + b = a' * M + b') : a = a' ∧ b = b' := by
  have h1 := mul_add_div_mod (a := a) hb
  rw [h, (mul_add_div_mod hb').1, (mul_add_div_mod hb').2] at h1
  exact ⟨h1.1.symm, h1.2.symm⟩

theorem mul_add_lt {a A b M : Nat} (ha : a < A) (hb : b < M) : a * M + b < A * M := by
  have := Nat.mul_le_mul_right M (Nat.succ_le_of_lt ha)
  rw [Nat.succ_mul] at this
  omega

/-- positional value of the reversed tape (least significant cell first) -/
def encodeR (base : Nat) (r : MTape) : Nat := encodeFrom base r 0 0

theorem encodeFrom_eq (base : Nat) (l : MTape) (p acc : Nat) :
    encodeFrom base l p acc = acc + encodeR base l * base ^ p := by
  induction l generalizing p acc with
  | nil => rw [encodeR, encodeFrom, encodeFrom, Nat.zero_mul, Nat.add_zero]
  | cons x r ih =>
    rw [encodeR, encodeFrom, encodeFrom, ih, ih (0 + 1), Nat.pow_zero, Nat.zero_add, Nat.mul_one,
      Nat.pow_one, Nat.pow_succ, Nat.add_mul, Nat.mul_assoc, Nat.mul_comm base, Nat.add_assoc]

theorem encodeR_cons (base x : Nat) (r : MTape) :
    encodeR base (x :: r) = encodeR base r * base + x := by
  rw [encodeR, encodeFrom, encodeFrom_eq, Nat.pow_zero, Nat.zero_add, Nat.mul_one, Nat.pow_one,
    Nat.add_comm]

theorem encode_eq (base : Nat) (t : MTape) : encode base t = encodeR base t.reverse := rfl

theorem encode_snoc (base : Nat) (t : MTape) (x : Nat) :
    encode base (t ++ [x]) = encode base t * base + x := by
  simp only [encode_eq, List.reverse_append, List.reverse_cons, List.reverse_nil, List.nil_append,
    List.singleton_append, encodeR_cons]

theorem encode_replicate_zero (base n : Nat) : encode base (List.replicate n 0) = 0 := by
  induction n with
  | zero => rfl
  | succ n ih => rw [List.replicate_succ', encode_snoc, ih, Nat.zero_mul]

theorem decodeAux_acc (base n c : Nat) (acc : MTape) :
    decodeAux base n c acc = decodeAux base n c [] ++ acc := by
  induction n generalizing c acc with
  | zero => simp [decodeAux]
  | succ n ih =>
    simp only [decodeAux]
    rw [ih (c / base) (c % base :: acc), ih (c / base) [c % base]]
    simp

theorem decode_zero (base c : Nat) : decode base 0 c = [] := rfl

theorem decode_succ (base n c : Nat) :
    decode base (n + 1) c = decode base n (c / base) ++ [c % base] := by
  simp only [decode, decodeAux]
  rw [decodeAux_acc]

theorem decode_length (base n c : Nat) : (decode base n c).length = n := by
  induction n generalizing c with
  | zero => rfl
  | succ n ih => simp [decode_succ, ih]

theorem decode_lt (base n c : Nat) (hb : 0 < base) : ∀ x ∈ decode base n c, x < base := by
  induction n generalizing c with
  | zero => simp [decode_zero]
  | succ n ih =>
    intro x hx
    simp only [decode_succ, List.mem_append, List.mem_singleton] at hx
    rcases hx with hx | hx
    · exact ih _ x hx
    · subst hx; exact Nat.mod_lt _ hb

theorem decode_color_zero (base n : Nat) : decode base n 0 = List.replicate n 0 := by
  induction n with
  | zero => rfl
  | succ n ih => rw [decode_succ, Nat.zero_div, Nat.zero_mod, ih, List.replicate_succ']

theorem encodeR_lt_and_decode (base : Nat) (r : MTape) (hr : ∀ x ∈ r, x < base) :
    encodeR base r < base ^ r.length ∧ decode base r.length (encodeR base r) = r.reverse := by
  induction r with
  | nil => exact ⟨Nat.one_pos, rfl⟩
  | cons x r ih =>
    obtain ⟨hx, hr⟩ := List.forall_mem_cons.1 hr
    obtain ⟨hlt, hdec⟩ := ih hr
    obtain ⟨hdiv, hmod⟩ := mul_add_div_mod (a := encodeR base r) hx
    rw [encodeR_cons, List.length_cons, decode_succ, hdiv, hmod, hdec, List.reverse_cons,
      Nat.pow_succ]
    exact ⟨mul_add_lt hlt hx, rfl⟩

theorem encode_lt_and_decode (base : Nat) (t : MTape) (ht : ∀ x ∈ t, x < base) :
    encode base t < base ^ t.length ∧ decode base t.length (encode base t) = t := by
  have h := encodeR_lt_and_decode base t.reverse fun x hx => ht x (List.mem_reverse.1 hx)
  rwa [List.length_reverse, List.reverse_reverse] at h

theorem encode_inj (base : Nat) (t t' : MTape) (hl : t.length = t'.length)
    (ht : ∀ x ∈ t, x < base) (ht' : ∀ x ∈ t', x < base) (h : encode base t = encode base t') :
    t = t' := by
  rw [← (encode_lt_and_decode base t ht).2, ← (encode_lt_and_decode base t' ht').2, hl, h]

/-- `n` cells, each with `P`.  The simulator overwrites one cell of its window at a time, so the
    window invariants are stated on the tape a window stands for (`Win.toTape`). -/
def TapeGood (P : Nat → Prop) (n : Nat) (t : MTape) : Prop := t.length = n ∧ ∀ x ∈ t, P x

theorem TapeGood.imp {P Q : Nat → Prop} {n : Nat} {t : MTape} (h : TapeGood P n t)
    (hpq : ∀ x, P x → Q x) : TapeGood Q n t := ⟨h.1, fun x hx => hpq x (h.2 x hx)⟩

theorem TapeGood.set {P : Nat → Prop} {n : Nat} {a b : MTape} {x : Nat}
    (h : TapeGood P n (a ++ x :: b)) {c : Nat} (hc : P c) : TapeGood P n (a ++ c :: b) := by
  obtain ⟨hl, hall⟩ := h
  constructor
  · rw [← hl, List.length_append, List.length_append, List.length_cons, List.length_cons]
  · intro y hy
    rcases List.mem_append.1 hy with hy | hy
    · exact hall y (List.mem_append_left _ hy)
    · rcases List.mem_cons.1 hy with rfl | hy
      · exact hc
      · exact hall y (List.mem_append_right _ (List.mem_cons_of_mem _ hy))

theorem Win.scan_mem (w : Win) : w.scan ∈ w.toTape :=
  List.mem_append_right _ (List.mem_cons_self ..)

end BB.Macros
