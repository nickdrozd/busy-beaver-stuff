/-
C03 (every rule application is a run of real machine steps): soundness of the validator
`checkApp` / `checkAppLoop` / `plainStep` of BB/Model/Validate.lean against the L0 machine.
-/
import BB.Model.Validate
import BB.Lemmas.RunQuickEvents

namespace BB

/-- Boolean version of `Tape.Canon` (both spans canonical: no empty block, adjacent blocks of
    different colours, far-end block not blank). -/
def Tape.canonB (t : Tape) : Bool := Span.canonB t.lspan && Span.canonB t.rspan

/-- What is required of a configuration met strictly inside a validated run: its instruction is
    defined (the machine does not halt there) and - when the side condition `K` holds (it will be
    "the tape the run started from was canonical") - it is not a spin-out configuration. -/
def OnWay (p : ProgF) (K : Prop) (c : Cfg) : Prop :=
  (p c.state c.scan).isSome ∧ (K → ¬ SpinOutCfg p c)

/-- `n` steps of the L0 machine from `c0` end in `e` (up to trailing blanks), and each of the `n`
    configurations met before the end (the start included) satisfies `P`. -/
def RunVia (p : ProgF) (P : Cfg → Prop) (c0 : Cfg) (n : Nat) (e : Cfg) : Prop :=
  (∃ c', stepN p n c0 = some c' ∧ c' ≈c e) ∧ ∀ j, j < n → ∃ c, stepN p j c0 = some c ∧ P c

/-- `n` cycles of the plain run-length simulator from `(q, t)`; `none` when an undefined instruction
    or a spin-out is met before `n` cycles are done. -/
def plainIter (p : Prog) : Nat → Nat → Tape → Option (Nat × Tape)
  | 0, q, t => some (q, t)
  | n + 1, q, t =>
    match plainStep p q t with
    | .next q' t' _ => plainIter p n q' t'
    | _ => none

theorem Tape.canonB_iff (t : Tape) : t.canonB = true ↔ t.Canon := by
  simp only [Tape.canonB, Tape.Canon, Bool.and_eq_true, Span.canonB_iff]

instance (t : Tape) : Decidable t.Canon := decidable_of_iff _ (Tape.canonB_iff t)

theorem Span.allPos_iff (s : Span) : Span.allPos s = true ↔ Span.Pos s := by
  simp only [Span.allPos, Span.Pos, List.all_eq_true, bne_iff_ne, Nat.pos_iff_ne_zero]

instance (t : Tape) : Decidable t.Pos := by
  unfold Tape.Pos Span.Pos; exact inferInstance

theorem OnWay.congr {p : ProgF} {K : Prop} {a b : Cfg} (h : a ≈c b) (ha : OnWay p K a) :
    OnWay p K b := by
  refine ⟨?_, fun k hb => ha.2 k (SpinOutCfg.congr h.symm hb)⟩
  rw [← h.1, ← h.2.1]; exact ha.1

theorem OnWay.mono {p : ProgF} {K K' : Prop} (hk : K' → K) {c : Cfg} (h : OnWay p K c) :
    OnWay p K' c := ⟨h.1, fun k => h.2 (hk k)⟩

theorem RunVia.zero (p : ProgF) (P : Cfg → Prop) (c : Cfg) : RunVia p P c 0 c :=
  ⟨⟨c, rfl, Cfg.Equiv.refl _⟩, fun _ hj => absurd hj (Nat.not_lt_zero _)⟩

theorem RunVia.mono {p : ProgF} {P Q : Cfg → Prop} (hPQ : ∀ c, P c → Q c) {c0 e : Cfg} {n : Nat}
    (h : RunVia p P c0 n e) : RunVia p Q c0 n e :=
  ⟨h.1, fun j hj => by obtain ⟨c, hc, hp⟩ := h.2 j hj; exact ⟨c, hc, hPQ c hp⟩⟩

theorem RunVia.end_equiv {p : ProgF} {P : Cfg → Prop} {c0 e e' : Cfg} {n : Nat}
    (h : RunVia p P c0 n e) (he : e ≈c e') : RunVia p P c0 n e' := by
  obtain ⟨⟨c', hc', hce⟩, hall⟩ := h
  exact ⟨⟨c', hc', hce.trans he⟩, hall⟩

/-- `hP`: the second run starts from `e1` only up to trailing blanks, so its configurations are
    met up to `≈c` -/
theorem RunVia.trans {p : ProgF} {P : Cfg → Prop} (hP : ∀ a b, a ≈c b → P a → P b)
    {c0 e1 e2 : Cfg} {k d : Nat} (h1 : RunVia p P c0 k e1) (h2 : RunVia p P e1 d e2) :
    RunVia p P c0 (k + d) e2 := by
  obtain ⟨⟨c1, hc1, e1eq⟩, hall1⟩ := h1
  obtain ⟨⟨c2, hc2, e2eq⟩, hall2⟩ := h2
  obtain ⟨c2', hc2', e2'⟩ := stepN_congr e1eq.symm hc2
  refine ⟨⟨c2', stepN_add_of_eq hc1 hc2', e2'.symm.trans e2eq⟩, ?_⟩
  intro j hj
  by_cases hjk : j < k
  · exact hall1 j hjk
  · obtain ⟨j', rfl⟩ := Nat.exists_eq_add_of_le (Nat.le_of_not_lt hjk)
    obtain ⟨c, hc, hp⟩ := hall2 j' (Nat.lt_of_add_lt_add_left hj)
    obtain ⟨cb, hcb, ecb⟩ := stepN_congr e1eq.symm hc
    exact ⟨cb, stepN_add_of_eq hc1 hcb, hP _ _ ecb hp⟩

theorem RunVia.start_equiv {p : ProgF} {P : Cfg → Prop} (hP : ∀ a b, a ≈c b → P a → P b)
    {c0 c0' e : Cfg} {n : Nat} (h : RunVia p P c0 n e) (he : c0 ≈c c0') : RunVia p P c0' n e := by
  have := RunVia.trans hP ((RunVia.zero p P c0').end_equiv he.symm) h
  rwa [Nat.zero_add] at this

/-- a run continued by one whose side condition is weaker; the second run starts from `e1` only
    up to trailing blanks, which `OnWay` does not see -/
theorem RunVia.append {p : ProgF} {K K' : Prop} (hk : K → K') {c0 e1 e2 : Cfg} {k d : Nat}
    (h1 : RunVia p (OnWay p K) c0 k e1) (h2 : RunVia p (OnWay p K') e1 d e2) :
    RunVia p (OnWay p K) c0 (k + d) e2 :=
  RunVia.trans (fun _ _ hab => OnWay.congr hab) h1 (h2.mono fun _ hw => hw.mono hk)

theorem plainStep_spec (p : Prog) (q : Nat) (t : Tape) :
    match plainStep p q t with
    | .undefined slot => slot = (q, t.scan) ∧ p.get (q, t.scan) = none
    | .spinout => ∃ color shift, p.get (q, t.scan) = some (color, shift, q) ∧ t.atEdge shift = true
    | .next q' t' k => ∃ color shift, p.get (q, t.scan) = some (color, shift, q') ∧
        ¬ ((q == q' && t.atEdge shift) = true) ∧ t.step shift color (q == q') = (t', k) := by
  unfold plainStep
  cases p.get (q, t.scan) with
  | none => exact ⟨rfl, rfl⟩
  | some i =>
    obtain ⟨color, shift, next⟩ := i
    by_cases he : (q == next && t.atEdge shift) = true
    · simp only [he, if_true]
      simp only [Bool.and_eq_true, beq_iff_eq] at he
      obtain ⟨rfl, hat⟩ := he
      exact ⟨color, shift, rfl, hat⟩
    · simp only [he]
      exact ⟨color, shift, rfl, he, rfl⟩

theorem plainStep_sound {p : Prog} {q : Nat} {t : Tape} {q' : Nat} {t' : Tape} {k : Nat} {K : Prop}
    (hpos : t.Pos) (hK : K → t.Canon) (h : plainStep p q t = .next q' t' k) :
    0 < k ∧ t'.Pos ∧ (K → t'.Canon) ∧
      RunVia p.toF (OnWay p.toF K) (t.toCfg q) k (t'.toCfg q') := by
  have hs := plainStep_spec p q t
  rw [h] at hs
  obtain ⟨color, shift, hget, hedge, hstep⟩ := hs
  have hi : p.toF q t.scan = some (color, shift, q') := hget
  obtain ⟨hk, hend, hmid⟩ := Tape.cycle_refines hpos hi (Cfg.Equiv.refl _)
  have hpos' := Tape.step_pos hpos shift color (q == q')
  rw [hstep] at hk hmid hend hpos'
  refine ⟨hk, hpos', fun hc => ?_, hend, fun j hj => ?_⟩
  · have := Tape.canon_step (hK hc) shift color (q == q')
    rwa [hstep] at this
  · obtain ⟨c, hc, hs, hsc, hcn⟩ := hmid j hj
    exact ⟨c, hc, by rw [hs, hsc, hi]; rfl, fun hk' hspin => hedge ((hcn (hK hk')).1 hspin)⟩

theorem checkAppLoop_sound (p : Prog) (q : Nat) (after : Tape) (K : Prop) :
    ∀ (fuel cycles steps cur : Nat) (t : Tape) (C S : Nat), t.Pos → (K → t.Canon) →
      checkAppLoop p q after fuel cycles steps cur t = .ok C S →
      ∃ c d, C = cycles + c ∧ S = steps + d ∧ 1 ≤ c ∧ c ≤ fuel ∧ c ≤ d ∧
        RunVia p.toF (OnWay p.toF K) (t.toCfg cur) d (after.toCfg q) ∧ (K → after.Canon) := by
  intro fuel
  induction fuel with
  | zero => intro cycles steps cur t C S _ _ h; cases h
  | succ fuel ih =>
    intro cycles steps cur t C S hpos hK h
    rw [checkAppLoop] at h
    split at h
    · cases h
    · cases h
    next cur' t' k hps =>
      obtain ⟨hk, hpos', hK', hrun⟩ := plainStep_sound hpos hK hps
      split at h
      next hhit =>
        cases h
        simp only [Bool.and_eq_true, beq_iff_eq] at hhit
        obtain ⟨rfl, rfl⟩ := hhit
        exact ⟨1, k, rfl, rfl, Nat.le_refl 1, Nat.succ_le_succ (Nat.zero_le _), hk, hrun, hK'⟩
      next =>
        obtain ⟨c, d, rfl, rfl, h1, hf, hcd, hrun', hcanA⟩ :=
          ih (cycles + 1) (steps + k) cur' t' C S hpos' hK' h
        exact ⟨1 + c, k + d, Nat.add_assoc _ _ _, Nat.add_assoc _ _ _, Nat.le_add_right 1 c,
          by omega, Nat.add_le_add hk hcd,
          hrun.append id hrun', hcanA⟩

theorem checkApp_eq (p : Prog) (q : Nat) (before after : Tape) (budget : Nat) :
    checkApp p q before after budget
      = if after.Pos then checkAppLoop p q after budget 0 0 q before else .notCanon := by
  simp only [checkApp, Tape.Pos, ← Span.allPos_iff, ← Bool.and_eq_true, Bool.not_eq_true',
    ← Bool.not_eq_true, ite_not]

/-- `check_app_sound` and `check_app_no_spinout` (BB/Props/C03.lean) are its two readings. -/
theorem checkApp_sound (p : Prog) (q : Nat) (before after : Tape) (budget cycles steps : Nat)
    (hpos : before.Pos) (h : checkApp p q before after budget = .ok cycles steps) :
    1 ≤ cycles ∧ cycles ≤ budget ∧ cycles ≤ steps ∧
      RunVia p.toF (OnWay p.toF before.Canon) (before.toCfg q) steps (after.toCfg q) ∧
      after.Pos ∧ (before.Canon → after.Canon) := by
  rw [checkApp_eq] at h
  split at h
  next hc =>
    obtain ⟨c, d, hC, hS, h1, hf, hcd, hrun, hcan⟩ :=
      checkAppLoop_sound p q after before.Canon budget 0 0 q before cycles steps hpos id h
    rw [Nat.zero_add] at hC hS
    subst hC hS
    exact ⟨h1, hf, hcd, hrun, hc, hcan⟩
  next => cases h

theorem checkApp_sound_canon {p : Prog} {q : Nat} {t after : Tape} {budget cyc s : Nat}
    (h : checkApp p q t after budget = .ok cyc s) (hc : t.Canon) :
    RunVia p.toF (OnWay p.toF t.Canon) (t.toCfg q) s (after.toCfg q) ∧ after.Canon := by
  obtain ⟨_, _, _, hrun, _, hcan⟩ := checkApp_sound p q t after budget cyc s hc.pos h
  exact ⟨hrun, hcan hc⟩

theorem plainIter_succ {p : Prog} {n q : Nat} {t : Tape} {r : Nat × Tape}
    (h : plainIter p (n + 1) q t = some r) :
    ∃ q' t' k, plainStep p q t = .next q' t' k ∧ plainIter p n q' t' = some r := by
  rw [plainIter] at h
  split at h
  next q' t' k hps => exact ⟨q', t', k, hps, h⟩
  next => cases h

/-- The loop stops at the first cycle that stands in `(q, after)`: hence `c ≤ n + 1`, not
    equality. -/
theorem checkAppLoop_complete (p : Prog) (q : Nat) (after : Tape) :
    ∀ (fuel n cycles steps cur : Nat) (t : Tape), n < fuel →
      plainIter p (n + 1) cur t = some (q, after) →
      ∃ c S, checkAppLoop p q after fuel cycles steps cur t = .ok (cycles + c) S ∧ c ≤ n + 1 := by
  intro fuel
  induction fuel with
  | zero => intro n _ _ _ _ hf; exact absurd hf (Nat.not_lt_zero n)
  | succ fuel ih =>
    intro n cycles steps cur t hf h
    obtain ⟨cur', t', k, hps, hrest⟩ := plainIter_succ h
    simp only [checkAppLoop, hps]
    by_cases hhit : (cur' == q && t' == after) = true
    · rw [if_pos hhit]; exact ⟨1, _, rfl, Nat.le_add_left 1 n⟩
    · rw [if_neg hhit]
      cases n with
      | zero =>
        -- zero cycles from `(cur', t')` end in `(cur', t')`: it would have been a hit
        simp only [plainIter, Option.some.injEq, Prod.mk.injEq] at hrest
        simp only [hrest, beq_self_eq_true, Bool.and_self, not_true] at hhit
      | succ m =>
        obtain ⟨c, S, hC, hle⟩ :=
          ih m (cycles + 1) (steps + k) cur' t' (Nat.lt_of_succ_lt_succ hf) hrest
        exact ⟨1 + c, S, by rw [← Nat.add_assoc]; exact hC, by omega⟩

end BB
