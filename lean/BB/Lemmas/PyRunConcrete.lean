/-
Concrete runs of the two runner models, evaluated by the kernel (`decide +kernel`: plain
definitional unfolding, no compiler trust):
  * `runCex` = "1RB 0LA 1LA 0RA  2LB 2RB 3RB 0LA" (a 2-state 4-colour tree leaf) with cycle limit 821:
    the Python runner's `make_rule` meets a count with constant SECOND difference (SecondDiffRule:
    skipped), finds no decreasing count among the others and raises InfiniteRule at cycle 820; the
    Rust `calculate_diff` says `Unknown` for the same counts, `try_rule` returns `None` and the run
    goes on to its cycle limit.  Real code, same program, limit 1000:
      Machine.run      -> infrul cycles=820 marks=58 rulapp=515 (py_harness: sdr=1, nonadd=0)
      run_prover       -> xlimit marks=70 rulapp=781
  * `runWit` = "1RB 1LC  1RD 1RB  0RD 0RC  1LD 1LA" with cycle limit 300: a run with 5073 rule
    applications on which the no-divergence condition holds (non-vacuity of the partial theorem).
-/
import BB.Model.PyMachine

namespace BB.PyM

open BB

def runCex : Prog :=
  [((0,0),(1,true,1)), ((0,1),(0,false,0)), ((0,2),(1,false,0)), ((0,3),(0,true,0)),
   ((1,0),(2,false,1)), ((1,1),(2,true,1)), ((1,2),(3,true,1)), ((1,3),(0,false,0))]

def runWit : Prog :=
  [((0,0),(1,true,1)), ((0,1),(1,false,2)), ((1,0),(1,true,3)), ((1,1),(1,true,1)),
   ((2,0),(0,true,3)), ((2,1),(0,true,2)), ((3,0),(1,false,3)), ((3,1),(1,false,0))]

theorem runCex_parses :
    (match Prog.fromStr "1RB 0LA 1LA 0RA  2LB 2RB 3RB 0LA" with
     | .ok p => p == runCex
     | _ => false) = true := by decide +kernel

theorem runWit_parses :
    (match Prog.fromStr "1RB 1LC  1RD 1RB  0RD 0RC  1LD 1LA" with
     | .ok p => p == runWit
     | _ => false) = true := by decide +kernel

theorem runCex_ok :
    (match pyRun runCex 821, runProver runCex 821 with
     | .ok r, .ok r' => r.kind == .infrul && r.cycles == 820 && r'.result == .xlimit
     | _, _ => false) = true := by decide +kernel

theorem runWit_ok :
    (pyRunAgrees runWit 300
      && (match pyRun runWit 300, runProver runWit 300 with
          | .ok r, .ok r' => r.kind == .spnout && r.rulapp == 5073 && r'.result == .spnout
                              && r'.rulapp == 5073 && r.marks == r'.marks
          | _, _ => false)) = true := by decide +kernel

end BB.PyM
