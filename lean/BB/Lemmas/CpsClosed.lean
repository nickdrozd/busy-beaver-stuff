/-
C06, first half: a closed position set is an invariant of the run.

A triple (`seen`, `lspans`, `rspans`) covers an L0 configuration when the local view of radius
`rad` is in `seen` and every window of `rad` cells further out is licensed by the span maps.  One
machine step pushes the printed cell onto one window and pulls the other window one cell outwards:
the new outermost cell is the last colour of the licensed window at offset 1, so it is among the
colours `checkConfig` has tried.  Hence closure under `checkConfig` carries coverage along the run,
and the goal test made on the way is the one the goal event would have failed.
-/
import BB.Model.Cps
import BB.Lemmas.StepRefine

namespace BB.Cps

open BB

/-! ### Definitions that are part of the statements -/

/-- the `n` cells of a half-tape from offset `k` on (offset 0 = the cell next to the head) -/
def cellsFrom (l : List Nat) : Nat → Nat → List Nat
  | _, 0 => []
  | k, n + 1 => cellAt l k :: cellsFrom l (k + 1) n

/-- the window of `rad` cells of a half-tape that starts at offset `k`, as a `Span`:
    the first `rad - 1` cells and the last one -/
def windowAt (rad : Nat) (l : List Nat) (k : Nat) : Span :=
  ⟨cellsFrom l k (rad - 1), cellAt l (k + (rad - 1))⟩

/-- the local view of radius `rad` of an L0 configuration: state, scanned cell and the `rad`
    cells next to the head on each side -/
def viewOf (rad : Nat) (c : Cfg) : Config :=
  ⟨c.state, ⟨c.scan, windowAt rad c.left 0, windowAt rad c.right 0⟩⟩

/-- the triple describes the L0 configuration `c`; a window is licensed when its last colour is
    registered for its first `rad - 1` cells -/
def Covers (rad : Nat) (seen : List Config) (lspans rspans : Spans) (c : Cfg) : Prop :=
  viewOf rad c ∈ seen ∧
    ∀ k, 1 ≤ k → hasColor lspans (windowAt rad c.left k) = true ∧
      hasColor rspans (windowAt rad c.right k) = true

/-- the L0 event of a goal never happens on the run from the blank tape -/
def Goal.Never (g : Goal) (p : ProgF) : Prop :=
  match g with
  | .halt => ¬ Halts p
  | .blank => ¬ ∃ n, ErasesAt p n
  | .spinout => ¬ SpinsOut p

/-- every next-state and every printed colour of an instruction lies inside the table size that
    `Prog.params` infers from the defined keys alone (the hypothesis under which the unrepaired
    `halt_slots` is complete; finding F2). -/
def paramsCover (p : Prog) : Bool :=
  p.all fun kv => decide (kv.2.2.2 ≤ p.params.1) && decide (kv.2.1 ≤ p.params.2)

/-- the work-list order only permutes (or at least neither drops nor invents) configurations -/
def OrderOK (order : List Config → List Config) : Prop := ∀ l c, c ∈ order l ↔ c ∈ l

theorem cellsFrom_length (l : List Nat) (k n : Nat) : (cellsFrom l k n).length = n := by
  induction n generalizing k with
  | zero => rfl
  | succ n ih => simp [cellsFrom, ih]

theorem cellsFrom_tail (l : List Nat) (k n : Nat) : cellsFrom l.tail k n = cellsFrom l (k + 1) n := by
  induction n generalizing k with
  | zero => rfl
  | succ n ih => rw [cellsFrom, cellsFrom, ih, cellAt_tail]

theorem cellsFrom_succ_last (l : List Nat) (k n : Nat) :
    cellsFrom l k (n + 1) = cellsFrom l k n ++ [cellAt l (k + n)] := by
  induction n generalizing k with
  | zero => rfl
  | succ n ih => rw [cellsFrom, ih (k + 1), Nat.add_right_comm k 1 n]; rfl

theorem cellsFrom_nil (k n : Nat) : cellsFrom [] k n = List.replicate n 0 := by
  induction n generalizing k with
  | zero => rfl
  | succ n ih => rw [cellsFrom, ih, cellAt_nil, List.replicate_succ]

theorem cellsFrom_all_zero {l : List Nat} (h : AllZero l) (k n : Nat) :
    (cellsFrom l k n).all (· == 0) = true := by
  induction n generalizing k with
  | zero => rfl
  | succ n ih => simp [cellsFrom, h k, ih]

theorem windowAt_tail (rad : Nat) (l : List Nat) (k : Nat) :
    windowAt rad l.tail k = windowAt rad l (k + 1) := by
  rw [windowAt, windowAt, cellsFrom_tail, cellAt_tail, Nat.add_right_comm]

theorem windowAt_nil (rad k : Nat) : windowAt rad [] k = Span.init rad := by
  rw [windowAt, cellsFrom_nil, cellAt_nil]; rfl

theorem viewOf_init (rad : Nat) : viewOf rad Cfg.init = Config.init rad := by
  simp only [viewOf, Cfg.init, Config.init, Tape.init, windowAt_nil]

theorem allBlank_windowAt {rad : Nat} {l : List Nat} (h : AllZero l) (k : Nat) :
    (windowAt rad l k).allBlank = true := by
  simp [Span.allBlank, Span.blankSpan, windowAt, cellsFrom_all_zero h, h _]

theorem splitLast_spec (x : Nat) (ys : List Nat) :
    (splitLast x ys).1 ++ [(splitLast x ys).2] = x :: ys := by
  induction ys generalizing x with
  | nil => rfl
  | cons y ys ih => rw [splitLast, List.cons_append, ih y]

theorem push_windowAt (rad : Nat) (l : List Nat) (x : Nat) :
    (windowAt rad l 0).push x = windowAt rad (x :: l) 0 := by
  have h : x :: cellsFrom l 0 (rad - 1) =
      cellsFrom (x :: l) 0 (rad - 1) ++ [cellAt (x :: l) (0 + (rad - 1))] := by
    rw [← cellsFrom_succ_last]; exact congrArg _ (cellsFrom_tail (x :: l) 0 _)
  obtain ⟨h1, h2⟩ := List.append_inj' ((splitLast_spec x _).trans h) rfl
  rw [Span.push, windowAt, windowAt, h1, List.singleton_inj.1 h2]

theorem pull_windowAt (rad : Nat) (l : List Nat) :
    (windowAt rad l 0).pull = (cellAt l 0, ⟨cellsFrom l 1 (rad - 1), cellAt l (rad - 1)⟩) := by
  rw [windowAt, Nat.zero_add]
  cases rad - 1 with
  | zero => rfl
  | succ n => rw [cellsFrom_succ_last l 1 n, Nat.add_comm 1 n]; rfl

theorem mem_insertSorted (x y : Nat) (l : List Nat) : y ∈ insertSorted x l ↔ y = x ∨ y ∈ l := by
  induction l with
  | nil => simp [insertSorted]
  | cons z zs ih =>
    rw [insertSorted]
    split
    · exact List.mem_cons
    · rw [List.mem_cons, ih, List.mem_cons, or_left_comm]

theorem mem_sortNat (y : Nat) (l : List Nat) : y ∈ sortNat l ↔ y ∈ l := by
  induction l with
  | nil => rfl
  | cons z zs ih => rw [sortNat, mem_insertSorted, ih, List.mem_cons]

theorem hasColor_iff (m : Spans) (s : Span) :
    hasColor m s = true ↔ ∃ colors, m.find? s.span = some colors ∧ s.last ∈ colors := by
  unfold hasColor
  split <;> simp [*]

theorem mem_getColors {m : Spans} {t : Span} {colors : List Nat} (h : getColors m t = some colors)
    (x : Nat) : x ∈ colors ↔ hasColor m ⟨t.span, x⟩ = true := by
  unfold getColors at h
  split at h
  · rename_i cs hcs
    cases h
    simp [hasColor, hcs, mem_sortNat]
  · cases h

theorem addSpan_of_hasColor {m : Spans} {s : Span} (h : hasColor m s = true) : addSpan m s = m := by
  obtain ⟨colors, h1, h2⟩ := (hasColor_iff m s).1 h
  simp [addSpan, h1, h2]

theorem hasColor_addSpan {m : Spans} {s t : Span} (h : t = s ∨ hasColor m t = true) :
    hasColor (addSpan m s) t = true := by
  by_cases hs : hasColor m s = true
  · rw [addSpan_of_hasColor hs]
    rcases h with rfl | h
    · exact hs
    · exact h
  · -- otherwise `add_span` stores under `s.span` a list with `s.last` and all that was there
    have hins : ∀ cs, s.last ∈ cs → (∀ x, hasColor m ⟨s.span, x⟩ = true → x ∈ cs) →
        hasColor (m.insert s.span cs) t = true := by
      intro cs h1 h2
      rw [hasColor_iff, TMap.find?_insert]
      rcases h with rfl | h
      · exact ⟨cs, if_pos rfl, h1⟩
      · by_cases he : t.span = s.span
        · exact ⟨cs, if_pos he, h2 _ (by rw [← he]; exact h)⟩
        · rw [if_neg he]; exact (hasColor_iff m t).1 h
    unfold addSpan
    split
    · rename_i colors hc
      have hn : ¬ colors.contains s.last = true := fun hm =>
        hs ((hasColor_iff m s).2 ⟨colors, hc, by simpa using hm⟩)
      rw [if_neg hn]
      refine hins _ (by simp) fun x hx => ?_
      simp only [hasColor, hc] at hx
      simp [List.contains_iff_mem.1 hx]
    · rename_i hc
      refine hins _ (by simp) fun x hx => ?_
      simp [hasColor, hc] at hx

/-- what `checkConfig` asks of a configuration in state `st` whose instruction prints `pr`, moves
    in direction `sh` and goes to `nx`; `push` / `pull` are the spans behind / ahead of the head and
    `pushM` / `pullM` the span maps of their sides -/
def StepOK (goal : Goal) (seen : List Config) (pushM pullM : Spans) (push pull : Span)
    (st pr : Nat) (sh : Bool) (nx : Nat) : Prop :=
  hasColor pushM push = true ∧
    ∃ colors, getColors pullM pull.pull.2 = some colors ∧
      goalTest goal colors pull.pull.1 pull.pull.2 (push.push pr) st nx = false ∧
      ∀ color ∈ colors, mkNext nx pull.pull.1 (push.push pr) pull.pull.2 sh color ∈ seen

/-- `checkConfig` as a proposition, with `seen` in place of its membership index -/
def ConfigOK (p : Prog) (goal : Goal) (seen : List Config) (ls rs : Spans) (c : Config) : Prop :=
  match p.get (c.state, c.tape.scan) with
  | none => goal ≠ .halt
  | some (pr, sh, nx) =>
    StepOK goal seen (if sh then ls else rs) (if sh then rs else ls)
      (if sh then c.tape.lspan else c.tape.rspan) (if sh then c.tape.rspan else c.tape.lspan)
      c.state pr sh nx

theorem configOK_none {p : Prog} {goal : Goal} {seen : List Config} {ls rs : Spans} {c : Config}
    (hi : p.get (c.state, c.tape.scan) = none) : ConfigOK p goal seen ls rs c ↔ goal ≠ .halt := by
  rw [ConfigOK, hi]

theorem configOK_some {p : Prog} {goal : Goal} {seen : List Config} {ls rs : Spans} {c : Config}
    {pr : Nat} {sh : Bool} {nx : Nat} (hi : p.get (c.state, c.tape.scan) = some (pr, sh, nx)) :
    ConfigOK p goal seen ls rs c ↔
      StepOK goal seen (if sh then ls else rs) (if sh then rs else ls)
        (if sh then c.tape.lspan else c.tape.rspan) (if sh then c.tape.rspan else c.tape.lspan)
        c.state pr sh nx := by
  rw [ConfigOK, hi]

theorem checkConfig_none_iff {p : Prog} {goal : Goal} {idx : TMap Unit} {seen : List Config}
    (hidx : ∀ c : Config, idx.contains c.key = true ↔ c ∈ seen) (ls rs : Spans) (c : Config) :
    checkConfig p goal idx ls rs c = none ↔ ConfigOK p goal seen ls rs c := by
  cases hi : p.get (c.state, c.tape.scan) with
  | none =>
    rw [configOK_none hi]
    simp only [checkConfig, hi]
    cases goal <;> simp
  | some ins =>
    obtain ⟨pr, sh, nx⟩ := ins
    rw [configOK_some hi]
    simp only [checkConfig, hi, StepOK]
    generalize (if sh = true then c.tape.rspan else c.tape.lspan).pull = pl
    generalize (if sh = true then c.tape.lspan else c.tape.rspan).push pr = ps
    generalize hasColor _ _ = b
    cases b with
    | false => simp
    | true =>
      generalize getColors _ _ = gc
      cases gc with
      | none => simp
      | some colors =>
        simp only [Bool.not_true, Bool.false_eq_true, if_false, true_and, Option.some.injEq,
          exists_eq_left']
        generalize goalTest _ _ _ _ _ _ _ = g
        cases g with
        | true => simp
        | false => simp [List.all_eq_true, hidx]

/-- the closure conditions of `closedCheck` -/
structure Closed (p : Prog) (goal : Goal) (rad : Nat) (seen : List Config) (ls rs : Spans) :
    Prop where
  init : Config.init rad ∈ seen
  initL : hasColor ls (Span.init rad) = true
  initR : hasColor rs (Span.init rad) = true
  all : ∀ c ∈ seen, ConfigOK p goal seen ls rs c

theorem contains_insert_key (m : TMap Unit) (x c : Config) :
    (m.insert x.key ()).contains c.key = true ↔ c = x ∨ m.contains c.key = true := by
  rw [TMap.contains, TMap.find?_insert]
  by_cases hk : c.key = x.key
  · simp [Config.key_inj _ _ hk]
  · have : c ≠ x := fun e => hk (congrArg _ e)
    simp [hk, this, TMap.contains]

/-- the index `closedCheck` builds is the membership test of `seen` -/
theorem foldl_index_contains (seen : List Config) (m : TMap Unit) (c : Config) :
    (seen.foldl (fun m c => m.insert c.key ()) m).contains c.key = true ↔
      c ∈ seen ∨ m.contains c.key = true := by
  induction seen generalizing m with
  | nil => simp
  | cons x xs ih => rw [List.foldl_cons, ih, contains_insert_key, List.mem_cons, or_left_comm, or_assoc]

theorem checkAll_none_iff (p : Prog) (goal : Goal) (idx : TMap Unit) (ls rs : Spans)
    (l : List Config) :
    checkAll p goal idx ls rs l = none ↔ ∀ c ∈ l, checkConfig p goal idx ls rs c = none := by
  induction l with
  | nil => simp [checkAll]
  | cons x xs ih =>
    rw [checkAll, List.forall_mem_cons]
    cases checkConfig p goal idx ls rs x with
    | none => simpa using ih
    | some e => simp

theorem closedCheck_none_iff (p : Prog) (goal : Goal) (rad : Nat) (seen : List Config)
    (ls rs : Spans) :
    closedCheck p goal rad seen ls rs = none ↔ Closed p goal rad seen ls rs := by
  have hidx : ∀ c : Config,
      (seen.foldl (fun m c => m.insert c.key ()) ({} : TMap Unit)).contains c.key = true ↔
        c ∈ seen := fun c => by
    rw [foldl_index_contains]; simp [TMap.contains, TMap.find?_empty]
  unfold closedCheck
  constructor
  · intro h
    simp only at h
    split at h
    · cases h
    · rename_i h1
      split at h
      · cases h
      · rename_i h2
        simp only [Bool.not_eq_true, Bool.not_eq_false', Bool.and_eq_true] at h1 h2
        exact ⟨(hidx _).1 h1, h2.1, h2.2, fun c hc =>
          (checkConfig_none_iff hidx ls rs c).1 ((checkAll_none_iff ..).1 h c hc)⟩
  · rintro ⟨h1, h2, h3, h4⟩
    have h2' : hasColor ls (Config.init rad).tape.lspan = true := h2
    have h3' : hasColor rs (Config.init rad).tape.rspan = true := h3
    simp only [(hidx _).2 h1, h2', h3', Bool.not_true, Bool.and_self, Bool.false_eq_true, if_false]
    exact (checkAll_none_iff ..).2 fun c hc => (checkConfig_none_iff hidx ls rs c).2 (h4 c hc)

theorem viewOf_pull (rad : Nat) (c : Cfg) (sh : Bool) :
    (if sh then (viewOf rad c).tape.rspan else (viewOf rad c).tape.lspan) =
      windowAt rad (c.ahead sh) 0 := by cases sh <;> rfl

theorem viewOf_push (rad : Nat) (c : Cfg) (sh : Bool) :
    (if sh then (viewOf rad c).tape.lspan else (viewOf rad c).tape.rspan) =
      windowAt rad (c.behind sh) 0 := by cases sh <;> rfl

/-- the successor `checkConfig` builds for the colour that really lies beyond the pulled window
    is the view of the next configuration -/
theorem viewOf_move (rad : Nat) (c : Cfg) (pr : Nat) (sh : Bool) (q : Nat) :
    viewOf rad (c.move pr sh q) =
      mkNext q (windowAt rad (c.ahead sh) 0).pull.1 ((windowAt rad (c.behind sh) 0).push pr)
        (windowAt rad (c.ahead sh) 0).pull.2 sh (cellAt (c.ahead sh) (1 + (rad - 1))) := by
  rw [push_windowAt, pull_windowAt]
  cases sh <;>
    simp only [viewOf, Cfg.move, mkNext, Tape.fromSpans, Cfg.ahead, Cfg.behind, if_true,
      Bool.false_eq_true, if_false, cellAt_headD, windowAt_tail] <;> rfl

theorem covers_iff (rad : Nat) (seen : List Config) (ls rs : Spans) (c : Cfg) (sh : Bool) :
    Covers rad seen ls rs c ↔ viewOf rad c ∈ seen ∧
      (∀ k, 1 ≤ k → hasColor (if sh then ls else rs) (windowAt rad (c.behind sh) k) = true) ∧
      (∀ k, 1 ≤ k → hasColor (if sh then rs else ls) (windowAt rad (c.ahead sh) k) = true) := by
  cases sh
  · exact ⟨fun ⟨a, b⟩ => ⟨a, fun k hk => (b k hk).2, fun k hk => (b k hk).1⟩,
      fun ⟨a, b, d⟩ => ⟨a, fun k hk => ⟨d k hk, b k hk⟩⟩⟩
  · exact ⟨fun ⟨a, b⟩ => ⟨a, fun k hk => (b k hk).1, fun k hk => (b k hk).2⟩,
      fun ⟨a, b, d⟩ => ⟨a, fun k hk => ⟨b k hk, d k hk⟩⟩⟩

theorem covers_init {p : Prog} {goal : Goal} {rad : Nat} {seen : List Config} {ls rs : Spans}
    (hcl : Closed p goal rad seen ls rs) : Covers rad seen ls rs Cfg.init := by
  refine ⟨by rw [viewOf_init]; exact hcl.init, fun k _ => ?_⟩
  simp only [Cfg.init, windowAt_nil]
  exact ⟨hcl.initL, hcl.initR⟩

theorem covers_step {p : Prog} {goal : Goal} {rad : Nat} {seen : List Config} {ls rs : Spans}
    (hcl : Closed p goal rad seen ls rs) {c : Cfg} (hc : Covers rad seen ls rs c)
    {pr : Nat} {sh : Bool} {q : Nat} (hi : p.get (c.state, c.scan) = some (pr, sh, q)) :
    Covers rad seen ls rs (c.move pr sh q) ∧
    ∃ colors, cellAt (c.ahead sh) (1 + (rad - 1)) ∈ colors ∧
      goalTest goal colors (cellAt (c.ahead sh) 0) (windowAt rad (c.ahead sh) 0).pull.2
        (windowAt rad (pr :: c.behind sh) 0) c.state q = false := by
  obtain ⟨hv, hpushs, hpulls⟩ := (covers_iff rad seen ls rs c sh).1 hc
  obtain ⟨hpush, colors, hgc, hgoal, hall⟩ :=
    (configOK_some (c := viewOf rad c) hi).1 (hcl.all _ hv)
  rw [viewOf_pull] at hgc hgoal hall
  rw [viewOf_push] at hpush hgoal hall
  have hmem : cellAt (c.ahead sh) (1 + (rad - 1)) ∈ colors :=
    (mem_getColors hgc _).2 (by rw [pull_windowAt]; exact hpulls 1 (Nat.le_refl 1))
  refine ⟨(covers_iff rad seen ls rs _ sh).2 ⟨?_, fun k hk => ?_, fun k hk => ?_⟩, colors, hmem, ?_⟩
  · rw [viewOf_move]; exact hall _ hmem
  · rw [Cfg.behind_move]
    obtain ⟨j, rfl⟩ := Nat.exists_eq_add_one_of_ne_zero (Nat.ne_of_gt hk)
    rw [← windowAt_tail, List.tail_cons]
    cases j with
    | zero => exact hpush
    | succ j => exact hpushs _ (Nat.succ_le_succ (Nat.zero_le j))
  · rw [Cfg.ahead_move, windowAt_tail]
    exact hpulls _ (Nat.le_succ_of_le hk)
  · rw [push_windowAt, pull_windowAt] at hgoal
    rw [pull_windowAt]
    exact hgoal

theorem covers_run {p : Prog} {goal : Goal} {rad : Nat} {seen : List Config} {ls rs : Spans}
    (hcl : Closed p goal rad seen ls rs) : ∀ n c, RunAt p.toF n c → Covers rad seen ls rs c :=
  run_invariant (covers_init hcl) fun _ _ _ _ hc hi => (covers_step hcl hc hi).1

theorem allZero_tail {l : List Nat} (h : AllZero l) : AllZero l.tail := h.tail

theorem goalTest_of_allZero {rad : Nat} {l : List Nat} (hz : AllZero l) {colors : List Nat}
    (hmem : cellAt l (1 + (rad - 1)) ∈ colors) (goal : Goal) (push : Span) (st nx : Nat) :
    goalTest goal colors (cellAt l 0) (windowAt rad l 0).pull.2 push st nx =
      match goal with
      | .halt => false
      | .blank => push.allBlank
      | .spinout => st == nx := by
  rw [hz] at hmem
  have hb : (windowAt rad l 0).pull.2.blankSpan = true := by
    rw [pull_windowAt]; exact cellsFrom_all_zero hz 1 _
  unfold goalTest
  rw [List.contains_iff_mem.2 hmem, hz 0, hb]
  cases goal <;> rfl

theorem no_blank_step_of_closed {p : Prog} {rad : Nat} {seen : List Config} {ls rs : Spans}
    (hcl : Closed p .blank rad seen ls rs) {n : Nat} {c c' : Cfg} (hrun : RunAt p.toF n c)
    (hstep : step1 p.toF c = some c') : ¬ c'.Blank := by
  intro hb
  obtain ⟨pr, sh, q, hi, rfl⟩ := step1_eq_some hstep
  obtain ⟨_, colors, hmem, hgoal⟩ := covers_step hcl (covers_run hcl n c hrun) hi
  obtain ⟨hpush, hpull⟩ := Cfg.blank_move hb
  rw [goalTest_of_allZero hpull hmem, allBlank_windowAt hpush] at hgoal
  cases hgoal

theorem no_blankAfter_of_closed {p : Prog} {rad : Nat} {seen : List Config} {ls rs : Spans}
    (hcl : Closed p .blank rad seen ls rs) : ¬ ∃ n q, BlankAfter p.toF n q := by
  rintro ⟨n, q, hpos, c', hrun, _, hb⟩
  obtain ⟨m, rfl⟩ := Nat.exists_eq_add_one_of_ne_zero (Nat.ne_of_gt hpos)
  obtain ⟨c, hc, hs⟩ := runAt_succ.1 hrun
  exact no_blank_step_of_closed hcl hc hs hb

theorem never_of_closed {p : Prog} {goal : Goal} {rad : Nat} {seen : List Config} {ls rs : Spans}
    (hcl : Closed p goal rad seen ls rs) : goal.Never p.toF := by
  cases goal with
  | halt =>
    rintro ⟨n, q, s, c, hrun, rfl, rfl, hnone⟩
    exact (configOK_none (c := viewOf rad c) hnone).1 (hcl.all _ (covers_run hcl n c hrun).1) rfl
  | blank =>
    rintro ⟨n, c, c', hrun, _, hstep, hb⟩
    exact no_blank_step_of_closed hcl hrun hstep hb
  | spinout =>
    rintro ⟨n, c, hrun, hs, pr, sh, hi, hz⟩
    have hi' : p.get (c.state, c.scan) = some (pr, sh, c.state) := by rw [hs]; exact hi
    obtain ⟨_, colors, hmem, hgoal⟩ := covers_step hcl (covers_run hcl n c hrun) hi'
    rw [goalTest_of_allZero (l := c.ahead sh) hz hmem] at hgoal
    simp at hgoal

end BB.Cps
