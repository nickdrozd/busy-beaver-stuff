/-
C05 — segment analysis.  Tapes of a window of `seg` positions (`Good`): at position 0 and at
position `seg - 1` the head is outside the window, on the left and on the right; the `seg - 2`
cells lie in between.
-/
import BB.Lemmas.SegRunOrbit

namespace BB.Segment

open BB

theorem Tape.side_none {t : Tape} (hs : t.scan = none) :
    Tape.side t = some (Span.isEmpty t.rspan) := by
  unfold Tape.side
  rw [hs]

theorem Span.eq_nil_of_len {s : Span} (hp : Span.Pos s) (h : Span.len s = 0) : s = [] :=
  (Span.isEmpty_iff hp).1 (by unfold Span.isEmpty; rw [h]; rfl)

theorem good_edge_right {seg : Nat} {t : Tape} (hseg : 4 ≤ seg) (hg : Good seg t)
    (hs : t.scan = none) (hr : t.rspan = []) :
    Span.len t.lspan = seg - 2 ∧ t.lspan ≠ [] ∧ Tape.pos t = seg - 1 ∧
      Tape.side t = some true := by
  have hc : Span.len t.lspan = seg - 2 := by
    have := hg.2
    rwa [Tape.cells_none hs, hr, Span.len_nil, Nat.add_zero] at this
  refine ⟨hc, ?_, ?_, ?_⟩
  · intro h; rw [h, Span.len_nil] at hc; omega
  · rw [Tape.pos_eq _ (Or.inr (by omega)), hc]; omega
  · rw [Tape.side_none hs, hr]; rfl

theorem good_edge_left {seg : Nat} {t : Tape} (hseg : 4 ≤ seg) (hg : Good seg t)
    (hs : t.scan = none) (hl : t.lspan = []) :
    Span.len t.rspan = seg - 2 ∧ t.rspan ≠ [] ∧ Tape.pos t = 0 ∧ Tape.side t = some false := by
  have hc : Span.len t.rspan = seg - 2 := by
    have := hg.2
    rwa [Tape.cells_none hs, hl, Span.len_nil, Nat.zero_add] at this
  have hne : t.rspan ≠ [] := by
    intro h; rw [h, Span.len_nil] at hc; omega
  refine ⟨hc, hne, ?_, ?_⟩
  · unfold Tape.pos; rw [hs, hl]; rfl
  · rw [Tape.side_none hs, Span.isEmpty_of_ne hg.1.rpos hne]

theorem Good.pos_cases {seg : Nat} {t : Tape} (hseg : 4 ≤ seg) (hg : Good seg t) :
    (t.scan = none ∧ Tape.pos t = 0) ∨ (t.scan = none ∧ Tape.pos t = seg - 1) ∨
    (∃ s, t.scan = some s ∧ 0 < Tape.pos t ∧ Tape.pos t < seg - 1) := by
  cases hs : t.scan with
  | none =>
    rcases hg.1.edge hs with hl | hr
    · exact Or.inl ⟨rfl, (good_edge_left hseg hg hs hl).2.2.1⟩
    · exact Or.inr (Or.inl ⟨rfl, (good_edge_right hseg hg hs hr).2.2.1⟩)
  | some s =>
    have hc := hg.2
    rw [Tape.cells_some hs] at hc
    refine Or.inr (Or.inr ⟨s, rfl, ?_⟩)
    rw [Tape.pos_some hs]
    omega

theorem Good.pos_lt {seg : Nat} {t : Tape} (hseg : 4 ≤ seg) (hg : Good seg t) :
    Tape.pos t < seg := by
  have h0 : 0 < seg := Nat.lt_of_lt_of_le (by decide) hseg
  rcases hg.pos_cases hseg with ⟨-, h⟩ | ⟨-, h⟩ | ⟨s, -, -, h⟩
  · rw [h]; exact h0
  · rw [h]; exact Nat.sub_lt h0 Nat.one_pos
  · exact Nat.lt_of_lt_of_le h (Nat.sub_le _ _)

theorem Tape.stepIn_good {seg : Nat} {t t' : Tape} {shift : Bool} (hg : Good seg t)
    (h : Tape.stepIn t shift = some t') : Good seg t' ∧ Tape.blank t' = Tape.blank t :=
  have ⟨h1, h2, h3⟩ := Tape.stepIn_spec hg.1 h
  ⟨⟨h1, h3.trans hg.2⟩, h2⟩

theorem stepIn_pos_lt {seg : Nat} (hseg : 4 ≤ seg) {t nt : Tape} {sh : Bool} (hg : Good seg t)
    (h : Tape.stepIn t sh = some nt) : Tape.pos nt < seg - 1 := by
  have hsome : nt.scan ≠ none := by
    obtain ⟨-, x, s', ⟨-, rfl⟩ | ⟨-, rfl⟩⟩ := Tape.stepIn_cases h <;> exact nofun
  rcases (Tape.stepIn_good hg h).1.pos_cases hseg with ⟨hs, -⟩ | ⟨hs, -⟩ | ⟨s, -, -, hlt⟩
  · exact absurd hs hsome
  · exact absurd hs hsome
  · exact hlt

theorem stepIn_left {t : Tape} (hwf : t.WF) (hs : t.scan = none) (hr : t.rspan = [])
    (hl : t.lspan ≠ []) :
    ∃ x l', Tape.stepIn t false = some ⟨some x, l', []⟩ ∧
      Span.unroll t.lspan = x :: Span.unroll l' ∧ Span.len t.lspan = Span.len l' + 1 := by
  obtain ⟨x, l', h1, h2, _, h4⟩ := Span.take_spec hwf.lpos hl
  refine ⟨x, l', ?_, h2, h4⟩
  unfold Tape.stepIn
  rw [Tape.side_none hs, hr, h1]
  rfl

theorem stepIn_right {t : Tape} (hwf : t.WF) (hs : t.scan = none) (hl : t.lspan = [])
    (hr : t.rspan ≠ []) :
    ∃ x r', Tape.stepIn t true = some ⟨some x, [], r'⟩ ∧
      Span.unroll t.rspan = x :: Span.unroll r' ∧ Span.len t.rspan = Span.len r' + 1 := by
  obtain ⟨x, r', h1, h2, _, h4⟩ := Span.take_spec hwf.rpos hr
  refine ⟨x, r', ?_, h2, h4⟩
  unfold Tape.stepIn
  rw [Tape.side_none hs, Span.isEmpty_of_ne hwf.rpos hr, h1, hl]
  rfl

end BB.Segment
