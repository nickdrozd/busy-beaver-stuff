/-
C16 — what history-independence (`HistIndep`) gives for whole query sequences: a legal sequence
is answered as the stateless reference answers it, so answers depend neither on order nor on
repetition, and the run returns when the reference never errs.  A macro object over a
history-independent program is again history-independent (`macro_histIndep`); programs whose
answers ignore their state are the base case.  Two objects side by side (`getInstrsTwo_*`).
-/
import BB.Lemmas.MacroHistStep

namespace BB.Macros

/-- Boolean form of `MLS` -/
def mlsB {σ : Type} (ls : σ → Nat → Bool) (m : MacroProg σ) (q : Nat) : Bool :=
  match m.logic.params.kind with
  | .block => ls m.prog (q / 2)
  | .backsymbol =>
    handedOut m (q / 2 % m.logic.params.backsymbols) &&
      ls m.prog (q / 2 / m.logic.params.backsymbols)

/-- Boolean form of `MLC` -/
def mlcB {σ : Type} (lc : σ → Nat → Bool) (m : MacroProg σ) (c : Nat) : Bool :=
  match m.logic.params.kind with
  | .block => handedOut m c
  | .backsymbol => lc m.prog c

/-- Legality of a query to a macro over a macro over a base table: every colour that the outer
    or the inner object will look up on account of the slot itself was handed out by that
    object, and a colour that ends up on the base tape is a base colour. -/
def slotLegal2 (m : MacroProg (MacroProg Prog)) (slot : Slot) : Bool :=
  mlsB (mlsB fun _ _ => true) m slot.1 &&
    mlcB (mlcB fun _ c => decide (c < m.prog.logic.params.baseColors)) m slot.2

/-- Two programs side by side; a query names the one it goes to (`false` = the first).
    Models two `MacroProg` values alive at the same time: they share nothing. -/
def getInstrsTwo {σ τ : Type} (g1 : GetFn σ) (g2 : GetFn τ) :
    σ × τ → List (Bool × Slot) → Res (List (Option Instr) × (σ × τ))
  | st, [] => .ok ([], st)
  | (a, b), (false, s) :: rest =>
    match g1 a s with
    | .error e => .error e
    | .ok (x, a') =>
      match getInstrsTwo g1 g2 (a', b) rest with
      | .error e => .error e
      | .ok (xs, st) => .ok (x :: xs, st)
  | (a, b), (true, s) :: rest =>
    match g2 b s with
    | .error e => .error e
    | .ok (x, b') =>
      match getInstrsTwo g1 g2 (a, b') rest with
      | .error e => .error e
      | .ok (xs, st) => .ok (x :: xs, st)

/-- the slots addressed to one of the two programs, in order -/
def slotsOf (tag : Bool) : List (Bool × Slot) → List Slot
  | [] => []
  | (t, s) :: rest => if t == tag then s :: slotsOf tag rest else slotsOf tag rest

/-- the answers given by one of the two programs, in order -/
def pickAnswers (tag : Bool) : List (Bool × Slot) → List (Option Instr) → List (Option Instr)
  | (t, _) :: rest, a :: as => if t == tag then a :: pickAnswers tag rest as else pickAnswers tag rest as
  | _, _ => []

/-- `as` are the answers of the stateless program `f` to the slots `qs`, none of them an error -/
def AnswersAre (f : Slot → Res (Option Instr)) : List Slot → List (Option Instr) → Prop
  | [], [] => True
  | s :: qs, a :: as => f s = .ok a ∧ AnswersAre f qs as
  | _, _ => False

/-- a fresh macro object with parameters `lp` over the inner program (state) `st`:
    `make_block_macro(st, (lp.baseStates, lp.baseColors), lp.cells)` resp.
    `make_backsymbol_macro(..)`. -/
def freshMacro {σ : Type} (st : σ) (lp : LogicParams) : MacroProg σ :=
  MacroProg.new st (Logic.new lp.kind lp.cells (lp.baseStates, lp.baseColors))

theorem freshMacro_block {σ : Type} (st : σ) (params : Nat × Nat) (k : Nat) :
    makeBlockMacro st params k = freshMacro st ⟨.block, k, params.1, params.2⟩ := rfl

theorem freshMacro_backsymbol {σ : Type} (st : σ) (params : Nat × Nat) (k : Nat) :
    makeBacksymbolMacro st params k = freshMacro st ⟨.backsymbol, k, params.1, params.2⟩ := rfl

/-- `fixF3` is on if the macro is a backsymbol macro -/
def fixOk (lp : LogicParams) (fixF3 : Bool) : Bool :=
  match lp.kind with
  | .block => true
  | .backsymbol => fixF3

theorem fixOk_imp {lp : LogicParams} {fixF3 : Bool} (h : fixOk lp fixF3 = true) :
    lp.kind = .backsymbol → fixF3 = true := by
  intro hk; simpa only [fixOk, hk] using h

theorem answers_of_agree {σ : Type} {r : Res (List (Option Instr) × σ)}
    {e : Res (List (Option Instr) × Unit)} {Q : List (Option Instr) → σ → Prop}
    (h : Agree r e Q) : answers r = answers e := by
  cases e with
  | error err => rw [show r = .error err from h]; rfl
  | ok x =>
    obtain ⟨as, u⟩ := x
    obtain ⟨st', h1, _⟩ := h
    rw [h1]; rfl

theorem exists_ok_of_toBool {α β : Type} {r : Res (α × β)} (h : r.toBool = true) :
    ∃ a b, r = .ok (a, b) := by
  cases r with
  | error e => cases h
  | ok x => exact ⟨x.1, x.2, rfl⟩

theorem getInstrs_cons_ok {σ : Type} {get : GetFn σ} {st st'' : σ} {s : Slot} {rest : List Slot}
    {as : List (Option Instr)} (h : getInstrs get st (s :: rest) = .ok (as, st'')) :
    ∃ a st' as', get st s = .ok (a, st') ∧ getInstrs get st' rest = .ok (as', st'') ∧
      as = a :: as' := by
  simp only [getInstrs] at h
  split at h
  · cases h
  · next a st' hg =>
    split at h
    · cases h
    · next as' st2 hr => cases h; exact ⟨a, st', as', hg, hr, rfl⟩

theorem answersAre_of_pure (f : Slot → Res (Option Instr)) :
    ∀ (qs : List Slot) {as : List (Option Instr)} {u : Unit},
      getInstrs (pureGet f) () qs = .ok (as, u) → AnswersAre f qs as := by
  intro qs
  induction qs with
  | nil => intro as u h; cases h; trivial
  | cons s rest ih =>
    intro as u h
    obtain ⟨a, u', as', hg, hr, rfl⟩ := getInstrs_cons_ok h
    exact ⟨pureGet_ok hg, ih hr⟩

theorem getInstrs_pureGet_ok (f : Slot → Res (Option Instr)) (hf : ∀ s, ∃ a, f s = .ok a) :
    ∀ qs : List Slot, ∃ as, getInstrs (pureGet f) () qs = .ok (as, ()) := by
  intro qs
  induction qs with
  | nil => exact ⟨[], rfl⟩
  | cons s rest ih =>
    obtain ⟨a, ha⟩ := hf s
    obtain ⟨as, has⟩ := ih
    exact ⟨a :: as, by simp only [getInstrs, pureGet, ha, has]⟩

theorem AnswersAre.getElem? {f : Slot → Res (Option Instr)} :
    ∀ {qs : List Slot} {as : List (Option Instr)}, AnswersAre f qs as →
      ∀ (i : Nat) (s : Slot), qs[i]? = some s → ∃ a, as[i]? = some a ∧ f s = .ok a := by
  intro qs
  induction qs with
  | nil => intro as _ i s h; cases h
  | cons q rest ih =>
    intro as h i s hi
    cases as with
    | nil => exact h.elim
    | cons a as =>
      cases i with
      | zero => cases hi; exact ⟨a, rfl, h.1⟩
      | succ i => exact ih h.2 i s hi

theorem AnswersAre.length {f : Slot → Res (Option Instr)} :
    ∀ {qs : List Slot} {as : List (Option Instr)}, AnswersAre f qs as → as.length = qs.length := by
  intro qs
  induction qs with
  | nil => intro as h; cases as with
    | nil => rfl
    | cons a as => exact h.elim
  | cons q rest ih =>
    intro as h
    cases as with
    | nil => exact h.elim
    | cons a as => simp only [List.length_cons, ih h.2]

theorem AnswersAre.same_slot {f : Slot → Res (Option Instr)} {qs1 qs2 : List Slot}
    {as1 as2 : List (Option Instr)} (h1 : AnswersAre f qs1 as1) (h2 : AnswersAre f qs2 as2)
    {i j : Nat} {s : Slot} (hi : qs1[i]? = some s) (hj : qs2[j]? = some s) :
    ∃ a, as1[i]? = some a ∧ as2[j]? = some a ∧ f s = .ok a := by
  obtain ⟨a1, e1, f1⟩ := h1.getElem? i s hi
  obtain ⟨a2, e2, f2⟩ := h2.getElem? j s hj
  rw [f1] at f2
  cases f2
  exact ⟨a1, e1, e2, f1⟩

section Seq

variable {σ : Type} {get : GetFn σ} {f : Slot → Res (Option Instr)}
  {IInv : σ → Prop} {LS LC : σ → Nat → Prop} (H : HistIndep get f IInv LS LC)
  {legal : σ → Slot → Bool}
  (hleg : ∀ st s, IInv st → legal st s = true → LS st s.1 ∧ LC st s.2)
include H hleg

theorem HistIndep.getInstrs_pure :
    ∀ (qs : List Slot) (st : σ), IInv st → legalSeq get legal st qs = true →
      Agree (getInstrs get st qs) (getInstrs (pureGet f) () qs)
        (fun _ st' => IInv st' ∧ Mono LS LC st st') := by
  intro qs
  induction qs with
  | nil => intro st hi _; exact Agree.ok st rfl ⟨hi, Mono.refl ..⟩
  | cons s rest ih =>
    intro st hi hl
    simp only [legalSeq, Bool.and_eq_true] at hl
    obtain ⟨hq, hc⟩ := hleg st s hi hl.1
    have hstep : Agree (get st s) (pureGet f () s) _ := H.step st s.1 s.2 hi hq hc
    have hl2 := hl.2
    simp only [getInstrs]
    cases hp : pureGet f () s with
    | error e =>
      rw [hp] at hstep
      rw [show get st s = .error e from hstep]
      exact Agree.error rfl
    | ok r =>
      obtain ⟨a, ⟨⟩⟩ := r
      rw [hp] at hstep
      obtain ⟨st', hg, hi', hmono, _⟩ := hstep
      rw [hg] at hl2 ⊢
      simp only at hl2 ⊢
      have hrest := ih st' hi' hl2
      cases hr : getInstrs (pureGet f) () rest with
      | error e =>
        rw [hr] at hrest
        rw [show getInstrs get st' rest = .error e from hrest]
        exact Agree.error rfl
      | ok r2 =>
        obtain ⟨as, u2⟩ := r2
        rw [hr] at hrest
        obtain ⟨st'', h1, hi'', hmono'⟩ := hrest
        rw [h1]
        exact Agree.ok st'' rfl ⟨hi'', hmono.trans hmono'⟩

theorem HistIndep.answers_eq {st : σ} (hI : IInv st) (qs : List Slot)
    (hl : legalSeq get legal st qs = true) :
    answers (getInstrs get st qs) = pureAnswers f qs :=
  answers_of_agree (H.getInstrs_pure hleg qs st hI hl)

theorem HistIndep.answersAre {st : σ} (hI : IInv st) {qs : List Slot}
    (hl : legalSeq get legal st qs = true) {as : List (Option Instr)} {st' : σ}
    (hrun : getInstrs get st qs = .ok (as, st')) : IInv st' ∧ AnswersAre f qs as := by
  obtain ⟨u, hpure, hI', _⟩ := (H.getInstrs_pure hleg qs st hI hl).of_ok hrun
  exact ⟨hI', answersAre_of_pure f qs hpure⟩

theorem HistIndep.total (hf : ∀ s, ∃ a, f s = .ok a) {st : σ} (hI : IInv st) (qs : List Slot)
    (hl : legalSeq get legal st qs = true) :
    ∃ as st', getInstrs get st qs = .ok (as, st') ∧ IInv st' ∧ AnswersAre f qs as := by
  obtain ⟨as, has⟩ := getInstrs_pureGet_ok f hf qs
  have h := H.getInstrs_pure hleg qs st hI hl
  rw [has] at h
  obtain ⟨st', h1, _⟩ := h
  exact ⟨as, st', h1, H.answersAre hleg hI hl h1⟩

end Seq

section Lift

variable {σ : Type} {get : GetFn σ} {f : Slot → Res (Option Instr)}
  {IInv : σ → Prop} {LS LC : σ → Nat → Prop} {lp : LogicParams} {fixF3 : Bool}

theorem macro_zero (H : HistIndep get f IInv LS LC) (m : MacroProg σ)
    (hI : MInv f lp fixF3 IInv LS LC m) : MLS LS m 0 ∧ MLC LC m 0 := by
  obtain ⟨hs0, hc0⟩ := H.zero m.prog hI.inner
  have hh : handedOut m 0 = true := by
    simp only [handedOut, hI.cache.zero, Option.isSome_some]
  unfold MLS MLC
  constructor
  · split
    · exact hs0
    · simp only [Nat.zero_div, Nat.zero_mod]; exact ⟨hh, hs0⟩
  · split
    · exact hh
    · exact hc0

theorem macro_histIndep (H : HistIndep get f IInv LS LC)
    (hbound : ∀ st c, IInv st → LC st c → c < lp.baseColors) (hb : 0 < lp.baseColors)
    (hfix : lp.kind = .backsymbol → fixF3 = true) :
    HistIndep (macroGet get fixF3) (pureInstr f lp fixF3) (MInv f lp fixF3 IInv LS LC)
      (MLS LS) (MLC LC) :=
  ⟨fun m hI => macro_zero H m hI,
   fun _ q c hI hq hc => (macro_step H hbound hb hfix hI q c hq hc).imp
     fun _ _ ⟨h1, h2, h3⟩ => ⟨h1, h2.mono, h3⟩⟩

theorem macro_bound (hbound : ∀ st c, IInv st → LC st c → c < lp.baseColors)
    (m : MacroProg σ) (c : Nat) (hI : MInv f lp fixF3 IInv LS LC m) (hc : MLC LC m c) :
    c < lp.macroColors := by
  unfold MLC at hc
  rw [hI.params] at hc
  unfold LogicParams.macroColors
  split at hc
  · next hk =>
    obtain ⟨t, ht⟩ := (handedOut_iff m c).1 hc
    simp only [hk]
    exact (hI.cache.decode ht).2
  · next hk =>
    simp only [hk]
    exact hbound _ c hI.inner hc

theorem MInv.init (lp : LogicParams) (st : σ) (hi : IInv st) (h0 : LC st 0)
    (hb : 0 < lp.baseColors) : MInv f lp fixF3 IInv LS LC (freshMacro st lp) := by
  refine ⟨rfl, hi, CacheInv.new _ _ hb, ?_, ?_⟩
  · intro c t h x hx
    simp only [freshMacro, MacroProg.new, Logic.new, TapeColorConverter.new, ColorToTape.get] at h
    split at h
    · cases h; rw [List.eq_of_mem_replicate hx]; exact h0
    · cases h
  · intro slot instr h
    cases h

end Lift

theorem histIndep_of_stateless {σ : Type} (get : GetFn σ) (f : Slot → Res (Option Instr))
    (IInv : σ → Prop) (LC : Nat → Prop) (h0 : LC 0)
    (hcol : ∀ s pr sh nx, f s = .ok (some (pr, sh, nx)) → LC pr)
    (hpure : ∀ st s, IInv st → Agree (get st s) (pureGet f () s) (fun _ st' => IInv st')) :
    HistIndep get f IInv TrueLeg (fun _ => LC) := by
  refine ⟨fun _ _ => ⟨trivial, h0⟩, fun st q c hi _ _ => ?_⟩
  have h := hpure st (q, c) hi
  cases hp : pureGet f () (q, c) with
  | error e => rw [hp] at h; exact h
  | ok r =>
    obtain ⟨a, u⟩ := r
    rw [hp] at h
    obtain ⟨st', hg, hi'⟩ := h
    refine ⟨st', hg, hi', ⟨fun _ h => h, fun _ h => h⟩, fun pr sh nx ha => ⟨?_, trivial⟩⟩
    exact hcol (q, c) pr sh nx (by rw [pureGet_ok hp, ha])

theorem progColorsLt_sound (p : Prog) (base : Nat) (h : progColorsLt p base = true) :
    ColorsLt (progFn p) base := fun _ _ _ _ hf =>
  of_decide_eq_true (List.all_eq_true.1 h _ (Tree.Prog.mem_of_get (Except.ok.inj hf)))

theorem histIndep_comp (p : Prog) (base : Nat) (hb : 0 < base)
    (hcol : ColorsLt (progFn p) base) :
    HistIndep compGet (progFn p) (fun st => st = p) TrueLeg (LtLeg base) :=
  histIndep_of_stateless compGet (progFn p) (fun st => st = p) (fun c => c < base) hb hcol
    (fun st s h => by subst h; exact Agree.ok st rfl rfl)

theorem histIndep_pureGet (f : Slot → Res (Option Instr)) :
    HistIndep (pureGet f) f TrueInv TrueLeg TrueLeg :=
  histIndep_of_stateless (pureGet f) f TrueInv (fun _ => True) trivial (fun _ _ _ _ _ => trivial)
    (fun st s _ => by
      cases hp : pureGet f st s with
      | error e => exact Agree.error rfl
      | ok r => exact Agree.ok r.2 rfl trivial)

section Two

variable {σ τ : Type} (g1 : GetFn σ) (g2 : GetFn τ)

theorem getInstrsTwo_ok :
    ∀ (qs : List (Bool × Slot)) (a : σ) (b : τ) (as : List (Option Instr)) (a' : σ) (b' : τ),
      getInstrsTwo g1 g2 (a, b) qs = .ok (as, (a', b')) →
      getInstrs g1 a (slotsOf false qs) = .ok (pickAnswers false qs as, a') ∧
      getInstrs g2 b (slotsOf true qs) = .ok (pickAnswers true qs as, b') := by
  intro qs
  induction qs with
  | nil => intro a b as a' b' h; cases h; exact ⟨rfl, rfl⟩
  | cons q rest ih =>
    intro a b as a' b' h
    obtain ⟨tag, s⟩ := q
    cases tag with
    | false =>
      simp only [getInstrsTwo] at h
      split at h
      · cases h
      · next x a1 hg =>
        split at h
        · cases h
        · next xs st hr =>
          cases h
          obtain ⟨i1, i2⟩ := ih a1 b xs a' b' hr
          exact ⟨by simp only [slotsOf, pickAnswers, getInstrs, hg, i1, beq_self_eq_true, if_true],
            i2⟩
    | true =>
      simp only [getInstrsTwo] at h
      split at h
      · cases h
      · next x b1 hg =>
        split at h
        · cases h
        · next xs st hr =>
          cases h
          obtain ⟨i1, i2⟩ := ih a b1 xs a' b' hr
          exact ⟨i1,
            by simp only [slotsOf, pickAnswers, getInstrs, hg, i2, beq_self_eq_true, if_true]⟩

theorem getInstrsTwo_of_alone :
    ∀ (qs : List (Bool × Slot)) (a : σ) (b : τ) (as1 as2 : List (Option Instr)) (a' : σ) (b' : τ),
      getInstrs g1 a (slotsOf false qs) = .ok (as1, a') →
      getInstrs g2 b (slotsOf true qs) = .ok (as2, b') →
      ∃ as, getInstrsTwo g1 g2 (a, b) qs = .ok (as, (a', b')) := by
  intro qs
  induction qs with
  | nil => intro a b as1 as2 a' b' h1 h2; cases h1; cases h2; exact ⟨[], rfl⟩
  | cons q rest ih =>
    intro a b as1 as2 a' b' h1 h2
    obtain ⟨tag, s⟩ := q
    cases tag with
    | false =>
      obtain ⟨x, a1, xs, hg, hr, _⟩ := getInstrs_cons_ok (s := s) (rest := slotsOf false rest) h1
      obtain ⟨as, has⟩ := ih a1 b xs as2 a' b' hr h2
      exact ⟨x :: as, by simp only [getInstrsTwo, hg, has]⟩
    | true =>
      obtain ⟨x, b1, xs, hg, hr, _⟩ := getInstrs_cons_ok (s := s) (rest := slotsOf true rest) h2
      obtain ⟨as, has⟩ := ih a b1 as1 xs a' b' h1 hr
      exact ⟨x :: as, by simp only [getInstrsTwo, hg, has]⟩

end Two

end BB.Macros
