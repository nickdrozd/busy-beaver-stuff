/-
C05 — segment analysis.  The small containers of the model (`dictGet`/`dictSet`, position sets,
`TapeSet`) behave as maps and sets; `check_seen` in these terms.
-/
import BB.Lemmas.SegRunToEdge

namespace BB.Segment

open BB

theorem dictGet_dictSet {α : Type} (d : List (Nat × α)) (k : Nat) (v : α) (k' : Nat) :
    dictGet (dictSet d k v) k' = if k' = k then some v else dictGet d k' := by
  induction d with
  | nil => simp only [dictSet, dictGet, beq_iff_eq]; grind
  | cons e rest ih => simp only [dictSet, beq_iff_eq]; grind [dictGet]

theorem dictGet_dictSet_self {α : Type} (d : List (Nat × α)) (k : Nat) (v : α) :
    dictGet (dictSet d k v) k = some v := by rw [dictGet_dictSet, if_pos rfl]

theorem dictGet_dictSet_ne {α : Type} (d : List (Nat × α)) {k k' : Nat} (v : α) (h : k' ≠ k) :
    dictGet (dictSet d k v) k' = dictGet d k' := by rw [dictGet_dictSet, if_neg h]

theorem dictGet_mem {α : Type} {d : List (Nat × α)} {k : Nat} {v : α} (h : dictGet d k = some v) :
    (k, v) ∈ d := by
  induction d with
  | nil => cases h
  | cons e rest ih =>
    obtain ⟨k0, v0⟩ := e
    simp only [dictGet] at h
    split at h
    · rename_i hk
      rw [← eq_of_beq hk, ← Option.some.inj h]
      exact List.mem_cons_self
    · exact List.mem_cons_of_mem _ (ih h)

theorem mem_dictSet {α : Type} {d : List (Nat × α)} {k : Nat} {v : α} {e : Nat × α}
    (h : e ∈ dictSet d k v) : e ∈ d ∨ e = (k, v) := by
  induction d with
  | nil => exact Or.inr (List.mem_singleton.1 h)
  | cons x rest ih =>
    simp only [dictSet] at h
    split at h
    · exact (List.mem_cons.1 h).elim Or.inr fun h' => Or.inl (List.mem_cons_of_mem _ h')
    · split at h
      · exact (List.mem_cons.1 h).elim Or.inr Or.inl
      · exact (List.mem_cons.1 h).elim (fun h' => Or.inl (h' ▸ List.mem_cons_self))
          fun h' => (ih h').imp_left (List.mem_cons_of_mem _)

theorem mem_setInsert' {s : List Nat} {x y : Nat} : y ∈ setInsert s x ↔ y = x ∨ y ∈ s := by
  unfold setInsert
  split
  · next h => exact ⟨Or.inr, fun h' => h'.elim (fun e => e ▸ List.contains_iff_mem.1 h) id⟩
  · exact List.mem_cons

theorem length_setInsert_le (s : List Nat) (x : Nat) : (setInsert s x).length ≤ s.length + 1 := by
  unfold setInsert
  split
  · exact Nat.le_succ _
  · exact Nat.le_refl _

theorem setInsert_of_mem {s : List Nat} {x : Nat} (h : x ∈ s) : setInsert s x = s :=
  if_pos (List.contains_iff_mem.2 h)

theorem nodup_setInsert {s : List Nat} (h : s.Nodup) (x : Nat) : (setInsert s x).Nodup := by
  unfold setInsert
  by_cases hc : s.contains x = true
  · rw [if_pos hc]; exact h
  · rw [if_neg hc]
    exact List.nodup_cons.2 ⟨by simpa using hc, h⟩

/-- `pos ∈ d[k]` -/
def DHas (d : List (Nat × List Nat)) (k pos : Nat) : Prop :=
  ∃ s, dictGet d k = some s ∧ pos ∈ s

theorem dHas_iff (d : List (Nat × List Nat)) (k pos : Nat) :
    DHas d k pos ↔ pos ∈ (dictGet d k).getD [] := by
  unfold DHas
  cases dictGet d k <;> simp

theorem dictSetHas_iff (d : List (Nat × List Nat)) (k pos : Nat) :
    dictSetHas d k pos = true ↔ DHas d k pos := by
  rw [dHas_iff]
  unfold dictSetHas
  cases dictGet d k <;> simp

theorem dictSetInsert_eq (d : List (Nat × List Nat)) (k x : Nat) :
    dictSetInsert d k x = dictSet d k (setInsert ((dictGet d k).getD []) x) := by
  unfold dictSetInsert
  cases dictGet d k <;> rfl

theorem dHas_dictSetInsert (d : List (Nat × List Nat)) (k x k' y : Nat) :
    DHas (dictSetInsert d k x) k' y ↔ DHas d k' y ∨ (k' = k ∧ y = x) := by
  rw [dHas_iff, dHas_iff, dictSetInsert_eq, dictGet_dictSet]
  by_cases hk : k' = k
  · subst hk
    simp only [if_true, Option.getD_some, mem_setInsert', true_and, or_comm]
  · simp only [hk, if_false, false_and, or_false]

theorem dHas_dictEnsure (d : List (Nat × List Nat)) (k k' y : Nat) :
    DHas (dictEnsure d k) k' y ↔ DHas d k' y := by
  unfold dictEnsure
  cases hg : dictGet d k with
  | none =>
    rw [dHas_iff, dHas_iff, dictGet_dictSet]
    by_cases hk : k' = k
    · subst hk; simp only [if_true, hg, Option.getD_some, Option.getD_none]
    · simp only [hk, if_false]
  | some s => rfl

def TapeSet.bucket (s : TapeSet) (t : Tape) : List Tape := (dictGet s.buckets (Tape.hash t)).getD []

theorem TapeSet.contains_eq (s : TapeSet) (t : Tape) : s.contains t = (s.bucket t).contains t := by
  unfold TapeSet.contains TapeSet.bucket
  cases dictGet s.buckets (Tape.hash t) <;> rfl

theorem TapeSet.insert_eq (s : TapeSet) (t : Tape) :
    s.insert t = if (s.bucket t).contains t then s
      else ⟨s.size + 1, dictSet s.buckets (Tape.hash t) (t :: s.bucket t)⟩ := by
  unfold TapeSet.bucket
  cases hg : dictGet s.buckets (Tape.hash t) <;> simp only [TapeSet.insert, hg] <;> rfl

theorem TapeSet.contains_insert (s : TapeSet) (t t' : Tape) :
    TapeSet.contains (TapeSet.insert s t) t' = true ↔ TapeSet.contains s t' = true ∨ t' = t := by
  rw [TapeSet.insert_eq]
  split
  · next h =>
    refine ⟨Or.inl, fun h' => h'.elim id fun e => ?_⟩
    rw [e, TapeSet.contains_eq]; exact h
  · rw [TapeSet.contains_eq, TapeSet.contains_eq]
    unfold TapeSet.bucket
    rw [dictGet_dictSet]
    by_cases hh : Tape.hash t' = Tape.hash t
    · rw [if_pos hh, hh]
      simp only [Option.getD_some, List.contains_cons, Bool.or_eq_true, beq_iff_eq, or_comm]
    · rw [if_neg hh]
      exact ⟨Or.inl, fun h' => h'.elim id fun e => absurd (e ▸ rfl) hh⟩

theorem TapeSet.not_contains_empty (t : Tape) : TapeSet.contains TapeSet.empty t = false := rfl

/-- `t ∈ seen[q]` -/
def SHas (d : List (Nat × TapeSet)) (q : Nat) (t : Tape) : Prop :=
  TapeSet.contains ((dictGet d q).getD TapeSet.empty) t = true

theorem sHas_insert (d : List (Nat × TapeSet)) (q : Nat) (t : Tape) (q' : Nat) (t' : Tape) :
    SHas (dictSet d q (TapeSet.insert ((dictGet d q).getD TapeSet.empty) t)) q' t' ↔
      SHas d q' t' ∨ (q' = q ∧ t' = t) := by
  unfold SHas
  rw [dictGet_dictSet]
  by_cases hq : q' = q
  · subst hq
    simp only [if_true, Option.getD_some, TapeSet.contains_insert, true_and]
  · simp only [hq, if_false, false_and, or_false]

theorem checkSeen_cases (cs : Configs) (state : Nat) (tape : Tape) (blank : Bool) :
    (Configs.checkSeen cs state tape blank = (none, cs) ∧
      (if blank = true then DHas cs.blanks state (Tape.pos tape) else SHas cs.seen state tape)) ∨
    (blank = true ∧
      Configs.checkSeen cs state tape blank = (some (blank && state == 0),
        { cs with blanks := dictSetInsert cs.blanks state (Tape.pos tape) })) ∨
    (blank = false ∧
      Configs.checkSeen cs state tape blank = (some (blank && state == 0),
        { cs with seen := (dictSet cs.seen state
            (TapeSet.insert ((dictGet cs.seen state).getD TapeSet.empty) tape)) })) := by
  unfold Configs.checkSeen
  cases blank with
  | true =>
    by_cases hh : dictSetHas cs.blanks state (Tape.pos tape) = true
    · left
      simp only [if_true, hh]
      exact ⟨trivial, (dictSetHas_iff _ _ _).1 hh⟩
    · right; left
      simp only [if_true, hh]
      exact ⟨trivial, by simp⟩
  | false =>
    by_cases hh : TapeSet.contains ((dictGet cs.seen state).getD TapeSet.empty) tape = true
    · left
      simp only [Bool.false_eq_true, if_false, hh, if_true]
      exact ⟨trivial, hh⟩
    · right; right
      simp only [Bool.false_eq_true, if_false, hh]
      exact ⟨trivial, by simp⟩

end BB.Segment
