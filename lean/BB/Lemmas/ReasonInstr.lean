/-
C04: an instrumented copy of `stepInstrs` / `stepConfigs` / `cantReachLoop` / `cantReach` which
remembers the blank tapes that were kept (not only their states) and returns a flag that becomes
`false` when blank-state pruning discards a tape that is not subsumed by a kept blank tape of the
same state.  The answer component equals the uninstrumented function's.
-/
import BB.Model.Reason

namespace BB.Reason

open BB

/-- the blank tapes kept so far, with their states; `kept.map (·.1)` is the model's `blanks` -/
abbrev Kept := List (Nat × Backstepper)

/-- least number of cells the blocks stand for (an indefinite block stands for at least one) -/
def minLenB : List Block → Nat
  | [] => 0
  | b :: bs => (if b.count == 0 then 1 else b.count) + minLenB bs

/-- for *blank* spans: every stream matching `z` matches `y`.  Either `z` ends in `blanks` (then the
    stream is all zeros), or `y` ends in `unknown` and asks for no more leading zeros than `z`. -/
def sideSub (y z : Span) : Bool :=
  z.end_ == TapeEnd.blanks || (y.end_ == TapeEnd.unknown && minLenB y.span ≤ minLenB z.span)

/-- for *blank* tapes: γ of `z` is included in γ of `y` (same state) -/
def blankSub (y z : Backstepper) : Bool := sideSub y.lspan z.lspan && sideSub y.rspan z.rspan

def pruneOk (kept : Kept) (state : Nat) (tape : Backstepper) : Bool :=
  kept.any fun y => y.1 == state && blankSub y.2 tape

def stepInstrsI (config : Config) :
    List Instr → Kept → Except BackwardResult (Configs × Kept × Bool)
  | [], kept => .ok ([], kept, true)
  | (color, shift, state) :: rest, kept =>
    let tape := config.tape.backstep shift color
    let isBlank := tape.blank
    if isBlank && state == 0 then .error .init
    else if isBlank && (kept.map (·.1)).contains state then
      match stepInstrsI config rest kept with
      | .error e => .error e
      | .ok (stepped, kept', flag) => .ok (stepped, kept', pruneOk kept state tape && flag)
    else
      let kept' := if isBlank then (state, tape) :: kept else kept
      let nextConfig := Config.descendant state tape config
      if nextConfig.recs > MAX_RECS then .error .linRec
      else
        match stepInstrsI config rest kept' with
        | .error e => .error e
        | .ok (stepped, kept'', flag) => .ok (nextConfig :: stepped, kept'', flag)

def stepConfigsI :
    ValidatedSteps → Kept → Except BackwardResult (Configs × ValidatedSteps × Kept × Bool)
  | [], kept => .ok ([], [], kept, true)
  | (instrs, config) :: rest, kept =>
    let pullsIndef := instrs.filter fun i => config.tape.pullsIndef i.2.1
    let instrs' := instrs.filter fun i => !config.tape.pullsIndef i.2.1
    match stepInstrsI config instrs' kept with
    | .error e => .error e
    | .ok (stepped, kept', flag) =>
      match stepConfigsI rest kept' with
      | .error e => .error e
      | .ok (stepped', indefs, kept'', flag') =>
        .ok (stepped ++ stepped',
             if pullsIndef.isEmpty then indefs else (pullsIndef, config) :: indefs,
             kept'', flag && flag')

def cantReachLoopI (fixF1 : Bool) (entrypoints : Entrypoints) :
    Nat → Nat → Configs → Kept → ValidatedSteps → PRes BackwardResult × Bool
  | 0, _, _, _, _ => (.ok .stepLimit, true)
  | fuel + 1, step, configs, kept, indefSteps =>
    match getValidSteps fixF1 entrypoints configs with
    | .error e => (.error e, true)
    | .ok validSteps =>
      if validSteps.isEmpty then
        (if !indefSteps.isEmpty then .ok .spinout else .ok (.refuted step), true)
      else if MAX_STACK_DEPTH < validSteps.length then (.ok .depthLimit, true)
      else
        match stepConfigsI validSteps kept with
        | .error err => (.ok err, true)
        | .ok (configs', indefs, kept', flag) =>
          let indefSteps' := indefSteps ++ indefs
          if indefSteps'.length > MAX_STACK_DEPTH then (.ok .depthLimit, true)
          else
            let r := cantReachLoopI fixF1 entrypoints fuel (step + 1) configs' kept' indefSteps'
            (r.1, flag && r.2)

def getKept (configs : Configs) : Kept :=
  configs.filterMap fun cfg => if cfg.tape.blank then some (cfg.state, cfg.tape) else none

def cantReachI (fixF1 : Bool) (comp : Prog) (depth : Nat) (configs : Configs) :
    PRes BackwardResult × Bool :=
  if configs.isEmpty then (.ok (.refuted 0), true)
  else
    let entrypoints := getEntrypoints comp
    let configs' := configs.filter fun config => entrypoints.containsKey config.state
    if configs'.isEmpty then (.ok (.refuted 0), true)
    else cantReachLoopI fixF1 entrypoints depth 0 configs' (getKept configs') []

/-! One step of each function, written out by hand and proved by `rfl`: the equations Lean derives on
demand carry the `let`s of the definitions and are derived again by every proof that asks for them. -/

theorem stepConfigs_cons (instrs : List Instr) (config : Config) (rest : ValidatedSteps)
    (blanks : Blanks) :
    stepConfigs ((instrs, config) :: rest) blanks =
      match stepInstrs config (instrs.filter fun i => !config.tape.pullsIndef i.2.1) blanks with
      | .error e => .error e
      | .ok (s₁, b₁) =>
        match stepConfigs rest b₁ with
        | .error e => .error e
        | .ok (s₂, i₂, b₂) =>
          .ok (s₁ ++ s₂,
            if (instrs.filter fun i => config.tape.pullsIndef i.2.1).isEmpty then i₂
              else (instrs.filter fun i => config.tape.pullsIndef i.2.1, config) :: i₂, b₂) :=
  rfl

theorem stepConfigsI_cons (instrs : List Instr) (config : Config) (rest : ValidatedSteps)
    (kept : Kept) :
    stepConfigsI ((instrs, config) :: rest) kept =
      match stepInstrsI config (instrs.filter fun i => !config.tape.pullsIndef i.2.1) kept with
      | .error e => .error e
      | .ok (s₁, k₁, f₁) =>
        match stepConfigsI rest k₁ with
        | .error e => .error e
        | .ok (s₂, i₂, k₂, f₂) =>
          .ok (s₁ ++ s₂,
            if (instrs.filter fun i => config.tape.pullsIndef i.2.1).isEmpty then i₂
              else (instrs.filter fun i => config.tape.pullsIndef i.2.1, config) :: i₂,
            k₂, f₁ && f₂) :=
  rfl

theorem cantReachLoop_succ (fixF1 : Bool) (ep : Entrypoints) (fuel step : Nat) (configs : Configs)
    (blanks : Blanks) (indef : ValidatedSteps) :
    cantReachLoop fixF1 ep (fuel + 1) step configs blanks indef =
      match getValidSteps fixF1 ep configs with
      | .error e => .error e
      | .ok vs =>
        if vs.isEmpty then (if !indef.isEmpty then .ok .spinout else .ok (.refuted step))
        else if MAX_STACK_DEPTH < vs.length then .ok .depthLimit
        else
          match stepConfigs vs blanks with
          | .error err => .ok err
          | .ok (configs', indefs, blanks') =>
            if (indef ++ indefs).length > MAX_STACK_DEPTH then .ok .depthLimit
            else cantReachLoop fixF1 ep fuel (step + 1) configs' blanks' (indef ++ indefs) :=
  rfl

theorem cantReachLoopI_succ (fixF1 : Bool) (ep : Entrypoints) (fuel step : Nat)
    (configs : Configs) (kept : Kept) (indef : ValidatedSteps) :
    cantReachLoopI fixF1 ep (fuel + 1) step configs kept indef =
      match getValidSteps fixF1 ep configs with
      | .error e => (.error e, true)
      | .ok vs =>
        if vs.isEmpty then
          (if !indef.isEmpty then .ok .spinout else .ok (.refuted step), true)
        else if MAX_STACK_DEPTH < vs.length then (.ok .depthLimit, true)
        else
          match stepConfigsI vs kept with
          | .error err => (.ok err, true)
          | .ok (configs', indefs, kept', flag) =>
            if (indef ++ indefs).length > MAX_STACK_DEPTH then (.ok .depthLimit, true)
            else
              ((cantReachLoopI fixF1 ep fuel (step + 1) configs' kept' (indef ++ indefs)).1,
                flag && (cantReachLoopI fixF1 ep fuel (step + 1) configs' kept' (indef ++ indefs)).2) :=
  rfl

@[elab_as_elim]
theorem stepInstrsI_ok_induct (config : Config)
    {motive : List Instr → Kept → Configs → Kept → Bool → Prop}
    (nil : ∀ kept, motive [] kept [] kept true)
    (prune : ∀ r sh q rest kept s k f,
      ¬ ((config.tape.backstep sh r).blank = true ∧ q = 0) →
      (config.tape.backstep sh r).blank = true → (kept.map (·.1)).contains q = true →
      motive rest kept s k f →
      motive ((r, sh, q) :: rest) kept s k (pruneOk kept q (config.tape.backstep sh r) && f))
    (step : ∀ r sh q rest kept s k f,
      ¬ ((config.tape.backstep sh r).blank = true ∧ q = 0) →
      motive rest (if (config.tape.backstep sh r).blank = true then
        (q, config.tape.backstep sh r) :: kept else kept) s k f →
      motive ((r, sh, q) :: rest) kept
        (Config.descendant q (config.tape.backstep sh r) config :: s) k f)
    (instrs : List Instr) (kept : Kept) (stepped : Configs) (kept' : Kept) (flag : Bool)
    (h : stepInstrsI config instrs kept = .ok (stepped, kept', flag)) :
    motive instrs kept stepped kept' flag := by
  revert stepped kept' flag
  fun_induction stepInstrsI config instrs kept with
  | case1 kept => intro _ _ _ h; cases h; exact nil kept
  | case2 => intro _ _ _ h; cases h
  | case3 => intro _ _ _ h; cases h
  | case4 r sh q rest kept _ _ h0 hp s k f =>
    rename_i hr ih
    intro _ _ _ h
    cases h
    rw [Bool.and_eq_true, beq_iff_eq] at h0
    rw [Bool.and_eq_true] at hp
    exact prune r sh q rest kept s k f h0 hp.1 hp.2 (ih _ _ _ hr)
  | case5 => intro _ _ _ h; cases h
  | case6 => intro _ _ _ h; cases h
  | case7 r sh q rest kept _ _ h0 _ _ _ _ s k =>
    rename_i f hr ih
    intro _ _ _ h
    cases h
    rw [Bool.and_eq_true, beq_iff_eq] at h0
    exact step r sh q rest kept s k f h0 (ih _ _ _ hr)

@[elab_as_elim]
theorem stepConfigsI_ok_induct
    {motive : ValidatedSteps → Kept → Configs → ValidatedSteps → Kept → Bool → Prop}
    (nil : ∀ kept, motive [] kept [] [] kept true)
    (cons : ∀ instrs config rest kept s₁ k₁ f₁ s₂ i₂ k₂ f₂,
      stepInstrsI config (instrs.filter fun i => !config.tape.pullsIndef i.2.1) kept
        = .ok (s₁, k₁, f₁) →
      motive rest k₁ s₂ i₂ k₂ f₂ →
      motive ((instrs, config) :: rest) kept (s₁ ++ s₂)
        (if (instrs.filter fun i => config.tape.pullsIndef i.2.1).isEmpty then i₂
          else (instrs.filter fun i => config.tape.pullsIndef i.2.1, config) :: i₂) k₂ (f₁ && f₂))
    (vs : ValidatedSteps) (kept : Kept) (stepped : Configs) (indefs : ValidatedSteps) (kept' : Kept)
    (flag : Bool) (h : stepConfigsI vs kept = .ok (stepped, indefs, kept', flag)) :
    motive vs kept stepped indefs kept' flag := by
  revert stepped indefs kept' flag
  fun_induction stepConfigsI vs kept with
  | case1 kept => intro _ _ _ _ h; cases h; exact nil kept
  | case2 => intro _ _ _ _ h; cases h
  | case3 => intro _ _ _ _ h; cases h
  | case4 instrs config rest kept _ _ s₁ k₁ f₁ h₁ s₂ i₂ k₂ f₂ =>
    rename_i h₂ ih
    intro _ _ _ _ h
    cases h
    exact cons instrs config rest kept s₁ k₁ f₁ s₂ i₂ k₂ f₂ h₁ (ih _ _ _ _ h₂)

theorem stepInstrsI_fst (config : Config) (instrs : List Instr) (kept : Kept) :
    stepInstrs config instrs (kept.map (·.1)) =
      (stepInstrsI config instrs kept).map fun r => (r.1, r.2.1.map (·.1)) := by
  induction instrs generalizing kept with
  | nil => rfl
  | cons i rest ih =>
    obtain ⟨r, sh, q⟩ := i
    -- both functions unfold to three nested `if`s on the same conditions
    show (if _ then _ else if _ then _ else if _ then _ else _) =
      Except.map _ (if _ then _ else if _ then _ else if _ then _ else _)
    rw [apply_ite (Except.map _), apply_ite (Except.map _), apply_ite (Except.map _)]
    refine ite_congr rfl (fun _ => rfl) fun _ => ite_congr rfl (fun _ => ?_) fun _ =>
      ite_congr rfl (fun _ => rfl) fun _ => ?_
    · rw [ih]
      cases stepInstrsI config rest kept <;> rfl
    · rw [← List.map_cons (f := (·.1)) (a := (q, config.tape.backstep sh r)), ← apply_ite, ih]
      cases stepInstrsI config rest _ <;> rfl

theorem stepConfigsI_fst (vs : ValidatedSteps) (kept : Kept) :
    stepConfigs vs (kept.map (·.1)) =
      (stepConfigsI vs kept).map fun r => (r.1, r.2.1, r.2.2.1.map (·.1)) := by
  induction vs generalizing kept with
  | nil => rfl
  | cons v rest ih =>
    obtain ⟨instrs, config⟩ := v
    rw [stepConfigs_cons, stepConfigsI_cons, stepInstrsI_fst]
    cases stepInstrsI config _ kept with
    | error e => rfl
    | ok res =>
      dsimp only [Except.map]
      rw [ih]
      cases stepConfigsI rest res.2.1 <;> rfl

theorem cantReachLoopI_fst (fixF1 : Bool) (ep : Entrypoints) (fuel step : Nat) (configs : Configs)
    (kept : Kept) (indef : ValidatedSteps) :
    (cantReachLoopI fixF1 ep fuel step configs kept indef).1 =
      cantReachLoop fixF1 ep fuel step configs (kept.map (·.1)) indef := by
  induction fuel generalizing step configs kept indef with
  | zero => rfl
  | succ n ih =>
    rw [cantReachLoopI_succ, cantReachLoop_succ]
    cases getValidSteps fixF1 ep configs with
    | error e => rfl
    | ok vs =>
      dsimp only
      rw [apply_ite Prod.fst, apply_ite Prod.fst, stepConfigsI_fst]
      refine ite_congr rfl (fun _ => rfl) fun _ => ite_congr rfl (fun _ => rfl) fun _ => ?_
      cases stepConfigsI vs kept with
      | error e => rfl
      | ok res =>
        dsimp only [Except.map]
        rw [apply_ite Prod.fst]
        exact ite_congr rfl (fun _ => rfl) fun _ => ih ..

theorem getKept_fst (configs : Configs) : (getKept configs).map (·.1) = getBlanks configs := by
  rw [getKept, getBlanks, List.map_filterMap]
  congr 1
  funext cfg
  cases cfg.tape.blank <;> rfl

theorem cantReachI_fst (fixF1 : Bool) (comp : Prog) (depth : Nat) (configs : Configs) :
    (cantReachI fixF1 comp depth configs).1 = cantReach fixF1 comp depth configs := by
  rw [cantReachI, cantReach, apply_ite Prod.fst]
  refine ite_congr rfl (fun _ => rfl) fun _ => ?_
  dsimp only
  rw [apply_ite Prod.fst, cantReachLoopI_fst, getKept_fst]

end BB.Reason
