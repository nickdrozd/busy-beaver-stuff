/-
C05 — segment analysis.  What `AnalyzedProg::new` knows about the table, and the states and colours
that occur in a real run when `params` covers the program.
-/
import BB.Lemmas.SegView
import BB.Lemmas.ProgTable

namespace BB.Segment

open BB

/-- state, scanned colour and all cells are below the table size -/
def InRange (S C : Nat) (c : Cfg) : Prop :=
  c.state < S ∧ c.scan < C ∧ (∀ i, cellAt c.left i < C) ∧ (∀ i, cellAt c.right i < C)

theorem paramsCover_spec {p : Prog} {S C : Nat} (h : paramsCover p (S, C) = true) :
    0 < S ∧ 0 < C ∧ ∀ s v, p.get s = some v → s.1 < S ∧ s.2 < C ∧ v.1 < C ∧ v.2.2 < S := by
  unfold paramsCover at h
  simp only [Bool.and_eq_true, decide_eq_true_eq, List.all_eq_true] at h
  refine ⟨h.1.1, h.1.2, fun s v hg => ?_⟩
  have := h.2 (s, v) (Tree.Prog.mem_of_get hg)
  exact ⟨this.1.1.1, this.1.1.2, this.1.2, this.2⟩

theorem run_inRange {p : Prog} {S C : Nat} (h : paramsCover p (S, C) = true) :
    ∀ t c, RunAt p.toF t c → InRange S C c :=
  have ⟨hS, hC, hget⟩ := paramsCover_spec h
  run_within (PS := (· < S)) (PC := (· < C)) hS hC fun _ _ _ _ _ hi =>
    ⟨(hget _ _ hi).2.2.1, (hget _ _ hi).2.2.2⟩

theorem mem_sortedInsert {l : List Nat} {x y : Nat} : y ∈ sortedInsert l x ↔ y = x ∨ y ∈ l := by
  induction l with
  | nil => simp [sortedInsert]
  | cons z rest ih =>
    unfold sortedInsert
    by_cases h1 : x = z
    · subst h1; simp
    · have h1' : (x == z) = false := by simpa using h1
      by_cases h2 : x < z
      · simp [h1', h2]
      · simp only [h1', h2, Bool.false_eq_true, if_false, List.mem_cons, ih]
        exact or_left_comm

theorem analyzeSlot_none {prog : Prog} {state color : Nat} (acc : RowAcc)
    (h : prog.get (state, color) = none) :
    analyzeSlot prog state acc color = { acc with halts := setInsert acc.halts state } := by
  unfold analyzeSlot
  rw [h]

theorem analyzeSlot_some {prog : Prog} {state color pr nx : Nat} {sh : Bool} (acc : RowAcc)
    (h : prog.get (state, color) = some (pr, sh, nx)) :
    analyzeSlot prog state acc color =
      ⟨acc.halts,
        if nx = state ∧ color = 0 then dictSet acc.spinouts nx sh else acc.spinouts,
        if nx = state then acc.diff else sortedInsert acc.diff nx,
        if sh = true then acc.lefts else sortedInsert acc.lefts nx,
        if sh = true then sortedInsert acc.rights nx else acc.rights⟩ := by
  unfold analyzeSlot
  rw [h]
  cases sh <;> by_cases h1 : nx = state <;> by_cases h2 : color = 0 <;> simp [h1, h2]

/-- what the accumulator `a` of row `state` holds after the colours below `k`, started from `a0` -/
structure RowOK (prog : Prog) (state k : Nat) (a0 a : RowAcc) : Prop where
  haltsMono : ∀ x, x ∈ a0.halts → x ∈ a.halts
  halts : ∀ c, c < k → prog.get (state, c) = none → state ∈ a.halts
  moves : ∀ c pr sh q', c < k → prog.get (state, c) = some (pr, sh, q') →
    (q' ≠ state → q' ∈ a.diff) ∧ q' ∈ (if sh then a.rights else a.lefts)
  spinOther : ∀ q, q ≠ state → dictGet a.spinouts q = dictGet a0.spinouts q
  spin : 0 < k → ∀ pr sh, prog.get (state, 0) = some (pr, sh, state) →
    dictGet a.spinouts state = some sh

theorem analyzeSlot_ok (prog : Prog) (state k : Nat) (a0 a : RowAcc)
    (h : RowOK prog state k a0 a) : RowOK prog state (k + 1) a0 (analyzeSlot prog state a k) := by
  have hlt : ∀ {c}, c < k + 1 → c ≠ k → c < k := fun h1 h2 => Nat.lt_of_le_of_ne (Nat.le_of_lt_succ h1) h2
  cases hg : prog.get (state, k) with
  | none =>
    rw [analyzeSlot_none a hg]
    refine ⟨fun x hx => mem_setInsert'.2 (Or.inr (h.haltsMono x hx)),
      fun c hc hn => mem_setInsert'.2 ?_, fun c pr sh q' hc hgc => ?_, h.spinOther,
      fun _ pr sh hg0 => ?_⟩
    · by_cases hck : c = k
      · exact Or.inl rfl
      · exact Or.inr (h.halts c (hlt hc hck) hn)
    · have hck : c ≠ k := by rintro rfl; rw [hg] at hgc; cases hgc
      exact h.moves c pr sh q' (hlt hc hck) hgc
    · have hk0 : k ≠ 0 := by rintro rfl; rw [hg] at hg0; cases hg0
      exact h.spin (Nat.pos_of_ne_zero hk0) pr sh hg0
  | some instr =>
    obtain ⟨pr0, sh0, nx⟩ := instr
    rw [analyzeSlot_some a hg]
    refine ⟨h.haltsMono, fun c hc hn => ?_, fun c pr sh q' hc hgc => ?_, fun q hq => ?_,
      fun _ pr sh hg0 => ?_⟩
    · have hck : c ≠ k := by rintro rfl; rw [hg] at hn; cases hn
      exact h.halts c (hlt hc hck) hn
    · dsimp only
      by_cases hck : c = k
      · subst hck
        rw [hg, Option.some.injEq, Prod.mk.injEq, Prod.mk.injEq] at hgc
        obtain ⟨rfl, rfl, rfl⟩ := hgc
        refine ⟨fun hq => by rw [if_neg hq]; exact mem_sortedInsert.2 (Or.inl rfl), ?_⟩
        cases sh0
        · exact mem_sortedInsert.2 (Or.inl rfl)
        · exact mem_sortedInsert.2 (Or.inl rfl)
      · obtain ⟨m1, m2⟩ := h.moves c pr sh q' (hlt hc hck) hgc
        refine ⟨fun hq => ?_, ?_⟩
        · split
          · exact m1 hq
          · exact mem_sortedInsert.2 (Or.inr (m1 hq))
        · cases sh
          · show q' ∈ if sh0 = true then a.lefts else sortedInsert a.lefts nx
            split
            · exact m2
            · exact mem_sortedInsert.2 (Or.inr m2)
          · show q' ∈ if sh0 = true then sortedInsert a.rights nx else a.rights
            split
            · exact mem_sortedInsert.2 (Or.inr m2)
            · exact m2
    · dsimp only
      rw [← h.spinOther q hq]
      split
      · rename_i hn; rw [hn.1]; exact dictGet_dictSet_ne _ _ hq
      · rfl
    · dsimp only
      by_cases hk0 : k = 0
      · subst hk0
        rw [hg, Option.some.injEq, Prod.mk.injEq, Prod.mk.injEq] at hg0
        obtain ⟨_, rfl, rfl⟩ := hg0
        rw [if_pos ⟨rfl, rfl⟩]; exact dictGet_dictSet_self _ _ _
      · rw [if_neg (fun hn => hk0 hn.2)]
        exact h.spin (Nat.pos_of_ne_zero hk0) pr sh hg0

theorem foldl_range_induct {β : Type} (f : β → Nat → β) (Q : Nat → β → Prop) (init : β)
    (h0 : Q 0 init) (hs : ∀ k b, Q k b → Q (k + 1) (f b k)) :
    ∀ n, Q n ((List.range n).foldl f init) := by
  intro n
  induction n with
  | zero => exact h0
  | succ n ih =>
    rw [List.range_succ, List.foldl_append]
    exact hs n _ ih

/-- what the analysis holds after the rows of the states below `k`, each over the colours below `C` -/
structure TabOK (prog : Prog) (C k : Nat) (ap : AnalyzedProg) : Prop where
  halts : ∀ q c, q < k → c < C → prog.get (q, c) = none → q ∈ ap.halts
  moves : ∀ q c pr sh q', q < k → c < C → prog.get (q, c) = some (pr, sh, q') →
    ∃ diffs dirs, dictGet ap.branches q = some (diffs, dirs) ∧
      (q' ≠ q → q' ∈ diffs) ∧ q' ∈ Dirs.get dirs sh
  spin : ∀ q pr sh, q < k → 0 < C → prog.get (q, 0) = some (pr, sh, q) →
    dictGet ap.spinouts q = some sh

theorem analyzeRow_ok (prog : Prog) (C k : Nat) (ap : AnalyzedProg) (h : TabOK prog C k ap) :
    TabOK prog C (k + 1) (analyzeRow prog C ap k) := by
  have hr := foldl_range_induct (analyzeSlot prog k)
    (fun j a => RowOK prog k j ⟨ap.halts, ap.spinouts, [], [], []⟩ a) _
    ⟨fun _ hx => hx, fun c hc => absurd hc (Nat.not_lt_zero c),
      fun c _ _ _ hc => absurd hc (Nat.not_lt_zero c), fun _ _ => rfl,
      fun hk => absurd hk (Nat.lt_irrefl 0)⟩
    (fun j a h1 => analyzeSlot_ok prog k j _ a h1) C
  have hlt : ∀ {q}, q < k + 1 → q ≠ k → q < k :=
    fun h1 h2 => Nat.lt_of_le_of_ne (Nat.le_of_lt_succ h1) h2
  unfold analyzeRow
  generalize (List.range C).foldl (analyzeSlot prog k) ⟨ap.halts, ap.spinouts, [], [], []⟩ = acc
    at hr ⊢
  refine ⟨fun q c hq hc hn => ?_, fun q c pr sh q' hq hc hg => ?_, fun q pr sh hq hC hg => ?_⟩
  · by_cases hqk : q = k
    · subst hqk; exact hr.halts c hc hn
    · exact hr.haltsMono q (h.halts q c (hlt hq hqk) hc hn)
  · by_cases hqk : q = k
    · subst hqk
      obtain ⟨m1, m2⟩ := hr.moves c pr sh q' hc hg
      exact ⟨acc.diff, (acc.lefts, acc.rights), dictGet_dictSet_self _ _ _, m1, m2⟩
    · obtain ⟨diffs, dirs, h1, h2, h3⟩ := h.moves q c pr sh q' (hlt hq hqk) hc hg
      exact ⟨diffs, dirs, by rw [dictGet_dictSet_ne _ _ hqk]; exact h1, h2, h3⟩
  · by_cases hqk : q = k
    · subst hqk; exact hr.spin hC pr sh hg
    · rw [hr.spinOther q hqk]
      exact h.spin q pr sh (hlt hq hqk) hC hg

theorem analyzed_ok (prog : Prog) (S C : Nat) :
    TabOK prog C S (AnalyzedProg.new prog (S, C)) :=
  foldl_range_induct (analyzeRow prog C) (fun k ap => TabOK prog C k ap) ⟨prog, [], [], []⟩
    ⟨fun _ _ hq => absurd hq (Nat.not_lt_zero _), fun _ _ _ _ _ hq => absurd hq (Nat.not_lt_zero _),
      fun _ _ _ hq => absurd hq (Nat.not_lt_zero _)⟩
    (fun k ap h => analyzeRow_ok prog C k ap h) S

theorem branchSound_of_cover {prog : Prog} {S C : Nat} (hpc : paramsCover prog (S, C) = true) :
    BranchSound (AnalyzedProg.new prog (S, C)) := by
  intro t c hr pr sh q' hg
  rw [AnalyzedProg.new_prog] at hr hg
  obtain ⟨r1, r2, _, _⟩ := run_inRange hpc t c hr
  exact (analyzed_ok prog S C).moves c.state c.scan pr sh q' r1 r2 hg

end BB.Segment
