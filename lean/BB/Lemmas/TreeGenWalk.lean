/-
C10 support: every result of the generation process (`S, C ≥ 2`) that passes the leaf filter is
`WalkGenerated` in the sense of C14: the states visited by the runs of the process, followed by
the next state of the instruction inserted last, form a walk from state 0 along listed
instructions that introduces the states in increasing order and contains every state mentioned in
the table.
-/
import BB.Lemmas.TreeGenTable
import BB.Lemmas.GraphConn

namespace BB.Tree

open BB BB.Graph

theorem edgeB_of_mem {p : Prog} {kv : Slot × Instr} (h : kv ∈ p) :
    edgeB p kv.1.1 kv.2.2.2 = true := edgeB_iff.mpr ⟨kv, h, rfl, rfl⟩

theorem run_undefined_path {p : Prog} {q : Nat} {t : Tape} {lim : Nat} {slot : Slot} {t' : Tape}
    (h : runForUndefined p q t lim = (.undefined slot, t')) :
    ∃ path, chainB p (q :: path) = true ∧ (∃ pre, q :: path = pre ++ [slot.1]) ∧
      (∀ x ∈ path, ∃ kv ∈ p, kv.2.2.2 = x) ∧
      (∀ v, p.get (q, t.scan) = some v → v.2.2 ∈ path) := by
  refine run_undefined_induction ?_ ?_ h
  · intro hg hsc
    have hnone : p.get (slot.1, t'.scan) = none := by rw [hsc]; exact hg
    exact ⟨[], rfl, ⟨[], rfl⟩, nofun, fun v hv => by rw [hnone] at hv; cases hv⟩
  · intro q t c sh nx hg ⟨path, h1, ⟨pre, h2⟩, h3, _⟩
    have hmem := Prog.mem_of_get hg
    refine ⟨nx :: path, ?_, ⟨q :: pre, by rw [h2]; rfl⟩, ?_, ?_⟩
    · simp only [chainB, Bool.and_eq_true]
      exact ⟨edgeB_of_mem hmem, h1⟩
    · intro x hx
      rcases List.mem_cons.mp hx with rfl | hx
      · exact ⟨_, hmem, rfl⟩
      · exact h3 x hx
    · intro v hv
      rw [hg] at hv
      cases hv
      exact List.mem_cons_self ..

/-- `w0 ++ [q]` is the walk so far, ending in the current state `q`.  The one next state it may
    lack is that of the instruction at the current slot `(q, t.scan)`, the one inserted last. -/
structure WalkInv (p : Prog) (q : Nat) (t : Tape) (w0 : List Nat) : Prop where
  head : (w0 ++ [q]).head? = some 0
  chain : chainB p (w0 ++ [q]) = true
  ord : ordered 0 (w0 ++ [q]) = true
  keys : ∀ kv ∈ p, kv.1.1 ∈ w0 ++ [q]
  latest : ∃ e ∈ p, e.1 = (q, t.scan) ∧ e.2.2.2 ≤ (w0 ++ [q]).foldl max 0 + 1 ∧
    ∀ kv ∈ p, kv = e ∨ kv.2.2.2 ∈ w0 ++ [q]

/-- a walk as in `WalkGenerated` that contains every state mentioned in the table -/
def CompleteWalk (p : Prog) (w : List Nat) : Prop :=
  w.head? = some 0 ∧ chainB p w = true ∧ ordered 0 w = true ∧ ∀ kv ∈ p, kv.1.1 ∈ w ∧ kv.2.2.2 ∈ w

theorem walkInv_insert {p : Prog} {w0 : List Nat} {s : Slot} {t : Tape} {i : Instr}
    (hw : CompleteWalk p (w0 ++ [s.1])) (hn : p.get s = none) (hsc : t.scan = s.2)
    (hi : i.2.2 ≤ maxState p + 1) : WalkInv (p.insert s i) s.1 t w0 := by
  obtain ⟨h1, h2, h3, h4⟩ := hw
  have hmem {kv : Slot × Instr} := Prog.mem_insert_iff hn (i := i) (kv := kv)
  refine ⟨h1, chainB_mono (fun a b ⟨kv, hkv, e⟩ => ⟨kv, hmem.mpr (.inr hkv), e⟩) _ h2, h3,
    fun kv hkv => ?_,
    (s, i), hmem.mpr (.inl rfl), by rw [hsc], ?_, fun kv hkv => ?_⟩
  · rcases hmem.mp hkv with rfl | hm
    · exact List.mem_append_right _ (List.mem_singleton.mpr rfl)
    · exact (h4 kv hm).1
  · refine Nat.le_trans hi (Nat.succ_le_succ (maxState_le_iff.mpr fun kv hkv => ?_))
    exact ⟨(le_foldl_max _ 0).2 _ (h4 kv hkv).1, (le_foldl_max _ 0).2 _ (h4 kv hkv).2⟩
  · exact (hmem.mp hkv).imp_right fun hm => (h4 kv hm).2

/-- `prog0` is `[]` with `A0 ↦ 1RB` inserted -/
theorem walkInv_start : WalkInv prog0 0 Tape.init [] :=
  walkInv_insert (p := []) (s := (0, 0)) ⟨rfl, rfl, rfl, nofun⟩ rfl rfl (Nat.le_refl 1)

/-- `path` starts with the instruction at the current slot (`hfirst`), whose next state was the
    only one missing. -/
theorem walkInv_extend {p : Prog} {q : Nat} {t : Tape} {w0 : List Nat} (winv : WalkInv p q t w0)
    (hns : NoShadow p) {path : List Nat} (hch : chainB p (q :: path) = true)
    (htg : ∀ x ∈ path, ∃ kv ∈ p, kv.2.2.2 = x)
    (hfirst : ∀ v, p.get (q, t.scan) = some v → v.2.2 ∈ path) :
    CompleteWalk p ((w0 ++ [q]) ++ path) := by
  obtain ⟨e, he, he1, he2, hrest⟩ := winv.latest
  have hepath : e.2.2.2 ∈ path := hfirst e.2 (he1 ▸ hns e he)
  have htarget : ∀ kv ∈ p, kv.2.2.2 ∈ (w0 ++ [q]) ++ path := fun kv hkv =>
    (hrest kv hkv).elim (fun h => h ▸ List.mem_append_right _ hepath) (List.mem_append_left _)
  refine ⟨?_, ?_, ?_, fun kv hkv => ⟨List.mem_append_left _ (winv.keys kv hkv), htarget kv hkv⟩⟩
  · rw [List.head?_append, winv.head]; rfl
  · rw [List.append_assoc, List.singleton_append]; exact chainB_join w0 q path winv.chain hch
  · rw [ordered_append, Bool.and_eq_true]
    refine ⟨winv.ord, ordered_of_le _ _ (fun x hx => ?_)⟩
    obtain ⟨kv, hkv, rfl⟩ := htg x hx
    rcases hrest kv hkv with rfl | h
    · exact he2
    · exact Nat.le_succ_of_le ((le_foldl_max (w0 ++ [q]) 0).2 _ h)

theorem walkInv_step {S C : Nat} {p : Prog} {q : Nat} {t : Tape} {w0 : List Nat}
    (winv : WalkInv p q t w0) (hns : NoShadow p) {lim : Nat} {slot : Slot} {t' : Tape}
    (hrun : runForUndefined p q t lim = (.undefined slot, t')) {i : Instr}
    (hi : Avail S C p i) : ∃ w0', WalkInv (p.insert slot i) slot.1 t' w0' := by
  obtain ⟨path, hch, ⟨pre, hpre⟩, htg, hfirst⟩ := run_undefined_path hrun
  have hw := walkInv_extend winv hns hch htg hfirst
  rw [List.append_assoc, List.singleton_append, hpre, ← List.append_assoc] at hw
  exact ⟨w0 ++ pre, walkInv_insert hw (run_undefined_get hrun) (run_undefined_scan hrun) hi.1.2⟩

theorem walkInv_final {p : Prog} {q : Nat} {t : Tape} {w0 : List Nat} (winv : WalkInv p q t w0)
    (hns : NoShadow p) : ∃ w, CompleteWalk p w := by
  obtain ⟨e, he, he1, _, _⟩ := winv.latest
  refine ⟨_, walkInv_extend winv hns (path := [e.2.2.2]) ?_ ?_ ?_⟩
  · simp only [chainB, Bool.and_true]
    have hq : e.1.1 = q := congrArg Prod.fst he1
    exact hq ▸ edgeB_of_mem he
  · exact fun x hx => ⟨e, he, (List.mem_singleton.mp hx).symm⟩
  · intro v hv
    rw [← he1, hns e he] at hv
    cases hv
    exact List.mem_singleton.mpr rfl

theorem specEmits_walkGenerated {S C : Nat} (hS : 2 ≤ S) (hC : 2 ≤ C) {halt : Bool} {lim : Nat}
    {p : Prog} (h : SpecEmits S C halt lim p) : ∃ w, WalkGenerated p S w = true := by
  obtain ⟨_, _, inv, _, winv⟩ :=
    specRaw_invariant (I := fun p q t => SpecInv S C p q t ∧ ∃ w0, WalkInv p q t w0)
      ⟨specInv_start hS hC, [], walkInv_start⟩
      (fun ⟨inv, _, winv⟩ hrun hav =>
        ⟨specInv_step (Nat.le_of_lt hS) (Nat.le_of_lt hC) inv hrun hav,
          walkInv_step winv inv.noShadow hrun hav⟩) h.1
  obtain ⟨w, h1, h2, h3, h4⟩ := walkInv_final winv inv.noShadow
  obtain ⟨⟨kv, hkv, hlast⟩, _⟩ := usesLast_exact inv.inTable h.2
  have hwf := wf_iff.mpr fun kv hkv => ⟨(inv.inTable kv hkv).1, (inv.inTable kv hkv).2.2.2⟩
  exact ⟨w, walkGenerated_iff.mpr
    ⟨hS, hwf, noShadow_iff.mpr inv.noShadow, h1, h2, h3, hlast ▸ (h4 kv hkv).2⟩⟩

end BB.Tree
