/-
C15 for the finite-segment analysis (src/segment.rs): the limit `segs` of `segment_cant_reach` is
only the fuel of `segmentLoop` (`for seg in 2..=segs`).  The inner fuels `runFuel`/`searchFuel` are
computed from the *segment size of the iteration* (`2 + seg`), never from `segs`, so the outcome of
each iteration is the same under every limit that reaches it.

The answer given when the segments run out is `.ok .segmentLimit`.  Any other outcome of a call
that passes the entry assertion `segs >= 2` - every other `SegmentResult` (`refuted k` with the same
`k`, `halt`, `blank`, `repeat`, `spinout`, `depthLimit`) and both error outcomes (`.error .panic`,
`.error .fuel`) raised inside the loop - is unchanged by a larger `segs`.  The one outcome that is
*not* preserved is the panic of the entry assertion itself (`segs < 2`).
-/
import BB.Model.Segment
import BB.Lemmas.MonoBase

namespace BB.Segment

theorem segmentLoop_of_reached {ap : AnalyzedProg} {goal : Term} {seg : Nat}
    (h : allSegmentsReached ap (2 + seg) goal = .ok (some .reached)) (fuel : Nat) :
    segmentLoop ap goal (fuel + 1) seg = segmentLoop ap goal fuel (seg + 1) := by
  rw [segmentLoop, h]

theorem segmentLoop_of_none {ap : AnalyzedProg} {goal : Term} {seg : Nat}
    (h : allSegmentsReached ap (2 + seg) goal = .ok none) (fuel : Nat) :
    segmentLoop ap goal (fuel + 1) seg = .ok (.refuted seg) := by
  rw [segmentLoop, h]

theorem segmentLoop_mono (ap : AnalyzedProg) (goal : Term) {fuel fuel' seg : Nat}
    (hne : segmentLoop ap goal fuel seg ≠ .ok .segmentLimit) (hle : fuel ≤ fuel') :
    segmentLoop ap goal fuel' seg = segmentLoop ap goal fuel seg := by
  induction fuel generalizing fuel' seg with
  | zero => exact absurd rfl hne
  | succ n ih =>
    cases fuel' with
    | zero => exact absurd hle (Nat.not_succ_le_zero n)
    | succ m =>
      simp only [segmentLoop] at hne ⊢
      split <;> try rfl
      next hr => rw [hr] at hne; exact ih hne (Nat.le_of_succ_le_succ hle)

theorem segmentCantReach_mono (prog : Prog) (params : Nat × Nat) (goal : Term) {s₁ s₂ : Nat}
    (h2 : 2 ≤ s₁) (hle : s₁ ≤ s₂)
    (hne : segmentCantReach prog params s₁ goal ≠ .ok .segmentLimit) :
    segmentCantReach prog params s₂ goal = segmentCantReach prog params s₁ goal := by
  simp only [segmentCantReach, if_neg (Nat.not_lt_of_le h2),
    if_neg (Nat.not_lt_of_le (Nat.le_trans h2 hle))] at hne ⊢
  split
  · rfl
  next hc =>
    rw [if_neg hc] at hne
    exact segmentLoop_mono _ goal hne (Nat.sub_le_sub_right hle 1)

theorem segmentCantReach_dichotomy' (prog : Prog) (params : Nat × Nat) (goal : Term) (s₁ s₂ : Nat)
    (h2 : 2 ≤ s₁) (hle : s₁ ≤ s₂) :
    segmentCantReach prog params s₂ goal = segmentCantReach prog params s₁ goal ∨
      segmentCantReach prog params s₁ goal = .ok .segmentLimit :=
  Decidable.or_iff_not_imp_right.2 (segmentCantReach_mono prog params goal h2 hle)

/-- The `.ok` form needs no side condition on `s₁`: a call that fails the entry assertion answers
    `.error .panic`. -/
theorem segmentCantReach_ok_mono (prog : Prog) (params : Nat × Nat) (goal : Term) {s₁ s₂ : Nat}
    {r : SegmentResult} (h : segmentCantReach prog params s₁ goal = .ok r) (hne : r ≠ .segmentLimit)
    (hle : s₁ ≤ s₂) : segmentCantReach prog params s₂ goal = .ok r := by
  have h2 : 2 ≤ s₁ := Nat.le_of_not_lt fun h1 => by rw [segmentCantReach, if_pos h1] at h; cases h
  have hne' : segmentCantReach prog params s₁ goal ≠ .ok .segmentLimit :=
    fun e => hne (Except.ok.inj (h.symm.trans e))
  rw [segmentCantReach_mono prog params goal h2 hle hne', h]

end BB.Segment
