/-
`run_quick_machine` against the L0 machine: a loop invariant linking `quickIter` / `quickLoop` /
`quickAfter` to `RunAt`, and what it gives for the result record.
-/
import BB.Lemmas.StepRefine

namespace BB

/-- the loop state after `n` full iterations of `run_quick_machine`'s loop (none once it stopped) -/
def quickAfter (p : Prog) : Nat → Option QState
  | 0 => some QState.init
  | n + 1 => match quickAfter p n with
    | none => none
    | some s => match quickIter p s with
      | .cont s' => some s'
      | .done _ _ _ _ => none

theorem Blanks.exists_of_contains {b : Blanks} {q : Nat} (h : b.contains q = true) :
    ∃ n, (q, n) ∈ b := by
  simp only [Blanks.contains, List.any_eq_true, beq_iff_eq] at h
  obtain ⟨⟨k, v⟩, hx, rfl⟩ := h
  exact ⟨v, hx⟩

theorem Blanks.contains_of_mem {b : Blanks} {q n : Nat} (h : (q, n) ∈ b) :
    b.contains q = true :=
  List.any_eq_true.2 ⟨(q, n), h, beq_self_eq_true q⟩

theorem Blanks.insert_spec (b : Blanks) (q n : Nat) :
    (q, n) ∈ Blanks.insert b q n ∧
    (∀ x ∈ b, x.1 ≠ q → x ∈ Blanks.insert b q n) ∧
    (∀ x ∈ Blanks.insert b q n, x = (q, n) ∨ x ∈ b) := by
  induction b with
  | nil =>
    refine ⟨.head _, fun _ h => ?_, fun x h => .inl (List.mem_singleton.1 h)⟩
    cases h
  | cons kv rest ih =>
    obtain ⟨ih1, ih2, ih3⟩ := ih
    obtain ⟨k, v⟩ := kv
    rw [Blanks.insert]
    by_cases hk : (k == q) = true
    · rw [if_pos hk]
      exact ⟨.head _,
        fun x hx hq => (List.mem_cons.1 hx).elim (fun e => absurd (e ▸ beq_iff_eq.1 hk) hq)
          (List.mem_cons_of_mem _),
        fun x hx => (List.mem_cons.1 hx).imp_right (List.mem_cons_of_mem _)⟩
    rw [if_neg hk]
    by_cases hlt : q < k
    · rw [if_pos hlt]
      exact ⟨.head _, fun x hx _ => List.mem_cons_of_mem _ hx, fun x hx => List.mem_cons.1 hx⟩
    · rw [if_neg hlt]
      exact ⟨List.mem_cons_of_mem _ ih1,
        fun x hx hq => (List.mem_cons.1 hx).elim (fun e => e ▸ .head _)
          (fun m => List.mem_cons_of_mem _ (ih2 x m hq)),
        fun x hx => (List.mem_cons.1 hx).elim (fun e => .inr (e ▸ .head _))
          (fun m => (ih3 x m).imp_right (List.mem_cons_of_mem _))⟩

theorem Blanks.mem_insert_self (b : Blanks) (q n : Nat) : (q, n) ∈ Blanks.insert b q n :=
  (Blanks.insert_spec b q n).1

theorem Blanks.mem_insert_of_mem {b : Blanks} {q n : Nat} {x : Nat × Nat} (h : x ∈ b)
    (hq : x.1 ≠ q) : x ∈ Blanks.insert b q n :=
  (Blanks.insert_spec b q n).2.1 x h hq

theorem Blanks.mem_insert {b : Blanks} {q n : Nat} {x : Nat × Nat}
    (h : x ∈ Blanks.insert b q n) : x = (q, n) ∨ x ∈ b :=
  (Blanks.insert_spec b q n).2.2 x h

/-- what is known about the loop state at the top of every iteration -/
structure QInv (p : Prog) (s : QState) : Prop where
  canon : s.tape.Canon
  run : ∃ c, RunAt p.toF s.steps c ∧ c ≈c s.tape.toCfg s.state
  blanks : ∀ q n, (q, n) ∈ s.blanks → BlankAfter p.toF n q ∧ n ≤ s.steps

theorem QInv.init (p : Prog) : QInv p QState.init :=
  ⟨Tape.canon_init 0, ⟨Cfg.init, rfl, Cfg.Equiv.refl _⟩, fun _ _ h => nomatch h⟩

/-- what is known about the final loop state when an iteration returns -/
structure QDone (p : Prog) (res : TermRes) (ls : Option Slot) (setC : Bool) (s' : QState) :
    Prop where
  blanks : ∀ q n, (q, n) ∈ s'.blanks → BlankAfter p.toF n q
  notX : res ≠ .xlimit
  marks : res ≠ .overflow → ∃ c, RunAt p.toF s'.steps c ∧ c.marks = s'.tape.marks
  undfnd : res = .undfnd →
    setC = true ∧ ∃ q sc, ls = some (q, sc) ∧ HaltsAt p.toF s'.steps q sc
  spnout : res = .spnout → setC = true ∧ ∃ c, RunAt p.toF s'.steps c ∧ SpinOutCfg p.toF c
  infrul : res = .infrul → NeverHalts p.toF

theorem QInv.marks {p : Prog} {s : QState} (inv : QInv p s) :
    ∃ c, RunAt p.toF s.steps c ∧ c.marks = s.tape.marks :=
  let ⟨c, hrun, hc⟩ := inv.run
  ⟨c, hrun, hc.marks_eq.trans (s.tape.marks_toCfg s.state).symm⟩

theorem QInv.done {p : Prog} {s : QState} (inv : QInv p s) {res : TermRes} {ls : Option Slot}
    {setC : Bool} (hx : res ≠ .xlimit)
    (hu : res = .undfnd → setC = true ∧ ∃ q sc, ls = some (q, sc) ∧ HaltsAt p.toF s.steps q sc)
    (hs : res = .spnout → setC = true ∧ ∃ c, RunAt p.toF s.steps c ∧ SpinOutCfg p.toF c)
    (hi : res = .infrul → NeverHalts p.toF) : QDone p res ls setC s :=
  ⟨fun q n h => (inv.blanks q n h).1, hx, fun _ => inv.marks, hu, hs, hi⟩

theorem QInv.blankAfter {p : Prog} {s : QState} (inv : QInv p s) (hb : s.tape.blank = true)
    (h0 : 0 < s.steps) : BlankAfter p.toF s.steps s.state :=
  let ⟨c, hrun, hc⟩ := inv.run
  ⟨h0, c, hrun, hc.1, hc.symm.blank ((Tape.blank_iff inv.canon s.state).1 hb)⟩

theorem QInv.record {p : Prog} {s : QState} (inv : QInv p s) (hb : s.tape.blank = true)
    (h0 : 0 < s.steps) : QInv p { s with blanks := s.blanks.insert s.state s.steps } :=
  ⟨inv.canon, inv.run, fun q n h => by
    cases Blanks.mem_insert h with
    | inl e => cases e; exact ⟨inv.blankAfter hb h0, Nat.le_refl _⟩
    | inr m => exact inv.blanks q n m⟩

theorem quickIter_none {p : Prog} {s : QState} (h : p.get (s.state, s.tape.scan) = none) :
    quickIter p s = .done .undfnd (some (s.state, s.tape.scan)) true s := by
  unfold quickIter; rw [h]

theorem quickIter_some {p : Prog} {s : QState} {color : Nat} {shift : Bool} {next : Nat}
    (h : p.get (s.state, s.tape.scan) = some (color, shift, next)) {r : Tape × Nat}
    (hr : s.tape.step shift color (s.state == next) = r) :
    quickIter p s =
      if (s.state == next && s.tape.atEdge shift) = true then .done .spnout none true s
      else if s.steps + r.2 ≥ u64Max then
        .done .overflow none false { s with tape := r.1, steps := s.steps + r.2 }
      else if (color == 0 && r.1.blank) = true then
        if s.blanks.contains next = true then
          .done .infrul none false ⟨r.1, next, s.steps + r.2, s.blanks⟩
        else if (next == 0) = true then
          .done .infrul none false
            ⟨r.1, next, s.steps + r.2, s.blanks.insert next (s.steps + r.2)⟩
        else .cont ⟨r.1, next, s.steps + r.2, s.blanks.insert next (s.steps + r.2)⟩
      else .cont ⟨r.1, next, s.steps + r.2, s.blanks⟩ := by
  subst hr; unfold quickIter; rw [h]

theorem QInv.step {p : Prog} {s : QState} (inv : QInv p s) {color : Nat} {shift : Bool}
    {next : Nat} (h : p.get (s.state, s.tape.scan) = some (color, shift, next)) :
    0 < (s.tape.step shift color (s.state == next)).2 ∧
    QInv p ⟨(s.tape.step shift color (s.state == next)).1, next,
      s.steps + (s.tape.step shift color (s.state == next)).2, s.blanks⟩ := by
  obtain ⟨c, hrun, hc⟩ := inv.run
  obtain ⟨hpos, ⟨c', hc', e'⟩, -⟩ := Tape.cycle_refines (p := p.toF) inv.canon.pos h hc
  exact ⟨hpos, Tape.canon_step inv.canon _ _ _, ⟨c', stepN_add_of_eq hrun hc', e'⟩,
    fun q n m => ⟨(inv.blanks q n m).1, Nat.le_trans (inv.blanks q n m).2 (Nat.le_add_right _ _)⟩⟩

theorem quickIter_spec (p : Prog) (s : QState) (inv : QInv p s) :
    match quickIter p s with
    | .cont s' => QInv p s'
    | .done res ls setC s' => QDone p res ls setC s' := by
  obtain ⟨c, hrun, hc⟩ := inv.run
  cases hget : p.get (s.state, s.tape.scan) with
  | none =>
    rw [quickIter_none hget]
    exact inv.done (by decide) (fun _ => ⟨rfl, _, _, rfl, c, hrun, hc.1, hc.2.1, hget⟩)
      nofun nofun
  | some i =>
    obtain ⟨color, shift, next⟩ := i
    obtain ⟨hpos, inv1⟩ := inv.step hget
    generalize hr : s.tape.step shift color (s.state == next) = r at hpos inv1
    rw [quickIter_some hget hr]
    by_cases hedge : (s.state == next && s.tape.atEdge shift) = true
    · rw [if_pos hedge]
      -- the machine is where the model is, and `atEdge` means all cells ahead are blank
      simp only [Bool.and_eq_true, beq_iff_eq] at hedge
      have hspin : SpinOutCfg p.toF c := SpinOutCfg.congr hc.symm
        (Tape.spinOutCfg_of_atEdge inv.canon (hedge.1.symm ▸ hget) hedge.2)
      exact inv.done (by decide) nofun (fun _ => ⟨rfl, c, hrun, hspin⟩) nofun
    · rw [if_neg hedge]
      have h0 : 0 < s.steps + r.2 := Nat.lt_of_lt_of_le hpos (Nat.le_add_left _ _)
      by_cases hov : s.steps + r.2 ≥ u64Max
      · rw [if_pos hov]
        exact ⟨fun q n h => (inv.blanks q n h).1, by decide, fun h => absurd rfl h,
          nofun, nofun, nofun⟩
      rw [if_neg hov]
      by_cases hbl : (color == 0 && r.1.blank) = true
      · rw [if_pos hbl]
        have hnew := inv1.blankAfter (Bool.and_eq_true_iff.1 hbl).2 h0
        by_cases hcont : s.blanks.contains next = true
        · rw [if_pos hcont]
          -- blank in state `next` now, and at the earlier step recorded for `next`
          obtain ⟨n, hn⟩ := Blanks.exists_of_contains hcont
          obtain ⟨hold, hle⟩ := inv.blanks next n hn
          exact inv1.done (by decide) nofun nofun fun _ =>
            hold.again (Nat.lt_of_le_of_lt hle (Nat.lt_add_of_pos_right hpos)) hnew
        · rw [if_neg hcont]
          have inv2 := inv1.record (Bool.and_eq_true_iff.1 hbl).2 h0
          by_cases hz : (next == 0) = true
          · rw [if_pos hz]
            exact inv2.done (by decide) nofun nofun fun _ =>
              BlankAfter.start (beq_iff_eq.1 hz ▸ hnew)
          · rw [if_neg hz]
            exact inv2
      · rw [if_neg hbl]
        exact inv1

theorem quickAfter_succ_of_cont {p : Prog} {n : Nat} {s s' : QState}
    (h : quickAfter p n = some s) (hi : quickIter p s = .cont s') :
    quickAfter p (n + 1) = some s' := by
  simp only [quickAfter, h, hi]

theorem quickAfter_succ_inv {p : Prog} {n : Nat} {s' : QState}
    (h : quickAfter p (n + 1) = some s') :
    ∃ s, quickAfter p n = some s ∧ quickIter p s = .cont s' := by
  rw [quickAfter] at h
  split at h
  · cases h
  · next s hq =>
    split at h
    · next s1 hi => cases h; exact ⟨s, hq, hi⟩
    · cases h

theorem quickAfter_induction {p : Prog} {P : QState → Prop} (h0 : P QState.init)
    (hstep : ∀ s s', P s → quickIter p s = .cont s' → P s') :
    ∀ n s, quickAfter p n = some s → P s
  | 0, _, h => Option.some.inj h ▸ h0
  | n + 1, _, h =>
    let ⟨s0, hq, hi⟩ := quickAfter_succ_inv h
    hstep s0 _ (quickAfter_induction h0 hstep n s0 hq) hi

theorem quickAfter_inv (p : Prog) (n : Nat) (s : QState) (h : quickAfter p n = some s) :
    QInv p s :=
  quickAfter_induction (QInv.init p)
    (fun s s' inv hi => by have := quickIter_spec p s inv; rwa [hi] at this) n s h

theorem quickLoop_cases (p : Prog) (fuel cycle : Nat) (s : QState)
    (h : quickAfter p cycle = some s) :
    (∃ s', quickAfter p (cycle + fuel) = some s' ∧
      quickLoop p fuel cycle s = mkResult .xlimit none 0 s') ∨
    (∃ c s0 res ls setC s', c < cycle + fuel ∧ quickAfter p c = some s0 ∧
      quickIter p s0 = .done res ls setC s' ∧
      quickLoop p fuel cycle s = mkResult res ls (if setC then c else 0) s') := by
  induction fuel generalizing cycle s with
  | zero => exact .inl ⟨s, h, rfl⟩
  | succ fuel ih =>
    rw [quickLoop, ← Nat.add_assoc, Nat.add_right_comm]
    cases hi : quickIter p s with
    | cont s' => exact ih (cycle + 1) s' (quickAfter_succ_of_cont h hi)
    | done res ls setC s' =>
      exact .inr ⟨cycle, s, res, ls, setC, s', by omega, h, hi, rfl⟩

/-- everything the property theorems say about a result record, for a run allowed `lim` cycles -/
structure ResSpec (p : Prog) (lim : Nat) (r : MachineResult) : Prop where
  blanks : ∀ q n, (q, n) ∈ r.blanks → BlankAfter p.toF n q
  marks : r.result ≠ .overflow → ∃ c, RunAt p.toF r.steps c ∧ c.marks = r.marks
  undfnd : r.result = .undfnd →
    ∃ q s, r.lastSlot = some (q, s) ∧ HaltsAt p.toF r.steps q s
  spnout : r.result = .spnout → ∃ c, RunAt p.toF r.steps c ∧ SpinOutCfg p.toF c
  infrul : r.result = .infrul → NeverHalts p.toF
  xlimit : r.result = .xlimit → (quickAfter p lim).isSome ∧ r.cycles = 0
  cycles : r.result = .undfnd ∨ r.result = .spnout →
    (quickAfter p r.cycles).isSome ∧ r.cycles < lim

theorem runQuick_spec (p : Prog) (lim : Nat) : ResSpec p lim (runQuick p lim) := by
  rw [runQuick]
  rcases quickLoop_cases p lim 0 QState.init rfl with
    ⟨s', h, e⟩ | ⟨c, s0, res, ls, setC, s', hc, h, hi, e⟩
  · rw [Nat.zero_add] at h
    have inv := quickAfter_inv p lim s' h
    rw [e]
    exact ⟨fun q n m => (inv.blanks q n m).1, fun _ => inv.marks, nofun, nofun, nofun,
      fun _ => ⟨h ▸ rfl, rfl⟩, fun e => by rcases e with e | e <;> cases e⟩
  · rw [Nat.zero_add] at hc
    have d : QDone p res ls setC s' := by
      have := quickIter_spec p s0 (quickAfter_inv p c s0 h)
      rwa [hi] at this
    rw [e]
    refine ⟨d.blanks, d.marks, fun e => (d.undfnd e).2, fun e => (d.spnout e).2, d.infrul,
      fun e => absurd e d.notX, fun e => ?_⟩
    -- `cycles` is set exactly on these two results
    have hset : setC = true := e.elim (fun e => (d.undfnd e).1) (fun e => (d.spnout e).1)
    subst hset
    exact ⟨h ▸ rfl, hc⟩

end BB
