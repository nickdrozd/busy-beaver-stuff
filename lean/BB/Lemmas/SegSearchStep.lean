/-
C05 — segment analysis.  The search loop (`all_segments_reached`): the two branching loops are folds
of one marking step (`markStep`).  The loop keeps every pending configuration well formed and
`init`-exact, hence every positive verdict (`halt`, `blank`, `spinout`, `repeat`) is true of the
real machine.
-/
import BB.Lemmas.SegContainers

namespace BB.Segment

open BB

def CfgOK (prog : Prog) (c : Config) : Prop := c.tape.WF ∧ InitExact prog.toF c

def TodoOK (prog : Prog) (cs : Configs) : Prop := ∀ c ∈ cs.todo, CfgOK prog c

theorem cfgOK_of_blank {prog : Prog} {state : Nat} {t : Tape} {blank : Bool} (hwf : t.WF)
    (hb : blank = true → Tape.blank t = true) : CfgOK prog ⟨state, t, blank && state == 0⟩ := by
  refine ⟨hwf, fun h => ⟨0, ?_⟩⟩
  simp only at h
  rw [Bool.and_eq_true, beq_iff_eq] at h
  exact exactAt_zero_of_blank hwf (hb h.1) h.2

theorem TodoOK.of_todo {prog : Prog} {c c' : Configs} (hc : TodoOK prog c) (h : c'.todo = c.todo) :
    TodoOK prog c' := fun x hx => hc x (h ▸ hx)

/-- the body of both branching loops: `check_seen`, then `add_todo` when the mark is new -/
def markStep (tape : Tape) (blank : Bool) (c : Configs) (state : Nat) : Configs :=
  match Configs.checkSeen c state tape blank with
  | (none, c1) => c1
  | (some init, c1) => Configs.addTodo c1 ⟨state, tape, init⟩

theorem branchOut_eq_foldl (config : Config) (blank : Bool) (l : List Nat) (c : Configs) :
    Configs.branchOut c config blank l = l.foldl (markStep config.tape blank) c := by
  induction l generalizing c with
  | nil => rfl
  | cons state rest ih =>
    rw [List.foldl_cons, ← ih]
    unfold markStep
    rw [Configs.branchOut]
    generalize Configs.checkSeen c state config.tape blank = r
    obtain ⟨_ | init, c1⟩ := r <;> rfl

theorem branchInLoop_eq_foldl {tape nt : Tape} {shift : Bool}
    (hsi : Tape.stepIn tape shift = some nt) (blank : Bool) (l : List Nat) (c : Configs) :
    Configs.branchInLoop c tape shift blank l = some (l.foldl (markStep nt blank) c) := by
  induction l generalizing c with
  | nil => rfl
  | cons state rest ih =>
    rw [List.foldl_cons, ← ih]
    unfold markStep
    simp only [Configs.branchInLoop, hsi]
    generalize Configs.checkSeen c state nt blank = r
    obtain ⟨_ | init, c1⟩ := r <;> rfl

theorem markStep_ok {prog : Prog} {c : Configs} {tape : Tape} {blank : Bool} (hc : TodoOK prog c)
    (hwf : tape.WF) (hb : blank = true → Tape.blank tape = true) (state : Nat) :
    TodoOK prog (markStep tape blank c state) := by
  have hnew : ∀ x ∈ (⟨state, tape, blank && state == 0⟩ : Config) :: c.todo, CfgOK prog x :=
    fun x hx => (List.mem_cons.1 hx).elim (· ▸ cfgOK_of_blank hwf hb) (hc x)
  unfold markStep
  rcases checkSeen_cases c state tape blank with ⟨he, _⟩ | ⟨_, he⟩ | ⟨_, he⟩ <;> rw [he]
  · exact hc
  · exact hnew
  · exact hnew

theorem foldl_markStep_ok {prog : Prog} {tape : Tape} {blank : Bool} (hwf : tape.WF)
    (hb : blank = true → Tape.blank tape = true) (l : List Nat) {c : Configs} (hc : TodoOK prog c) :
    TodoOK prog (l.foldl (markStep tape blank) c) :=
  List.foldlRecOn l _ hc fun _ hc' state _ => markStep_ok hc' hwf hb state

/-- what each answer of the search claims about the real machine -/
def SearchVerdict (p : ProgF) : SearchResult → Prop
  | .found .halt => Halts p
  | .found .spinout => SpinsOut p
  | .found .blank => ∃ n q, BlankAfter p n q
  | .repeat => NeverHalts p
  | .limit => True
  | .reached => True

/-- an iteration of the search that does not fail answers with `Post` or goes on with `Inv` -/
def StepOut.Sat (Inv : Configs → Prop) (Post : SearchResult → Prop) : Except Err StepOut → Prop
  | .error _ => True
  | .ok (.done v) => Post v
  | .ok (.cont cs) => Inv cs

theorem StepOut.Sat.of_cont {Inv : Configs → Prop} {x : Except Err StepOut}
    (h : ∀ cs2, x = .ok (.cont cs2) → Inv cs2) : StepOut.Sat Inv (fun _ => True) x := by
  cases x with
  | error e => trivial
  | ok so =>
    cases so with
    | done v => trivial
    | cont cs2 => exact h cs2 rfl

theorem halts_of_exact {prog : Prog} {cfg : Config} {s : Nat} (hex : InitExact prog.toF cfg)
    (hi : cfg.init = true) (hs : cfg.tape.scan = some s) (hg : prog.get (cfg.state, s) = none) :
    Halts prog.toF := by
  obtain ⟨n, c, hr, he⟩ := hex hi
  refine ⟨n, cfg.state, s, c, hr, he.1, ?_, hg⟩
  rw [he.2.1]
  simp [Config.toCfg, hs]

theorem spinsOut_of_exact {prog : Prog} {cfg : Config} {s : Nat} {instr : Instr}
    (hwf : cfg.tape.WF) (hex : InitExact prog.toF cfg)
    (hi : cfg.init = true) (hs : cfg.tape.scan = some s) (hg : prog.get (cfg.state, s) = some instr)
    (hsp : Config.spinout cfg instr = true) : SpinsOut prog.toF := by
  obtain ⟨n, c, hr, he⟩ := hex hi
  refine ⟨n, c, hr, ?_⟩
  obtain ⟨pr, sh, q⟩ := instr
  unfold Config.spinout Tape.atEdge at hsp
  simp only [hs, Bool.and_eq_true, beq_iff_eq] at hsp
  obtain ⟨hq, hs0, hbl⟩ := hsp
  subst hs0
  have hscan : c.scan = 0 := by rw [he.2.1]; simp [Config.toCfg, hs]
  refine ⟨hscan, pr, sh, ?_, ?_⟩
  · show prog.get (c.state, 0) = _
    rw [he.1]
    show prog.get (cfg.state, 0) = some (pr, sh, cfg.state)
    rw [hg, hq]
  · cases sh with
    | true =>
      simp only [if_true] at hbl ⊢
      exact (he.2.2.2.symm).allZero ((Span.blank_iff _ hwf.rpos).1 hbl)
    | false =>
      simp only [Bool.false_eq_true, if_false] at hbl ⊢
      exact (he.2.2.1.symm).allZero ((Span.blank_iff _ hwf.lpos).1 hbl)

theorem resultStep_spec (prog : Prog) (goal : Term) (out : RunOut) (r : SearchResult)
    {T : List Config} (hp : RunPost prog goal T out) (hr : out.result = some r) (hc : TodoOK prog out.configs) :
    StepOut.Sat (TodoOK prog) (SearchVerdict prog.toF)
      (resultStep goal r out.config out.configs) := by
  -- the shared end of the `found` arms: `reached`, or go on
  have hcr : StepOut.Sat (TodoOK prog) (SearchVerdict prog.toF)
      (if (Configs.checkReached out.configs out.config goal).1 = true then .ok (.done .reached)
        else .ok (.cont (Configs.checkReached out.configs out.config goal).2)) := by
    split
    · trivial
    · exact hc.of_todo (checkReached_todo _ _ _)
  cases r with
  | limit => exact hc
  | reached => exact hc
  | «repeat» =>
    simp only [resultStep]
    by_cases hi : out.config.init = true
    · rw [if_pos hi]
      obtain ⟨hnh, hbl⟩ := hp.rep hr hi
      by_cases hb : (goal == Term.blank && Tape.blank out.config.tape) = true
      · rw [if_pos hb]
        simp only [Bool.and_eq_true, beq_iff_eq] at hb
        obtain ⟨n, hn, c, hrun, he⟩ := hbl hb.1
        exact ⟨n, c.state, hn, c, hrun, rfl, he.symm.blank ((Tape.blank_iff hp.wf).1 hb.2)⟩
      · rw [if_neg hb]
        exact hnh
    · rw [if_neg hi]
      exact hc
  | found t =>
    cases t with
    | halt =>
      simp only [resultStep]
      by_cases hi : out.config.init = true
      · rw [if_pos hi]
        obtain ⟨s, hs, hg⟩ := hp.halt hr
        exact halts_of_exact hp.exa hi hs hg
      · rw [if_neg hi]
        by_cases hg : (goal == Term.halt) = true
        · rw [if_pos hg]; exact hcr
        · rw [if_neg hg]; exact hc
    | blank =>
      simp only [resultStep]
      by_cases hg : (goal != Term.blank) = true
      · rw [if_pos hg]; trivial
      · rw [if_neg hg]; exact hcr
    | spinout =>
      simp only [resultStep]
      by_cases hi : out.config.init = true
      · rw [if_pos hi]
        obtain ⟨s, instr, hs, hg, hsp⟩ := hp.spin hr
        exact spinsOut_of_exact hp.wf hp.exa hi hs hg hsp
      · rw [if_neg hi]
        by_cases hg : (goal != Term.spinout) = true
        · rw [if_pos hg]; trivial
        · rw [if_neg hg]; exact hcr

/-- the `goal_tape` test of `all_segments_reached` -/
def goalTapeOf (prog : AnalyzedProg) (goal : Term) (config : Config) : Except Err Bool :=
  match goal with
  | .halt => .ok true
  | .blank => .ok (Tape.blank config.tape)
  | .spinout =>
    match dictGet prog.spinouts config.state with
    | none => .ok false
    | some shift =>
      match Tape.side config.tape with
      | none => .error .panic
      | some side => .ok (shift == side || Tape.blank config.tape)

/-- the part of `edgeStep` after the `goal_tape` test and `check_reached` -/
def edgeBranch (prog : AnalyzedProg) (config : Config) (configs : Configs) : Except Err StepOut :=
  match dictGet prog.branches config.state with
  | none => .error .panic
  | some (diffs, dirs) =>
    let blank := Tape.blank config.tape
    match Configs.branchIn configs config.tape dirs blank with
    | none => .error .panic
    | some configs =>
      let configs := Configs.branchOut configs config blank diffs
      if Configs.checkDepth configs then .ok (.done .limit) else .ok (.cont configs)

theorem edgeStep_eq (prog : AnalyzedProg) (goal : Term) (config : Config) (configs : Configs) :
    edgeStep prog goal config configs =
      match goalTapeOf prog goal config with
      | .error e => .error e
      | .ok goalTape =>
        let hc : Bool × Configs :=
          if goalTape then Configs.checkReached configs config goal else (false, configs)
        if hc.1 then .ok (.done .reached) else edgeBranch prog config hc.2 := rfl

theorem edgeBranch_cases (ap : AnalyzedProg) (config : Config) (cs : Configs) :
    edgeBranch ap config cs = .error .panic ∨
    ∃ diffs dirs side c3, dictGet ap.branches config.state = some (diffs, dirs) ∧
      Tape.side config.tape = some side ∧
      ((Tape.stepIn config.tape (!side) = none ∧ c3 = cs) ∨
        ∃ nt, Tape.stepIn config.tape (!side) = some nt ∧
          c3 = (Dirs.get dirs (!side)).foldl (markStep nt (Tape.blank config.tape)) cs) ∧
      edgeBranch ap config cs =
        if Configs.checkDepth (diffs.foldl (markStep config.tape (Tape.blank config.tape)) c3) then
          .ok (.done .limit)
        else .ok (.cont (diffs.foldl (markStep config.tape (Tape.blank config.tape)) c3)) := by
  unfold edgeBranch Configs.branchIn
  cases dictGet ap.branches config.state with
  | none => exact Or.inl rfl
  | some dd =>
    obtain ⟨diffs, dirs⟩ := dd
    cases Tape.side config.tape with
    | none => exact Or.inl rfl
    | some side =>
      dsimp only
      cases hsi : Tape.stepIn config.tape (!side) with
      | some nt =>
        rw [branchInLoop_eq_foldl hsi]
        simp only [branchOut_eq_foldl]
        exact Or.inr ⟨diffs, dirs, side, _, rfl, rfl, Or.inr ⟨nt, hsi, rfl⟩, rfl⟩
      | none =>
        cases hl : Dirs.get dirs (!side) with
        | cons s rest => rw [Configs.branchInLoop, hsi]; exact Or.inl rfl
        | nil =>
          simp only [Configs.branchInLoop, branchOut_eq_foldl]
          exact Or.inr ⟨diffs, dirs, side, cs, rfl, rfl, Or.inl ⟨hsi, rfl⟩, rfl⟩

theorem edgeBranch_cont {ap : AnalyzedProg} {config : Config} {cs cs2 : Configs}
    (h : edgeBranch ap config cs = .ok (.cont cs2)) :
    ∃ diffs dirs side c3, dictGet ap.branches config.state = some (diffs, dirs) ∧
      Tape.side config.tape = some side ∧
      ((Tape.stepIn config.tape (!side) = none ∧ c3 = cs) ∨
        ∃ nt, Tape.stepIn config.tape (!side) = some nt ∧
          c3 = (Dirs.get dirs (!side)).foldl (markStep nt (Tape.blank config.tape)) cs) ∧
      cs2 = diffs.foldl (markStep config.tape (Tape.blank config.tape)) c3 := by
  rcases edgeBranch_cases ap config cs with he | ⟨diffs, dirs, side, c3, h1, h2, h3, he⟩ <;>
    rw [he] at h
  · cases h
  · refine ⟨diffs, dirs, side, c3, h1, h2, h3, ?_⟩
    split at h <;> cases h
    rfl

theorem edgeBranch_spec (prog : AnalyzedProg) (config : Config) (configs : Configs)
    (hwf : config.tape.WF) (hc : TodoOK prog.prog configs) :
    StepOut.Sat (TodoOK prog.prog) (SearchVerdict prog.prog.toF)
      (edgeBranch prog config configs) := by
  rcases edgeBranch_cases prog config configs with he | ⟨diffs, dirs, side, c3, -, -, h3, he⟩ <;>
    rw [he]
  · trivial
  · by_cases hd : Configs.checkDepth
        (diffs.foldl (markStep config.tape (Tape.blank config.tape)) c3) = true
    · rw [if_pos hd]; trivial
    · rw [if_neg hd]
      refine foldl_markStep_ok hwf id diffs ?_
      rcases h3 with ⟨-, rfl⟩ | ⟨nt, hsi, rfl⟩
      · exact hc
      · obtain ⟨hwf', hb', -⟩ := Tape.stepIn_spec hwf hsi
        exact foldl_markStep_ok hwf' hb'.trans _ hc

theorem edgeStep_spec (prog : AnalyzedProg) (goal : Term) (config : Config) (configs : Configs)
    (hwf : config.tape.WF) (hc : TodoOK prog.prog configs) :
    StepOut.Sat (TodoOK prog.prog) (SearchVerdict prog.prog.toF)
      (edgeStep prog goal config configs) := by
  rw [edgeStep_eq]
  cases goalTapeOf prog goal config with
  | error e => trivial
  | ok goalTape =>
    simp only
    have hc1 : TodoOK prog.prog (if goalTape = true then Configs.checkReached configs config goal
        else (false, configs)).2 := by
      split
      · exact hc.of_todo (checkReached_todo _ _ _)
      · exact hc
    revert hc1
    generalize (if goalTape = true then Configs.checkReached configs config goal
        else (false, configs)) = hcfs
    obtain ⟨_ | _, cfs⟩ := hcfs
    · exact edgeBranch_spec prog config cfs hwf
    · exact fun _ => trivial

theorem searchStep_spec (prog : AnalyzedProg) (goal : Term) (fuel : Nat) (config : Config)
    (configs : Configs) (hok : CfgOK prog.prog config) (hc : TodoOK prog.prog configs) :
    StepOut.Sat (TodoOK prog.prog) (SearchVerdict prog.prog.toF)
      (searchStep prog goal fuel config configs) := by
  unfold searchStep
  cases hrt : runToEdge prog.prog goal fuel config configs with
  | error e => trivial
  | ok out =>
    have hp := runToEdge_post prog.prog goal fuel config configs out hok.1 hok.2 hrt
    have hc' := hc.of_todo hp.todo
    obtain ⟨res, cfg, cfs⟩ := out
    cases res with
    | some r => exact resultStep_spec prog.prog goal ⟨some r, cfg, cfs⟩ r hp rfl hc'
    | none => exact edgeStep_spec prog goal cfg cfs hp.wf hc'

/-- the bookkeeping after the initial position `pos` has been inserted -/
def afterInit (cs : Configs) (pos : Nat) : Configs :=
  { cs with blanks := dictSetInsert (dictEnsure cs.blanks 0) 0 pos }

theorem afterInit_dHas (cs : Configs) (pos q p : Nat) :
    DHas (afterInit cs pos).blanks q p ↔ DHas cs.blanks q p ∨ (q = 0 ∧ p = pos) := by
  unfold afterInit
  rw [dHas_dictSetInsert, dHas_dictEnsure]

theorem Configs.next_cases (c : Configs) :
    (∃ pos, pos < c.seg ∧ (∀ j, j < pos → DHas c.blanks 0 j) ∧
      Configs.next c = (Tape.init c.seg pos).map fun t => (some ⟨0, t, true⟩, afterInit c pos)) ∨
    ((∀ pos, pos < c.seg → DHas c.blanks 0 pos) ∧
      Configs.next c = some (match c.todo with
        | [] => (none, { c with blanks := dictEnsure c.blanks 0 })
        | x :: rest => (some x, { c with blanks := dictEnsure c.blanks 0, todo := rest }))) := by
  have hd : ∀ j, (!!((dictGet (dictEnsure c.blanks 0) 0).getD []).contains j) = true ↔
      DHas c.blanks 0 j := fun j => by
    rw [← dHas_dictEnsure c.blanks 0, dHas_iff, Bool.not_not, List.contains_iff_mem]
  unfold Configs.next Configs.nextInit
  dsimp only
  cases hf : List.find? (fun pos => !((dictGet (dictEnsure c.blanks 0) 0).getD []).contains pos)
      (List.range c.seg) with
  | none =>
    exact Or.inr ⟨fun pos hpos => (hd pos).1 (List.find?_range_eq_none.1 hf pos hpos),
      by cases c.todo <;> rfl⟩
  | some pos =>
    obtain ⟨-, h1, h3⟩ := List.find?_range_eq_some.1 hf
    refine Or.inl ⟨pos, List.mem_range.1 h1, fun j hj => (hd j).1 (h3 j hj), ?_⟩
    unfold Config.mkInit
    dsimp only
    cases Tape.init c.seg pos <;> rfl

theorem next_spec {prog : Prog} {c c' : Configs} {config : Config} (hc : TodoOK prog c)
    (h : Configs.next c = some (some config, c')) : CfgOK prog config ∧ TodoOK prog c' := by
  rcases Configs.next_cases c with ⟨pos, -, -, he⟩ | ⟨-, he⟩ <;> rw [he] at h
  · -- an initial configuration: a blank tape in state 0, flagged
    cases hti : Tape.init c.seg pos with
    | none => rw [hti] at h; cases h
    | some t =>
      rw [hti] at h
      cases h
      obtain ⟨hwf, hb, -⟩ := Tape.init_spec hti
      exact ⟨cfgOK_of_blank (blank := true) (state := 0) hwf (fun _ => hb), hc⟩
  · cases htd : c.todo with
    | nil => rw [htd] at h; cases h
    | cons x rest =>
      have hx : ∀ y ∈ x :: rest, CfgOK prog y := htd ▸ hc
      rw [htd] at h
      cases h
      exact ⟨hx _ List.mem_cons_self, fun y hy => hx y (List.mem_cons_of_mem _ hy)⟩

theorem searchLoop_induct (ap : AnalyzedProg) (goal : Term) (rf : Nat) (Inv : Configs → Prop)
    (Post : Option SearchResult → Prop)
    (hnone : ∀ cs cs1, Inv cs → Configs.next cs = some (none, cs1) → Post none)
    (hstep : ∀ cs config cs1, Inv cs → Configs.next cs = some (some config, cs1) →
      StepOut.Sat Inv (fun r => Post (some r)) (searchStep ap goal rf config cs1)) :
    ∀ (fuel : Nat) (cs : Configs) (r : Option SearchResult), Inv cs →
      searchLoop ap goal rf fuel cs = .ok r → Post r := by
  intro fuel
  induction fuel with
  | zero => exact fun cs r _ h => nomatch h
  | succ fuel ih =>
    intro cs r hinv h
    rw [searchLoop] at h
    cases hn : Configs.next cs with
    | none => rw [hn] at h; cases h
    | some nr =>
      obtain ⟨oc, cs1⟩ := nr
      rw [hn] at h
      cases oc with
      | none => cases h; exact hnone cs cs1 hinv hn
      | some config =>
        have hs := hstep cs config cs1 hinv hn
        dsimp only at h
        revert h hs
        cases searchStep ap goal rf config cs1 with
        | error e => exact fun h => nomatch h
        | ok so =>
          cases so with
          | done v => intro h hs; cases h; exact hs
          | cont cs2 => exact fun h hs => ih cs2 r hs h

theorem searchLoop_verdict (prog : AnalyzedProg) (goal : Term) (rf fuel : Nat) (configs : Configs)
    (v : SearchResult) (hc : TodoOK prog.prog configs)
    (h : searchLoop prog goal rf fuel configs = .ok (some v)) : SearchVerdict prog.prog.toF v :=
  searchLoop_induct prog goal rf (TodoOK prog.prog)
    (fun r => r.elim True (SearchVerdict prog.prog.toF)) (fun _ _ _ _ => trivial)
    (fun _ config c1 hcs hn =>
      have ⟨hok, hc1⟩ := next_spec hcs hn
      searchStep_spec prog goal rf config c1 hok hc1)
    fuel configs (some v) hc h

end BB.Segment
