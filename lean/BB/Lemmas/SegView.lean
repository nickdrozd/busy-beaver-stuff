/-
C05 — segment analysis.  The real configuration seen through a window (`View`) and the simulation
theorem: at the synchronisation points every configuration of the real run up to `T`, seen through
any window placement, is the view of a configuration of a closed explored set.  Inside the window
the real machine follows `cstep`; outside it follows `branch_out` / `branch_in`, where blank tapes
at one position are interchangeable.
-/
import BB.Lemmas.SegSearchInv

namespace BB.Segment

open BB

/-- The real configuration `c`, whose head is at window coordinate `w` (`1 … seg-2` are the cells
    of the window, `≤ 0` is outside on the left, `≥ seg-1` outside on the right), shows inside the
    window exactly the cells of `X`, is in the state of `X`, and its head is where `X` says. -/
def View (c : Cfg) (w : Int) (X : Core) : Prop :=
  c.state = X.1 ∧
  match X.2.scan with
  | some _ => (∃ oL oR, c ≈c X.2.toCfgX X.1 oL oR) ∧ w = (Span.len X.2.lspan : Int) + 1
  | none =>
    (X.2.rspan = [] ∧ ∃ mid oL, SameCells c.left (mid ++ Span.unroll X.2.lspan ++ oL) ∧
      w = (Span.len X.2.lspan : Int) + 1 + mid.length) ∨
    (X.2.lspan = [] ∧ ∃ mid oR, SameCells c.right (mid ++ Span.unroll X.2.rspan ++ oR) ∧
      w = -(mid.length : Int))

theorem View.congr {c c' : Cfg} {w : Int} {X : Core} (h : View c w X) (he : c ≈c c') :
    View c' w X := by
  obtain ⟨h1, h2⟩ := h
  refine ⟨he.1.symm.trans h1, ?_⟩
  revert h2
  cases X.2.scan with
  | some s =>
    rintro ⟨⟨oL, oR, h3⟩, h4⟩
    exact ⟨⟨oL, oR, he.symm.trans h3⟩, h4⟩
  | none =>
    rintro (⟨h3, mid, oL, h4, h5⟩ | ⟨h3, mid, oR, h4, h5⟩)
    · exact Or.inl ⟨h3, mid, oL, he.2.2.1.symm.trans h4, h5⟩
    · exact Or.inr ⟨h3, mid, oR, he.2.2.2.symm.trans h4, h5⟩

theorem View.of_same_cells {c : Cfg} {w : Int} {q : Nat} {t t2 : Tape}
    (hwf2 : t2.WF) (hs : t2.scan = t.scan) (hl : Span.unroll t2.lspan = Span.unroll t.lspan)
    (hr : Span.unroll t2.rspan = Span.unroll t.rspan) (hv : View c w (q, t)) :
    View c w (q, t2) := by
  have hll : Span.len t2.lspan = Span.len t.lspan := by
    rw [← Span.length_unroll, hl, Span.length_unroll]
  have hlr : Span.len t2.rspan = Span.len t.rspan := by
    rw [← Span.length_unroll, hr, Span.length_unroll]
  obtain ⟨hst, hv2⟩ := hv
  refine ⟨hst, ?_⟩
  show match t2.scan with
    | some _ => (∃ oL oR, c ≈c t2.toCfgX q oL oR) ∧ w = (Span.len t2.lspan : Int) + 1
    | none => _
  change match t.scan with
    | some _ => (∃ oL oR, c ≈c t.toCfgX q oL oR) ∧ w = (Span.len t.lspan : Int) + 1
    | none => _ at hv2
  have hcfg : ∀ oL oR, t2.toCfgX q oL oR = t.toCfgX q oL oR := by
    intro oL oR
    unfold Tape.toCfgX Span.isEmpty
    rw [hs, hl, hr, hlr]
  rw [hs, hl, hr, hll]
  revert hv2
  cases t.scan with
  | some s =>
    rintro ⟨⟨oL, oR, he⟩, hw⟩
    exact ⟨⟨oL, oR, by rw [hcfg]; exact he⟩, hw⟩
  | none =>
    rintro (⟨h3, r⟩ | ⟨h3, r⟩)
    · exact Or.inl ⟨Span.eq_nil_of_len hwf2.rpos (by rw [hlr, h3]; rfl), r⟩
    · exact Or.inr ⟨Span.eq_nil_of_len hwf2.lpos (by rw [hll, h3]; rfl), r⟩

theorem Good.shape {seg : Nat} {t : Tape} (hseg : 4 ≤ seg) (hg : Good seg t) :
    Span.len t.lspan = Tape.pos t - 1 ∧ Span.len t.rspan = seg - 2 - Tape.pos t ∧
      (t.scan = none ↔ Tape.pos t = 0 ∨ Tape.pos t = seg - 1) := by
  cases hs : t.scan with
  | some s =>
    have hc := hg.2
    rw [Tape.cells_some hs] at hc
    rw [Tape.pos_some hs, ← hc]
    exact ⟨rfl, (Nat.add_sub_cancel_left ..).symm, (fun h => nomatch h),
      fun h => by omega⟩
  | none =>
    rcases hg.1.edge hs with hl | hr
    · obtain ⟨e1, _, e3, _⟩ := good_edge_left hseg hg hs hl
      rw [e3, e1, hl]
      exact ⟨rfl, rfl, fun _ => Or.inl rfl, fun _ => rfl⟩
    · obtain ⟨e1, _, e3, _⟩ := good_edge_right hseg hg hs hr
      rw [e3, e1, hr]
      exact ⟨(Nat.sub_sub seg 1 1).symm,
        (Nat.sub_eq_zero_of_le (Nat.sub_le_sub_left (by decide) seg)).symm,
        fun _ => Or.inr rfl, fun _ => rfl⟩

theorem View.pos_eq {seg : Nat} {c : Cfg} {o : Nat} {X : Core} (hseg : 4 ≤ seg)
    (hg : Good seg X.2) (ho : o < seg) (h : View c (o : Int) X) : Tape.pos X.2 = o := by
  obtain ⟨_, h2⟩ := h
  revert h2
  cases hs : X.2.scan with
  | some s =>
    rintro ⟨_, h4⟩
    rw [Tape.pos_some hs]
    omega
  | none =>
    rintro (⟨h3, mid, oL, _, h5⟩ | ⟨h3, mid, oR, _, h5⟩)
    · obtain ⟨e1, _, e3, _⟩ := good_edge_right hseg hg hs h3
      rw [e3]; omega
    · obtain ⟨_, _, e3, _⟩ := good_edge_left hseg hg hs h3
      rw [e3]; omega

theorem View.of_toCfgX {seg : Nat} (hseg : 4 ≤ seg) {t : Tape} (hg : Good seg t) {c : Cfg}
    {q : Nat} {oL oR : List Nat} (he : c ≈c t.toCfgX q oL oR) :
    View c (Tape.pos t : Int) (q, t) := by
  refine ⟨by rw [he.1]; exact Tape.toCfgX_state .., ?_⟩
  show match t.scan with
    | some _ => (∃ oL oR, c ≈c t.toCfgX q oL oR) ∧ (Tape.pos t : Int) = (Span.len t.lspan : Int) + 1
    | none => _
  cases hs : t.scan with
  | some s => exact ⟨⟨oL, oR, he⟩, by rw [Tape.pos_some hs]; rfl⟩
  | none =>
    unfold Tape.toCfgX at he
    rw [hs] at he
    rcases hg.1.edge hs with hl | hr
    · obtain ⟨_, hne, e3, _⟩ := good_edge_left hseg hg hs hl
      rw [Span.isEmpty_of_ne hg.1.rpos hne] at he
      exact Or.inr ⟨hl, [], oR, he.2.2.2, by rw [e3]; rfl⟩
    · obtain ⟨e1, _, e3, _⟩ := good_edge_right hseg hg hs hr
      rw [hr] at he
      refine Or.inl ⟨hr, [], oL, he.2.2.1, ?_⟩
      rw [e3, e1]
      show ((seg - 1 : Nat) : Int) = ((seg - 2 : Nat) : Int) + 1 + 0
      omega

/-- `T + 1` is not reached in the middle of a sweep: the configuration before it, at `T`, is in
    another slot -/
def NoSweepInto (p : ProgF) (T : Nat) : Prop :=
  ∀ c' c, RunAt p T c' → RunAt p (T + 1) c → ¬ (c'.state = c.state ∧ c'.scan = c.scan)

/-- `w0` is the window coordinate of the cell on which the run starts -/
theorem view_step_in {prog : Prog} {seg : Nat} (hseg : 4 ≤ seg) {X : Core} {s : Nat}
    (hg : Good seg X.2) (hs : X.2.scan = some s) {c : Cfg} {w0 : Int} {t T : Nat}
    (hv : View c (w0 + hd prog.toF t) X) (hr : RunAt prog.toF t c) (htT : t < T) {cT : Cfg}
    (hrT : RunAt prog.toF T cT) (hns : ∀ T', T' + 1 = T → NoSweepInto prog.toF T') :
    ∃ Y k c', cstep prog X = some Y ∧ 0 < k ∧ t + k ≤ T ∧ RunAt prog.toF (t + k) c' ∧
      View c' (w0 + hd prog.toF (t + k)) Y := by
  obtain ⟨hst, hv2⟩ := hv
  rw [hs] at hv2
  obtain ⟨⟨oL, oR, he⟩, hw⟩ := hv2
  obtain ⟨d1, hd1, _⟩ := hr.step_of_later hrT htT
  have hscan : c.scan = s := by rw [he.2.1]; exact Tape.toCfgX_scan hs _ _ _
  cases hget : prog.get (X.1, s) with
  | none =>
    exfalso
    unfold step1 at hd1
    have : prog.toF c.state c.scan = none := by rw [hst, hscan]; exact hget
    rw [this] at hd1; cases hd1
  | some instr =>
    obtain ⟨pr, d, q'⟩ := instr
    obtain ⟨t', k, h1, h2, h3, h4, h5, h6, h7⟩ :=
      Tape.step_spec prog.toF X.2 X.1 pr q' s d oL oR hg.1 hs hget
    have hcs : cstep prog X = some (q', t') := by
      simp only [cstep, hs, hget, h1]
    obtain ⟨c', hc', he'⟩ := stepN_congr he.symm h5
    have hmid : ∀ j, j < k → ∃ cj, stepN prog.toF j c = some cj ∧ cj.state = X.1 ∧ cj.scan = s := by
      intro j hj
      obtain ⟨cj, e1, e2, e3⟩ := h4 j hj
      obtain ⟨cj', e1', ee⟩ := stepN_congr he.symm e1
      exact ⟨cj', e1', ee.1.symm.trans e2, ee.2.1.symm.trans e3⟩
    have hrk : RunAt prog.toF (t + k) c' := stepN_add_of_eq hr hc'
    -- `T` is not inside the sweep
    have hle : t + k ≤ T := by
      apply Classical.byContradiction
      intro hlt
      obtain ⟨j, hj⟩ : ∃ j, T = t + (j + 1) := ⟨T - t - 1, by omega⟩
      obtain ⟨ca, ea1, ea2, ea3⟩ := hmid j (by omega)
      obtain ⟨cb, eb1, eb2, eb3⟩ := hmid (j + 1) (by omega)
      have ra : RunAt prog.toF (t + j) ca := stepN_add_of_eq (a := t) hr ea1
      have rb : RunAt prog.toF (t + j + 1) cb := by
        have := stepN_add_of_eq (a := t) hr eb1
        rwa [← Nat.add_assoc] at this
      exact hns (t + j) (by omega) ca cb ra rb ⟨ea2.trans eb2.symm, ea3.trans eb3.symm⟩
    refine ⟨(q', t'), k, c', hcs, h3, hle, hrk, ?_⟩
    have hdisp : hd prog.toF (t + k) = hd prog.toF t + dirI d * k := by
      rw [hd_add hr]
      congr 1
      exact disp_const (k := k) (p := prog.toF) (q := X.1) (s := s) hget hmid k (Nat.le_refl _)
    have hw' : w0 + hd prog.toF (t + k) = (Tape.pos t' : Int) := by
      rw [hdisp, h7, Tape.pos_some hs, ← Int.add_assoc, hw]
      rfl
    rw [hw']
    exact View.of_toCfgX hseg ⟨h2, h6.trans hg.2⟩ he'.symm

structure Closed (ap : AnalyzedProg) (seg : Nat) (E : Core → Prop) : Prop where
  eGood : ∀ X, E X → Good seg X.2
  eStep : ∀ X Y, E X → cstep ap.prog X = some Y → E Y
  eEdge : ∀ X Z, E X → X.2.scan = none → EdgeSucc ap X Z →
    ∃ t, E (Z.1, t) ∧ (t = Z.2 ∨ (Good seg t ∧ Tape.blank t = true ∧ Tape.blank Z.2 = true ∧
      Tape.pos t = Tape.pos Z.2))
  inits : ∀ pos, pos < seg → ∃ t, Good seg t ∧ Tape.blank t = true ∧ Tape.pos t = pos ∧ E (0, t)

theorem allZero_eq_replicate {l : List Nat} (h : AllZero l) : l = List.replicate l.length 0 := by
  induction l with
  | nil => rfl
  | cons x xs ih =>
    rw [allZero_cons_iff] at h
    rw [List.length_cons, List.replicate_succ, h.1, ← ih h.2]

theorem blank_unroll {t : Tape} (hwf : t.WF) (hb : Tape.blank t = true) :
    Span.unroll t.lspan = List.replicate (Span.len t.lspan) 0 ∧
    Span.unroll t.rspan = List.replicate (Span.len t.rspan) 0 ∧ (∀ s, t.scan = some s → s = 0) := by
  rw [Tape.blank_iff hwf] at hb
  obtain ⟨h1, h2, h3⟩ := hb
  refine ⟨?_, ?_, ?_⟩
  · have := allZero_eq_replicate h2
    rwa [Span.length_unroll] at this
  · have := allZero_eq_replicate h3
    rwa [Span.length_unroll] at this
  · intro s hs
    rw [hs] at h1; exact h1

theorem View.blank_transfer {seg : Nat} (hseg : 4 ≤ seg) {c : Cfg} {w : Int} {q : Nat}
    {t t2 : Tape} (hg : Good seg t) (hg2 : Good seg t2) (hb : Tape.blank t = true)
    (hb2 : Tape.blank t2 = true) (hp : Tape.pos t2 = Tape.pos t) (hv : View c w (q, t)) :
    View c w (q, t2) := by
  obtain ⟨u1, u2, u3⟩ := blank_unroll hg.1 hb
  obtain ⟨v1, v2, v3⟩ := blank_unroll hg2.1 hb2
  obtain ⟨s1, s2, s3⟩ := Good.shape hseg hg
  obtain ⟨r1, r2, r3⟩ := Good.shape hseg hg2
  rw [hp] at r1 r2 r3
  refine View.of_same_cells hg2.1 ?_ (by rw [u1, v1, s1, r1]) (by rw [u2, v2, s2, r2]) hv
  cases hs : t.scan with
  | none => exact r3.2 (s3.1 hs)
  | some s =>
    cases hs2 : t2.scan with
    | none => rw [s3.2 (r3.1 hs2)] at hs; cases hs
    | some s' => rw [u3 s hs, v3 s' hs2]

theorem close_succ {ap : AnalyzedProg} {seg : Nat} {E : Core → Prop} (hseg : 4 ≤ seg)
    (hcl : Closed ap seg E) {X Z : Core} (hE : E X) (hs : X.2.scan = none)
    (he : EdgeSucc ap X Z) (hgZ : Good seg Z.2) {c : Cfg} {w : Int} (hv : View c w Z) :
    ∃ Y, E Y ∧ View c w Y := by
  obtain ⟨t, hEt, ht⟩ := hcl.eEdge X Z hE hs he
  rcases ht with rfl | ⟨g2, b2, bZ, hp⟩
  · exact ⟨_, hEt, hv⟩
  · exact ⟨_, hEt, View.blank_transfer (q := Z.1) hseg hgZ g2 bZ b2 hp hv⟩

theorem view_init {ap : AnalyzedProg} {seg : Nat} {E : Core → Prop} (hseg : 4 ≤ seg)
    (hcl : Closed ap seg E) (w0 : Int) : ∃ X, E X ∧ View Cfg.init w0 X := by
  have inits := hcl.inits
  clear hcl
  have hz : ∀ n (l : List Nat), SameCells [] (List.replicate n 0 ++ l ++ []) ↔ AllZero l := by
    intro n l
    rw [sameCells_nil_left, List.append_nil, allZero_append]
    exact and_iff_right (allZero_replicate_zero n)
  -- the start is shown at its position clamped to `0 … seg-1`
  by_cases h1 : w0 ≤ 0
  · obtain ⟨t, hg, hb, hp, hE⟩ := inits 0 (by omega)
    have hw : w0 = -((List.replicate (-w0).toNat 0).length : Int) := by
      rw [List.length_replicate]; omega
    obtain ⟨_, u2, _⟩ := blank_unroll hg.1 hb
    obtain ⟨s1, _, s3⟩ := Good.shape hseg hg
    rw [hp] at s1 s3
    refine ⟨_, hE, rfl, ?_⟩
    dsimp only
    rw [s3.2 (Or.inl rfl)]
    refine Or.inr ⟨Span.eq_nil_of_len hg.1.lpos s1, _, [], ?_, hw⟩
    rw [u2]; exact (hz _ _).2 (allZero_replicate_zero _)
  by_cases h2 : (seg : Int) - 1 ≤ w0
  · obtain ⟨t, hg, hb, hp, hE⟩ := inits (seg - 1) (by omega)
    have hw : w0 = ((seg - 1 - 1 : Nat) : Int) + 1 +
        ((List.replicate (w0 - ((seg : Int) - 1)).toNat 0).length : Int) := by
      rw [List.length_replicate]; omega
    obtain ⟨u1, _, _⟩ := blank_unroll hg.1 hb
    obtain ⟨s1, s2, s3⟩ := Good.shape hseg hg
    rw [hp] at s1 s2 s3
    refine ⟨_, hE, rfl, ?_⟩
    dsimp only
    rw [s3.2 (Or.inr rfl), s1]
    refine Or.inl ⟨Span.eq_nil_of_len hg.1.rpos
      (s2.trans (Nat.sub_eq_zero_of_le (Nat.sub_le_sub_left (by decide) seg))), _, [], ?_, hw⟩
    rw [u1]; exact (hz _ _).2 (allZero_replicate_zero _)
  obtain ⟨n, rfl⟩ := Int.eq_ofNat_of_zero_le (Int.le_of_lt (Int.not_le.1 h1))
  have hn : 0 < n ∧ n < seg - 1 ∧ n < seg ∧ (n : Int) = ((n - 1 : Nat) : Int) + 1 := by omega
  obtain ⟨t, hg, hb, hp, hE⟩ := inits n hn.2.2.1
  obtain ⟨u1, u2, u3⟩ := blank_unroll hg.1 hb
  obtain ⟨s1, _, s3⟩ := Good.shape hseg hg
  rw [hp] at s1 s3
  refine ⟨_, hE, rfl, ?_⟩
  dsimp only
  cases hs : t.scan with
  | none =>
    exact (s3.1 hs).elim (fun e => absurd e (Nat.ne_of_gt hn.1))
      (fun e => absurd e (Nat.ne_of_lt hn.2.1))
  | some s =>
    refine ⟨⟨[], [], ?_⟩, by rw [s1]; exact hn.2.2.2⟩
    unfold Tape.toCfgX
    rw [hs, u1, u2, u3 s hs]
    exact ⟨rfl, rfl, sameCells_nil_left.2 (allZero_append.2 ⟨allZero_replicate_zero _, allZero_nil⟩),
      sameCells_nil_left.2 (allZero_append.2 ⟨allZero_replicate_zero _, allZero_nil⟩)⟩

/-- the table analysis knows the instruction that the real machine executes -/
def BranchSound (ap : AnalyzedProg) : Prop :=
  ∀ t c, RunAt ap.prog.toF t c → ∀ pr sh q', ap.prog.get (c.state, c.scan) = some (pr, sh, q') →
    ∃ diffs dirs, dictGet ap.branches c.state = some (diffs, dirs) ∧
      (q' ≠ c.state → q' ∈ diffs) ∧ q' ∈ Dirs.get dirs sh

theorem View.move_outside {seg : Nat} (hseg : 4 ≤ seg) {q : Nat} {t : Tape} (hg : Good seg t)
    (hs : t.scan = none) {c : Cfg} {w : Int} (hv : View c w (q, t)) (pr : Nat) (sh : Bool)
    (q' : Nat) :
    View (c.move pr sh q') (w + dirI sh) (q', t) ∨
      ∃ side t', Tape.side t = some side ∧ sh = !side ∧ Tape.stepIn t sh = some t' ∧
        View (c.move pr sh q') (w + dirI sh) (q', t') := by
  obtain ⟨_, hv2⟩ := hv
  dsimp only at hv2
  rw [hs] at hv2
  have out : ∀ d : Cfg, d.state = q' → ∀ w',
      ((t.rspan = [] ∧ ∃ mid oL, SameCells d.left (mid ++ Span.unroll t.lspan ++ oL) ∧
          w' = (Span.len t.lspan : Int) + 1 + mid.length) ∨
        (t.lspan = [] ∧ ∃ mid oR, SameCells d.right (mid ++ Span.unroll t.rspan ++ oR) ∧
          w' = -(mid.length : Int))) → View d w' (q', t) := by
    intro d hd w' h
    refine ⟨hd, ?_⟩
    dsimp only
    rw [hs]
    exact h
  rcases hv2 with ⟨hrs, mid, oL, h4, h5⟩ | ⟨hls, mid, oR, h4, h5⟩
  · -- the head is on the right of the window
    obtain ⟨_, e2, _, e4⟩ := good_edge_right hseg hg hs hrs
    cases sh with
    | true =>
      exact Or.inl (out _ rfl _ (Or.inl ⟨hrs, pr :: mid, oL, h4.cons pr, by
        rw [h5, List.length_cons]; exact Int.add_assoc ..⟩))
    | false =>
      cases mid with
      | cons x mid' =>
        exact Or.inl (out _ rfl _ (Or.inl ⟨hrs, mid', oL, h4.tail, by
          rw [h5, List.length_cons, Int.natCast_succ, ← Int.add_assoc]; exact Int.add_neg_cancel_right ..⟩))
      | nil =>
        obtain ⟨x, l', hsi, hu, hlen⟩ := stepIn_left hg.1 hs hrs e2
        rw [List.nil_append, hu] at h4
        refine Or.inr ⟨true, _, e4, rfl, hsi, rfl, ⟨oL, pr :: c.right, rfl, h4.headD, h4.tail,
          SameCells.refl _⟩, ?_⟩
        rw [h5, hlen]; show _ + -1 = _; simp only [List.length_nil]; omega
  · -- the head is on the left of the window
    obtain ⟨_, e2, _, e4⟩ := good_edge_left hseg hg hs hls
    cases sh with
    | false =>
      exact Or.inl (out _ rfl _ (Or.inr ⟨hls, pr :: mid, oR, h4.cons pr, by
        rw [h5, List.length_cons]; exact (Int.neg_add ..).symm⟩))
    | true =>
      cases mid with
      | cons x mid' =>
        exact Or.inl (out _ rfl _ (Or.inr ⟨hls, mid', oR, h4.tail, by
          rw [h5, List.length_cons, Int.natCast_succ, Int.neg_add]; exact Int.neg_add_cancel_right ..⟩))
      | nil =>
        obtain ⟨x, r', hsi, hu, hlen⟩ := stepIn_right hg.1 hs hls e2
        rw [List.nil_append, hu] at h4
        refine Or.inr ⟨false, _, e4, rfl, hsi, rfl, ⟨pr :: c.left, oR, rfl, h4.headD,
          SameCells.refl _, h4.tail⟩, ?_⟩
        rw [h5]; rfl

theorem view_step_edge {ap : AnalyzedProg} {seg : Nat} {E : Core → Prop} (hseg : 4 ≤ seg)
    (hcl : Closed ap seg E) (hbs : BranchSound ap) {X : Core} (hE : E X) (hs : X.2.scan = none)
    {c : Cfg} {w0 : Int} {t T : Nat} (hv : View c (w0 + hd ap.prog.toF t) X)
    (hr : RunAt ap.prog.toF t c) (htT : t < T) {cT : Cfg} (hrT : RunAt ap.prog.toF T cT) :
    ∃ Y c', E Y ∧ RunAt ap.prog.toF (t + 1) c' ∧ View c' (w0 + hd ap.prog.toF (t + 1)) Y := by
  have hg := hcl.eGood X hE
  obtain ⟨d1, hd1, hr1⟩ := hr.step_of_later hrT htT
  cases hget : ap.prog.get (c.state, c.scan) with
  | none =>
    have : ap.prog.toF c.state c.scan = none := hget
    rw [step1, this] at hd1; cases hd1
  | some instr =>
    obtain ⟨pr, sh, q'⟩ := instr
    have hp : ap.prog.toF c.state c.scan = some (pr, sh, q') := hget
    rw [step1_eq_of hp, Option.some.injEq] at hd1
    subst hd1
    obtain ⟨diffs, dirs, hbr, hdf, hdr⟩ := hbs t c hr pr sh q' hget
    rw [hv.1] at hbr hdf
    rw [hd_succ_of hr, dirOf_eq hp, ← Int.add_assoc]
    suffices h : ∃ Y, E Y ∧ View (c.move pr sh q') (w0 + hd ap.prog.toF t + dirI sh) Y from
      h.elim fun Y hY => ⟨Y, _, hY.1, hr1, hY.2⟩
    rcases View.move_outside hseg hg hs hv pr sh q' with hv' | ⟨side, t', hsd, rfl, hsi, hv'⟩
    · -- still outside, in a new state or in the old one
      by_cases hq : q' = X.1
      · subst hq; exact ⟨X, hE, hv'⟩
      · exact close_succ (Z := (q', X.2)) hseg hcl hE hs ⟨diffs, dirs, hbr, Or.inl ⟨hdf hq, rfl⟩⟩
          hg hv'
    · exact close_succ (Z := (q', t')) hseg hcl hE hs
        ⟨diffs, dirs, hbr, Or.inr ⟨side, hsd, hdr, hsi⟩⟩ (Tape.stepIn_good hg hsi).1 hv'

/-- The simulation theorem; `o` is the window coordinate of the head at time `T`, so every window
    placement is covered. -/
theorem sim_main {ap : AnalyzedProg} {seg : Nat} {E : Core → Prop} (hseg : 4 ≤ seg)
    (hcl : Closed ap seg E) (hbs : BranchSound ap) {T : Nat} {cT : Cfg}
    (hrT : RunAt ap.prog.toF T cT) (hns : ∀ T', T' + 1 = T → NoSweepInto ap.prog.toF T')
    (o : Int) : ∃ X, E X ∧ View cT o X := by
  -- `w0 + hd t` is the window coordinate of the head at time `t`
  obtain ⟨w0, hw0⟩ : ∃ w0, w0 + hd ap.prog.toF T = o := ⟨o - hd ap.prog.toF T, by omega⟩
  have key : ∀ n t, T - t = n → t ≤ T → ∀ c X, RunAt ap.prog.toF t c → E X →
      View c (w0 + hd ap.prog.toF t) X → ∃ X, E X ∧ View cT o X := by
    intro n
    induction n using Nat.strongRecOn with
    | _ n ih =>
      intro t hn htT c X hr hE hv
      by_cases hlt : t < T
      · cases hs : X.2.scan with
        | some s =>
          obtain ⟨Y, k, c', hcs, hk, hle, hr', hv'⟩ :=
            view_step_in hseg (hcl.eGood X hE) hs hv hr hlt hrT hns
          exact ih (T - (t + k)) (by omega) (t + k) rfl hle c' Y hr' (hcl.eStep X Y hE hcs) hv'
        | none =>
          obtain ⟨Y, c', hY, hr', hv'⟩ := view_step_edge hseg hcl hbs hE hs hv hr hlt hrT
          exact ih (T - (t + 1)) (by omega) (t + 1) rfl hlt c' Y hr' hY hv'
      · obtain rfl : t = T := Nat.le_antisymm htT (Nat.le_of_not_lt hlt)
        obtain rfl : c = cT := hr.unique hrT
        exact ⟨X, hE, hw0 ▸ hv⟩
  obtain ⟨X, hE, hv⟩ := view_init hseg hcl w0
  exact key T 0 rfl (Nat.zero_le _) Cfg.init X rfl hE (by rw [show hd ap.prog.toF 0 = 0 from rfl, Int.add_zero]; exact hv)

end BB.Segment
