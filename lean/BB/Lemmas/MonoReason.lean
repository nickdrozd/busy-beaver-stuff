/-
C15 for the backward reasoner (src/reason.rs): the depth limit of `cant_reach` is only the fuel of
`cantReachLoop`; any outcome other than `.ok .stepLimit` (the answer given when the `for step in
0..depth` loop runs out) is unchanged by a larger depth.  This covers every other value of
`BackwardResult` (`refuted k` with the same `k`, `init`, `linRec`, `spinout`, and also `depthLimit`,
which despite its name is the MAX_STACK_DEPTH answer, not the depth-limit answer) and the panic
outcome `.error _`.
-/
import BB.Lemmas.ReasonMono
import BB.Lemmas.MonoBase

namespace BB.Reason

theorem cantReach_mono' (fixF1 : Bool) (comp : Prog) (configs : Configs) (d₁ d₂ : Nat)
    (r : PRes BackwardResult) (h : cantReach fixF1 comp d₁ configs = r)
    (hne : r ≠ .ok .stepLimit) (hle : d₁ ≤ d₂) : cantReach fixF1 comp d₂ configs = r := by
  subst h
  -- both sides take the same branches; only the fuel of the loop differs
  unfold cantReach at hne ⊢
  refine ite_congr rfl (fun _ => rfl) fun h1 => ?_
  rw [if_neg h1] at hne
  dsimp only at hne ⊢
  refine ite_congr rfl (fun _ => rfl) fun h2 => ?_
  rw [if_neg h2] at hne
  exact cantReachLoop_mono fixF1 _ _ _ _ _ _ _ rfl hne d₂ hle

end BB.Reason
