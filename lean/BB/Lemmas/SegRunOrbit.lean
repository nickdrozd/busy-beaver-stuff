/-
C05 — segment analysis.  `run_to_edge` walks the whole orbit of its configuration inside the
window, records every goal point it passes, and only adds positions of blank orbit points to
`blanks` (`runToEdge_post3`).  Goals `halt` and `spinout` only.

The hare is at index `a + i` of the orbit and the tortoise at index `a`; the walk ends at a terminal
point or when the two meet, and in both cases the indices below `a + i` are the whole orbit.
-/
import BB.Lemmas.SegMarks

namespace BB.Segment

open BB

/-- `Z` is reached from `X` by iterating `cstep` (the head stays inside the window) -/
def Orbit (prog : Prog) (X Z : Core) : Prop := ∃ i, citer prog i X = some Z

theorem Orbit.refl (prog : Prog) (X : Core) : Orbit prog X X := ⟨0, rfl⟩

theorem Orbit.step {prog : Prog} {X Y Z : Core} (h : Orbit prog X Y) (hs : cstep prog Y = some Z) :
    Orbit prog X Z := by
  obtain ⟨i, hi⟩ := h
  exact ⟨i + 1, by rw [citer_succ_last, hi]; exact hs⟩

theorem cstep_good {prog : Prog} {seg : Nat} {X Y : Core} (hg : Good seg X.2)
    (h : cstep prog X = some Y) : Good seg Y.2 :=
  have ⟨h1, h2, _⟩ := cstep_exact hg.1 h (Cfg.Equiv.refl _)
  ⟨h1, h2.trans hg.2⟩

theorem Orbit.good {prog : Prog} {seg : Nat} {X Z : Core} (hg : Good seg X.2)
    (h : Orbit prog X Z) : Good seg Z.2 := by
  obtain ⟨i, hi⟩ := h
  induction i generalizing Z with
  | zero => exact Option.some.inj hi ▸ hg
  | succ i ih =>
    rw [citer_succ_last] at hi
    cases h1 : citer prog i X with
    | none => rw [h1] at hi; cases hi
    | some Y => rw [h1] at hi; exact cstep_good (ih h1) hi

theorem cstep_none_of_scan {prog : Prog} {X : Core} (h : X.2.scan = none) : cstep prog X = none := by
  unfold cstep; rw [h]

theorem cstep_none_of_get {prog : Prog} {X : Core} {s : Nat} (h : X.2.scan = some s)
    (hg : prog.get (X.1, s) = none) : cstep prog X = none := by
  unfold cstep; rw [h]; simp only; rw [hg]

theorem citer_of_terminal {prog : Prog} {X Zm Z : Core} {m b : Nat}
    (hm : citer prog m X = some Zm) (ht : cstep prog Zm = none) (hb : citer prog b X = some Z) :
    b ≤ m := by
  apply Nat.le_of_not_lt
  intro hlt
  obtain ⟨d, rfl⟩ := Nat.exists_eq_add_of_lt hlt
  rw [Nat.add_assoc, citer_add, hm, Option.bind_some, citer, ht] at hb
  cases hb

theorem orbit_terminal_unique {prog : Prog} {X Z Z' : Core} (h : Orbit prog X Z)
    (h' : Orbit prog X Z') (hz : cstep prog Z = none) (hz' : cstep prog Z' = none) : Z = Z' := by
  obtain ⟨a, ha⟩ := h
  obtain ⟨b, hb⟩ := h'
  cases Nat.le_antisymm (citer_of_terminal hb hz' ha) (citer_of_terminal ha hz hb)
  exact Option.some.inj (ha.symm.trans hb)

theorem orbit_of_cycle {prog : Prog} {X C : Core} {a i : Nat} (ha : citer prog a X = some C)
    (hi : 0 < i) (hc : citer prog (a + i) X = some C) :
    (∀ Z, Orbit prog X Z → ∃ j, j < a + i ∧ citer prog j X = some Z) ∧
    (∀ Z, Orbit prog X Z → cstep prog Z ≠ none) := by
  have hper : ∀ d, citer prog (a + i + d) X = citer prog (a + d) X := by
    intro d
    rw [citer_add prog (a + i) d, hc, citer_add prog a d, ha]
  have hlow : ∀ Z, Orbit prog X Z → ∃ j, j < a + i ∧ citer prog j X = some Z := by
    intro Z ⟨b, hb⟩
    induction b using Nat.strongRecOn with
    | _ b ih =>
      by_cases hlt : b < a + i
      · exact ⟨b, hlt, hb⟩
      · obtain ⟨d, rfl⟩ := Nat.exists_eq_add_of_le (Nat.le_of_not_lt hlt)
        exact ih (a + d) (Nat.add_lt_add_right (Nat.lt_add_of_pos_right hi) d) (hper d ▸ hb)
  refine ⟨hlow, fun Z hZ hn => ?_⟩
  -- `Z` has a successor: it sits at an index below `a + i`
  obtain ⟨j, hj, hjZ⟩ := hlow Z hZ
  obtain ⟨Y, hY⟩ := citer_le hc (Nat.succ_le_of_lt hj)
  rw [citer_succ_last, hjZ, Option.bind_some, hn] at hY
  cases hY

/-- how `configs` may differ, during `run_to_edge` from `X0`, from what it was at the start -/
structure RunFrame (prog : Prog) (K : Nat → Prop) (X0 : Core) (cs0 cf : Configs) : Prop where
  todo : cf.todo = cs0.todo
  seen : cf.seen = cs0.seen
  segEq : cf.seg = cs0.seg
  blanksOld : ∀ q pos, DHas cs0.blanks q pos → DHas cf.blanks q pos
  blanksNew : ∀ q pos, DHas cf.blanks q pos → DHas cs0.blanks q pos ∨
    ∃ Z, Orbit prog X0 Z ∧ Z.1 = q ∧ Tape.blank Z.2 = true ∧ Tape.pos Z.2 = pos
  mono : ∀ Z, Recorded cs0 Z → Recorded cf Z
  keys : (∀ q, K q → (dictGet cs0.reached q).isSome = true) →
    ∀ q, K q → (dictGet cf.reached q).isSome = true

theorem RunFrame.refl (prog : Prog) (K : Nat → Prop) (X0 : Core) (cs : Configs) :
    RunFrame prog K X0 cs cs :=
  ⟨rfl, rfl, rfl, fun _ _ h => h, fun _ _ h => Or.inl h, fun _ h => h, fun h => h⟩

theorem RunFrame.reach {prog : Prog} {K : Nat → Prop} {X0 : Core} {cs0 cf cf' : Configs} {seg : Nat}
    (h : RunFrame prog K X0 cs0 cf) (h' : ReachFrame seg K cf cf') : RunFrame prog K X0 cs0 cf' :=
  ⟨h'.todo.trans h.todo, h'.seen.trans h.seen, h'.segEq.trans h.segEq,
    fun q pos hd => by rw [h'.blanks]; exact h.blanksOld q pos hd,
    fun q pos hd => by rw [h'.blanks] at hd; exact h.blanksNew q pos hd,
    fun Z hZ => h'.mono Z (h.mono Z hZ), fun hk => h'.keys (h.keys hk)⟩

theorem RunFrame.grow {prog : Prog} {K : Nat → Prop} {X0 : Core} {c c' : Configs}
    (h : RunFrame prog K X0 c c') : Grow c c' :=
  ⟨fun q t hs => by rw [h.seen]; exact hs, h.blanksOld, h.mono⟩

theorem RunFrame.blank {prog : Prog} {K : Nat → Prop} {X0 : Core} {cs0 cf : Configs}
    (h : RunFrame prog K X0 cs0 cf) {Z : Core} (ho : Orbit prog X0 Z) (hb : Tape.blank Z.2 = true)
    {q : Nat} (hq : Z.1 = q) :
    RunFrame prog K X0 cs0 { cf with blanks := dictSetInsert cf.blanks q (Tape.pos Z.2) } := by
  refine ⟨h.todo, h.seen, h.segEq, fun q' pos hd => ?_, fun q' pos hd => ?_, h.mono, h.keys⟩
  · exact (dHas_dictSetInsert ..).2 (Or.inl (h.blanksOld q' pos hd))
  · rcases (dHas_dictSetInsert ..).1 hd with hd | ⟨h1, h2⟩
    · exact h.blanksNew q' pos hd
    · exact Or.inr ⟨Z, ho, hq.trans h1.symm, hb, h2.symm⟩

theorem goalIn_scan {prog : Prog} {goal : Term} {Z : Core} (h : GoalIn prog goal Z) :
    ∃ s, Z.2.scan = some s := by
  cases goal with
  | halt => obtain ⟨s, hs, _⟩ := h; exact ⟨s, hs⟩
  | spinout => obtain ⟨s, _, hs, _⟩ := h; exact ⟨s, hs⟩
  | blank => exact absurd h id

theorem goalIn_spinout {prog : Prog} {goal : Term} {slf : Config} {s : Nat} {instr : Instr}
    (hs : slf.tape.scan = some s) (hget : prog.get (slf.state, s) = some instr)
    (h : GoalIn prog goal slf.core) : goal = .spinout ∧ Config.spinout slf instr = true := by
  cases goal with
  | blank => exact absurd h id
  | halt =>
    obtain ⟨s', hs', hn⟩ := h
    cases hs.symm.trans hs'
    cases hget.symm.trans hn
  | spinout =>
    obtain ⟨s', instr', hs', hg', hsp⟩ := h
    cases hs.symm.trans hs'
    cases hget.symm.trans hg'
    exact ⟨rfl, hsp⟩

theorem spinCheck_spec {prog : Prog} {goal : Term} (hg : goal ≠ .blank) (seg : Nat) (K : Nat → Prop)
    (slf : Config) (instr : Instr) (cf : Configs) (hseg : cf.seg = seg) {s : Nat}
    (hs : slf.tape.scan = some s) (hget : prog.get (slf.state, s) = some instr) :
    ReachFrame seg K cf (spinCheck goal slf instr cf).2 ∧
    ((spinCheck goal slf instr cf).1 = true → slf.init = false →
      (Configs.checkReached (spinCheck goal slf instr cf).2 slf goal).1 = true) ∧
    ((spinCheck goal slf instr cf).1 = false →
      (GoalIn prog goal slf.core → Recorded (spinCheck goal slf instr cf).2 slf.core) ∧
      ((∀ q r, dictGet cf.reached q = some r → r.length < seg) →
        ∀ q r, dictGet (spinCheck goal slf instr cf).2.reached q = some r → r.length < seg)) := by
  unfold spinCheck
  by_cases hc : ((slf.init || goal == .spinout) && Config.spinout slf instr) = true
  · rw [if_pos hc]
    by_cases hi : slf.init = true
    · rw [if_pos hi]
      exact ⟨ReachFrame.refl _ _ _, fun _ h => (by cases hi.symm.trans h), nofun⟩
    · rw [if_neg hi]
      obtain ⟨h1, h2, h3, h4⟩ := checkReached_spec hg seg K cf slf hseg
      exact ⟨h1, fun ht _ => h4 ht, fun hf => ⟨fun _ => h2, h3 hf⟩⟩
  · rw [if_neg hc]
    refine ⟨ReachFrame.refl _ _ _, nofun, fun _ => ⟨fun hgi => absurd ?_ hc, fun h => h⟩⟩
    obtain ⟨rfl, hsp⟩ := goalIn_spinout hs hget hgi
    rw [hsp, Bool.and_true, Bool.or_eq_true]
    exact Or.inr rfl

structure RunInv3 (prog : Prog) (goal : Term) (seg : Nat) (K : Nat → Prop) (X0 : Core)
    (cs0 : Configs) (slf copy : Config) (step : Bool) (cf : Configs) : Prop where
  frame : RunFrame prog K X0 cs0 cf
  rLen : ∀ q r, dictGet cf.reached q = some r → r.length < seg
  idx : ∃ a i, citer prog a X0 = some copy.core ∧ citer prog (a + i) X0 = some slf.core ∧
    (step = true → 0 < i) ∧
    ∀ j, j < a + i → ∀ Z, citer prog j X0 = some Z → GoalIn prog goal Z → Recorded cf Z

/-- the facts that hold when `run_to_edge` returns and the search goes on -/
structure RunClosed (prog : Prog) (goal : Term) (seg : Nat) (X0 : Core) (out : RunOut) : Prop where
  rLen : ∀ q r, dictGet out.configs.reached q = some r → r.length < seg
  goalIn : ∀ Z, Orbit prog X0 Z → GoalIn prog goal Z →
    Recorded out.configs Z ∨ (out.result = some (.found .halt) ∧ Z = out.config.core)
  term : ∀ Z, Orbit prog X0 Z → cstep prog Z = none →
    Z = out.config.core ∧ (out.result = none ∨ out.result = some (.found .halt))
  edge : out.result = none → out.config.tape.scan = none
  haltAt : out.result = some (.found .halt) →
    ∃ s, out.config.tape.scan = some s ∧ prog.get (out.config.state, s) = none

structure RunPost3 (prog : Prog) (goal : Term) (seg : Nat) (K : Nat → Prop) (X0 : Core)
    (cs0 : Configs) (out : RunOut) : Prop where
  frame : RunFrame prog K X0 cs0 out.configs
  good : Good seg out.config.tape
  orbit : Orbit prog X0 out.config.core
  notBlank : out.result ≠ some (.found .blank)
  spinHit : out.result = some (.found .spinout) → out.config.init = false →
    (Configs.checkReached out.configs out.config goal).1 = true
  closed : out.result = some (.found .spinout) ∨
    (out.result = some .repeat ∧ out.config.init = true) ∨ RunClosed prog goal seg X0 out

theorem runClosed_of_terminal {prog : Prog} {goal : Term} {seg : Nat} {X0 : Core} {out : RunOut}
    {m : Nat} (hm : citer prog m X0 = some out.config.core)
    (hterm : cstep prog out.config.core = none)
    (hrl : ∀ q r, dictGet out.configs.reached q = some r → r.length < seg)
    (hchk : ∀ j, j < m → ∀ Z, citer prog j X0 = some Z → GoalIn prog goal Z →
      Recorded out.configs Z)
    (hres : (out.result = none ∧ out.config.tape.scan = none) ∨
      (out.result = some (.found .halt) ∧
        ∃ s, out.config.tape.scan = some s ∧ prog.get (out.config.state, s) = none)) :
    RunClosed prog goal seg X0 out := by
  refine ⟨hrl, fun Z ⟨j, hj⟩ hgi => ?_, fun Z hZ hz =>
    ⟨orbit_terminal_unique hZ ⟨m, hm⟩ hz hterm, hres.imp (·.1) (·.1)⟩, ?_, ?_⟩
  · rcases Nat.lt_or_eq_of_le (citer_of_terminal hm hterm hj) with hlt | rfl
    · exact Or.inl (hchk j hlt Z hj hgi)
    · cases hm.symm.trans hj
      rcases hres with ⟨_, hsc⟩ | ⟨hr, _⟩
      · obtain ⟨s, hs⟩ := goalIn_scan hgi
        cases hsc.symm.trans hs
      · exact Or.inr ⟨hr, rfl⟩
  · rcases hres with ⟨_, hsc⟩ | ⟨hr, _⟩
    · exact fun _ => hsc
    · exact fun h => by cases hr.symm.trans h
  · rcases hres with ⟨hr, _⟩ | ⟨_, hh⟩
    · exact fun h => by cases hr.symm.trans h
    · exact fun _ => hh

theorem runTail_post3 {prog : Prog} {goal : Term} {seg : Nat} {K : Nat → Prop} {X0 : Core}
    {cs0 : Configs} (hX0 : Good seg X0.2) {copy s2 : Config} {step : Bool} {cf2 : Configs}
    {a i : Nat} (hfr : RunFrame prog K X0 cs0 cf2)
    (hrl : ∀ q r, dictGet cf2.reached q = some r → r.length < seg)
    (ha : citer prog a X0 = some copy.core) (hm1 : citer prog (a + i + 1) X0 = some s2.core)
    (hipos : step = true → 0 < i)
    (hchk1 : ∀ j, j < a + i + 1 → ∀ Z, citer prog j X0 = some Z → GoalIn prog goal Z →
      Recorded cf2 Z) :
    BodyOut.Sat (RunInv3 prog goal seg K X0 cs0) (RunPost3 prog goal seg K X0 cs0)
      (runTail prog copy step (none, s2, cf2)) := by
  -- the tortoise steps from index `a` to `a + 1`
  have ha1 : ∀ {copy1}, copyStep prog copy = some copy1 →
      citer prog (a + 1) X0 = some copy1.core := fun hcp => by
    rw [citer_succ_last, ha]
    exact (copyStep_core hcp (Orbit.good hX0 ⟨a, ha⟩).1).1
  have hm1' : citer prog (a + 1 + i) X0 = some s2.core := Nat.add_right_comm a i 1 ▸ hm1
  have hchk1' : ∀ j, j < a + 1 + i → ∀ Z, citer prog j X0 = some Z → GoalIn prog goal Z →
      Recorded cf2 Z := Nat.add_right_comm a i 1 ▸ hchk1
  refine runTail_sat (fun _ => ⟨hfr, hrl, a, i + 1, ha, hm1, fun _ => Nat.succ_pos _, hchk1⟩)
    (fun copy1 hst hcp hce => ⟨hfr, Orbit.good hX0 ⟨_, hm1⟩, ⟨_, hm1⟩, nofun, nofun, ?_⟩)
    (fun copy1 _ hcp => ⟨hfr, hrl, a + 1, i, ha1 hcp, hm1', nofun, hchk1'⟩)
  -- the tortoise has caught up: the walk has closed a cycle
  obtain ⟨hall, hnt⟩ := orbit_of_cycle (ha1 hcp) (hipos hst) (hce ▸ hm1')
  by_cases hin : s2.init = true
  · exact Or.inr (Or.inl ⟨rfl, hin⟩)
  · refine Or.inr (Or.inr ⟨hrl, fun Z hZ hgi => ?_, fun Z hZ hz => absurd hz (hnt Z hZ),
      nofun, nofun⟩)
    obtain ⟨j, hj, hjZ⟩ := hall Z hZ
    exact Or.inl (hchk1' j hj Z hjZ hgi)

theorem runBody_post3 (prog : Prog) (goal : Term) (hg : goal ≠ .blank) (seg : Nat) (K : Nat → Prop)
    (X0 : Core) (cs0 : Configs) (hseg0 : cs0.seg = seg) (hX0 : Good seg X0.2) (slf copy : Config)
    (step : Bool) (cf : Configs) (inv : RunInv3 prog goal seg K X0 cs0 slf copy step cf) :
    BodyOut.Sat (RunInv3 prog goal seg K X0 cs0) (RunPost3 prog goal seg K X0 cs0)
      (runBody prog goal slf copy step cf) := by
  obtain ⟨a, i, ha, hm, hipos, hchk⟩ := inv.idx
  have hgoodS : Good seg slf.tape := Orbit.good hX0 ⟨_, hm⟩
  rcases runBody_cases prog goal slf copy step cf with
    ⟨hsc, he⟩ | ⟨s, hsc, ⟨hget, he⟩ | ⟨instr, hget, hrest⟩⟩
  · rw [he]
    exact ⟨inv.frame, hgoodS, ⟨_, hm⟩, nofun, nofun, Or.inr (Or.inr
      (runClosed_of_terminal hm (cstep_none_of_scan hsc) inv.rLen hchk (Or.inl ⟨rfl, hsc⟩)))⟩
  · rw [he]
    exact ⟨inv.frame, hgoodS, ⟨_, hm⟩, nofun, nofun, Or.inr (Or.inr
      (runClosed_of_terminal hm (cstep_none_of_get (X := slf.core) hsc hget) inv.rLen hchk
        (Or.inr ⟨rfl, s, hsc, hget⟩)))⟩
  · obtain ⟨sp1, sp2, sp3⟩ := spinCheck_spec (prog := prog) hg seg K slf instr cf
      (inv.frame.segEq.trans hseg0) hsc hget
    have hfr1 := inv.frame.reach sp1
    rcases hrest with ⟨hsp, he⟩ | ⟨hsp, ⟨_, he⟩ | ⟨s1, hst, he⟩⟩ <;> rw [he]
    · exact ⟨hfr1, hgoodS, ⟨_, hm⟩, nofun, fun _ hin => sp2 hsp hin, Or.inl rfl⟩
    · trivial
    · obtain ⟨sp3a, sp3b⟩ := sp3 hsp
      have hm1 : citer prog (a + i + 1) X0 = some s1.core := by
        rw [citer_succ_last, hm]
        exact cstep_of_step hsc hget hst
      -- the goal points at indices up to `a + i` are recorded now
      have hchk1 : ∀ j, j < a + i + 1 → ∀ Z, citer prog j X0 = some Z → GoalIn prog goal Z →
          Recorded (spinCheck goal slf instr cf).2 Z := by
        intro j hj Z hjZ hgi
        rcases Nat.lt_or_eq_of_le (Nat.le_of_lt_succ hj) with hjm | rfl
        · exact sp1.mono Z (hchk j hjm Z hjZ hgi)
        · cases hm.symm.trans hjZ
          exact sp3a hgi
      rcases blankCheck_cases goal instr s1 (spinCheck goal slf instr cf).2 with
        ⟨-, hbe⟩ | ⟨-, -, hin, hbe⟩ | ⟨hb, -, hbe⟩ <;> rw [hbe]
      · exact runTail_post3 hX0 hfr1 (sp3b inv.rLen) ha hm1 hipos hchk1
      · exact ⟨hfr1, Orbit.good hX0 ⟨_, hm1⟩, ⟨_, hm1⟩, nofun, nofun, Or.inr (Or.inl ⟨rfl, hin⟩)⟩
      · rw [if_neg (by simpa using hg)]
        refine runTail_post3 hX0 (hfr1.blank (Z := s1.core) ⟨_, hm1⟩ hb (Config.step_core hst).2.1)
          (sp3b inv.rLen) ha (hm1.trans ?_) hipos hchk1
        split <;> rfl

theorem runToEdge_post3 (prog : Prog) (goal : Term) (hg : goal ≠ .blank) (seg : Nat)
    (K : Nat → Prop) (fuel : Nat) (slf : Config) (cs0 : Configs) (out : RunOut)
    (hseg0 : cs0.seg = seg) (hgood : Good seg slf.tape)
    (hrl : ∀ q r, dictGet cs0.reached q = some r → r.length < seg)
    (h : runToEdge prog goal fuel slf cs0 = .ok out) :
    RunPost3 prog goal seg K slf.core cs0 out :=
  have hnone : ∀ j, j < 0 → ∀ Z, citer prog j slf.core = some Z → GoalIn prog goal Z →
      Recorded cs0 Z := fun _ hj => absurd hj (Nat.not_lt_zero _)
  runToEdge_induct prog goal (RunInv3 prog goal seg K slf.core cs0)
    (RunPost3 prog goal seg K slf.core cs0)
    (fun s c st cf inv => runBody_post3 prog goal hg seg K slf.core cs0 hseg0 hgood s c st cf inv)
    (fun hs => ⟨RunFrame.refl _ _ _ _, hgood, Orbit.refl _ _, nofun, nofun, Or.inr (Or.inr
      (runClosed_of_terminal (m := 0) rfl (cstep_none_of_scan hs) hrl hnone (Or.inl ⟨rfl, hs⟩)))⟩)
    ⟨RunFrame.refl _ _ _ _, hrl, 0, 0, rfl, rfl, nofun, hnone⟩ h

end BB.Segment
