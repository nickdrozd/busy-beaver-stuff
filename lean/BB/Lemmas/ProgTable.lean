/-
The table `Prog` as an association list: what `Prog.get` finds after `Prog.insert`, and which
entries a table has after an insertion at a free slot; the table size `Prog.paramsFix` covers
every entry.
-/
import BB.Model.Instrs

namespace BB.Tree

open BB

/-- the key test of `Prog.get` and `Prog.insert` -/
theorem slotKey_eq_iff {k s : Slot} : (k.1 == s.1 && k.2 == s.2) = true ↔ k = s := by
  rw [Bool.and_eq_true, beq_iff_eq, beq_iff_eq, Prod.ext_iff]

theorem Prog.get_cons (k : Slot) (v : Instr) (p : Prog) (s : Slot) :
    Prog.get ((k, v) :: p) s = if k = s then some v else p.get s := by
  simp only [Prog.get, slotKey_eq_iff]

theorem Prog.get_insert (p : Prog) (s s' : Slot) (i : Instr) :
    (p.insert s i).get s' = if s = s' then some i else p.get s' := by
  fun_induction Prog.insert p s i with
  | case1 => rw [Prog.get_cons]
  | case2 k v rest hk =>
    rw [Prog.get_cons, Prog.get_cons, slotKey_eq_iff.mp hk]
    split <;> rfl
  | case3 k v rest hk hlt => rw [Prog.get_cons]
  | case4 k v rest hk hlt ih =>
    rw [Prog.get_cons, Prog.get_cons, ih]
    split
    · rename_i hks
      rw [if_neg fun e => hk (slotKey_eq_iff.mpr (hks.trans e.symm))]
    · rfl

theorem Prog.get_insert_self (p : Prog) (s : Slot) (i : Instr) : (p.insert s i).get s = some i := by
  rw [Prog.get_insert, if_pos rfl]

theorem Prog.get_insert_ne (p : Prog) (s s' : Slot) (i : Instr) (h : s ≠ s') :
    (p.insert s i).get s' = p.get s' := by
  rw [Prog.get_insert, if_neg h]

theorem Prog.mem_of_get {p : Prog} {s : Slot} {i : Instr} (h : p.get s = some i) :
    (s, i) ∈ p := by
  fun_induction Prog.get p s with
  | case1 => cases h
  | case2 k v rest hk =>
    cases h
    rw [← slotKey_eq_iff.mp hk]
    exact List.mem_cons_self ..
  | case3 k v rest hk ih => exact List.mem_cons_of_mem _ (ih h)

theorem Prog.mem_insert_iff {p : Prog} {s : Slot} (hn : p.get s = none) {i : Instr}
    {kv : Slot × Instr} : kv ∈ p.insert s i ↔ kv = (s, i) ∨ kv ∈ p := by
  fun_induction Prog.insert p s i with
  | case1 => exact List.mem_cons
  | case2 k v rest hk =>
    rw [Prog.get, if_pos hk] at hn
    cases hn
  | case3 => exact List.mem_cons
  | case4 k v rest hk hlt ih =>
    rw [Prog.get, if_neg hk] at hn
    rw [List.mem_cons, ih hn, List.mem_cons, or_left_comm]

theorem Prog.paramsFix_fold (p : Prog) (acc : Nat × Nat) :
    let r := p.foldl (fun acc kv => (max (max acc.1 kv.1.1) kv.2.2.2,
      max (max acc.2 kv.1.2) kv.2.1)) acc
    acc.1 ≤ r.1 ∧ acc.2 ≤ r.2 ∧
      ∀ kv ∈ p, kv.1.1 ≤ r.1 ∧ kv.2.2.2 ≤ r.1 ∧ kv.1.2 ≤ r.2 ∧ kv.2.1 ≤ r.2 := by
  induction p generalizing acc with
  | nil => exact ⟨Nat.le_refl _, Nat.le_refl _, nofun⟩
  | cons e rest ih =>
    obtain ⟨h1, h2, h3⟩ := ih (max (max acc.1 e.1.1) e.2.2.2, max (max acc.2 e.1.2) e.2.1)
    simp only [Nat.max_le] at h1 h2
    exact ⟨h1.1.1, h2.1.1, List.forall_mem_cons.2 ⟨⟨h1.1.2, h1.2, h2.1.2, h2.2⟩, h3⟩⟩

theorem Prog.paramsFix_bound {p : Prog} {kv : Slot × Instr} (h : kv ∈ p) :
    kv.1.1 ≤ p.paramsFix.1 ∧ kv.2.2.2 ≤ p.paramsFix.1 ∧ kv.1.2 ≤ p.paramsFix.2 ∧
      kv.2.1 ≤ p.paramsFix.2 :=
  (Prog.paramsFix_fold p (0, 0)).2.2 kv h

end BB.Tree
