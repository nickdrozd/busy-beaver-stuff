/-
C10 support: the harvest of `branch` is exactly the set of results of the process with the code's
availability counters (`ProcFrom`), filtered by `UsesLast`; no program is emitted twice;
interleavings are permutations of the sequential harvest.
-/
import BB.Lemmas.TreeGenBuild

namespace BB.Tree

open BB

theorem ProcFrom.of_not_undefined {params : Nat × Nat} {lim : Nat} {n : Node} {r : Nat} {p : Prog}
    (hno : ∀ slot t', runForUndefined n.prog n.state n.tape lim ≠ (.undefined slot, t')) :
    ProcFrom params lim n r p ↔ p = n.prog := by
  constructor
  · intro h
    cases h with
    | stop _ => rfl
    | last hrun _ => exact absurd hrun (hno _ _)
    | fill hrun _ _ => exact absurd hrun (hno _ _)
  · rintro rfl
    exact .stop hno

theorem mem_branchL_iff {S C lim : Nat} {n : Node} {r : Nat} {p : Prog} :
    p ∈ branchL (S, C) lim n r ↔ ProcFrom (S, C) lim n r p ∧ UsesLast S C p := by
  fun_induction branchL (S, C) lim n r with
  | case1 n slot t' hrun =>
    refine iff_of_false List.not_mem_nil fun h => ?_
    cases h.1 with
    | stop hno => exact hno _ _ hrun
  | case2 n hno => rw [mem_leaf, ProcFrom.of_not_undefined hno]
  | case3 n r slot t' hrun ih =>
    simp only [List.mem_flatMap]
    constructor
    · rintro ⟨i, hi, hp⟩
      have hoff : n.Offers (S, C) slot i := mem_makeInstrs.mp hi
      cases r with
      | zero =>
        obtain ⟨rfl, hu⟩ := mem_leaf.mp hp
        exact ⟨.last hrun hoff, hu⟩
      | succ k => exact ⟨.fill hrun hoff ((ih i).mp hp).1, ((ih i).mp hp).2⟩
    · rintro ⟨hproc, hu⟩
      cases hproc with
      | stop hno => exact absurd hrun (hno _ _)
      | last hrun' hoff =>
        cases hrun.symm.trans hrun'
        exact ⟨_, mem_makeInstrs.mpr hoff, mem_leaf.mpr ⟨rfl, hu⟩⟩
      | fill hrun' hoff hrest =>
        cases hrun.symm.trans hrun'
        exact ⟨_, mem_makeInstrs.mpr hoff, (ih _).mpr ⟨hrest, hu⟩⟩
  | case4 n r hno => rw [mem_leaf, ProcFrom.of_not_undefined hno]

theorem branchL_usesLast {S C lim : Nat} {n : Node} {r : Nat} {p : Prog}
    (h : p ∈ branchL (S, C) lim n r) : UsesLast S C p :=
  (mem_branchL_iff.mp h).2

theorem ProcFrom.extends {params : Nat × Nat} {lim : Nat} {n : Node} {r : Nat} {p : Prog}
    (h : ProcFrom params lim n r p) {s : Slot} {v : Instr} (hv : n.prog.get s = some v) :
    p.get s = some v := by
  have keep : ∀ {n : Node} {slot t'} (i : Instr),
      runForUndefined n.prog n.state n.tape lim = (.undefined slot, t') →
      n.prog.get s = some v → (n.prog.insert slot i).get s = some v := by
    intro n slot t' i hrun hv
    rw [Prog.get_insert_ne _ _ _ _ fun e => by rw [← e, run_undefined_get hrun] at hv; cases hv]
    exact hv
  induction h with
  | stop _ => exact hv
  | last hrun _ => exact keep _ hrun hv
  | fill hrun _ _ ih => exact ih (keep _ hrun hv)

theorem branchL_nodup (S C : Nat) (lim : Nat) (n : Node) (r : Nat) :
    (branchL (S, C) lim n r).Nodup := by
  fun_induction branchL (S, C) lim n r with
  | case1 => exact List.nodup_nil
  | case2 => exact nodup_leaf _ _
  | case3 n r slot t' _ ih =>
    -- the choice made at `slot` can be read off every program below it
    refine nodup_flatMap_of_tag (fun p => p.get slot) (nodup_makeInstrs _ _) ?_ ?_
    · intro i _
      split
      · exact nodup_leaf _ _
      · exact ih i
    · intro i _ p hp
      split at hp
      · rw [(mem_leaf.mp hp).1]
        exact Prog.get_insert_self ..
      · exact (mem_branchL_iff.mp hp).1.extends (Prog.get_insert_self ..)
  | case4 => exact nodup_leaf _ _

/-- two tasks differ at `B0` for ever -/
theorem roots_flatMap_nodup (S C : Nat) (halt : Bool) (lim : Nat) :
    ((roots S C).flatMap fun i =>
      branchL (S, C) lim (rootNode S C i) (slots0 S C halt)).Nodup :=
  nodup_flatMap_of_tag (fun p => p.get (1, 0)) (nodup_makeInstrs _ _)
    (fun _ _ => branchL_nodup ..)
    (fun i _ _ hp => (mem_branchL_iff.mp hp).1.extends (initProg_get i))

theorem Interleaving.perm {α : Type} {ls : List (List α)} {out : List α}
    (h : Interleaving ls out) : out.Perm ls.flatten := by
  induction h with
  | nil ls hnil => rw [List.flatten_eq_nil_iff.mpr hnil]
  | pick pre x l post out _ ih =>
    simp only [List.flatten_append, List.flatten_cons, List.cons_append] at ih ⊢
    exact (List.Perm.cons x ih).trans List.perm_middle.symm

theorem Interleaving.flatten {α : Type} (ls : List (List α)) : Interleaving ls ls.flatten := by
  -- exhausted lists `pre` stay in front while the lists of `ls` are taken one after the other
  suffices ∀ pre : List (List α), (∀ l ∈ pre, l = []) → Interleaving (pre ++ ls) ls.flatten from
    this [] nofun
  induction ls with
  | nil => exact fun pre h => .nil _ (by rwa [List.append_nil])
  | cons l ls ih =>
    intro pre hpre
    induction l with
    | nil =>
      have := ih (pre ++ [[]]) (List.forall_mem_append.mpr ⟨hpre, List.forall_mem_singleton.mpr rfl⟩)
      rwa [List.append_assoc] at this
    | cons x l ihl => exact .pick pre x l ls _ ihl

end BB.Tree
