/-
C11 (rule arithmetic is exact): `Rule.insert` and `make_rule`.

A rule is read through `List.lookup`: `make_rule_facts` says that the rule made from four count
vectors holds, under the key `(s, j)`, what `calculateDiff` answered for block `j` of side `s` (and
nothing where it answered `None` or beyond the shortest vector), and that it is `Sorted`.  The loop
over one side inserts at the keys `(s, i)`, `(s, i + 1)`, ... in turn, each still free when its turn
comes (`hpre` of `spans_some`), so no insert overwrites an entry.
-/
import BB.Lemmas.RuleDiff

namespace BB.RuleArith

open BB

theorem indexLt_irrefl (a : Index) : Index.lt a a = false := by
  obtain ⟨s, i⟩ := a
  cases s <;> simp [Index.lt]

theorem indexLt_trans {a b c : Index} (h1 : Index.lt a b = true) (h2 : Index.lt b c = true) :
    Index.lt a c = true := by
  obtain ⟨s, i⟩ := a; obtain ⟨s', i'⟩ := b; obtain ⟨s'', i''⟩ := c
  cases s <;> cases s' <;> cases s'' <;> simp [Index.lt] at * <;> omega

theorem indexLt_trichotomy (a b : Index) : Index.lt a b = true ∨ a = b ∨ Index.lt b a = true := by
  obtain ⟨s, i⟩ := a; obtain ⟨s', i'⟩ := b
  cases s <;> cases s' <;> simp [Index.lt] <;> omega

theorem lt_ne {a b : Index} (h : Index.lt a b = true) : a ≠ b := by
  intro e; subst e; rw [indexLt_irrefl] at h; cases h

theorem lookup_cons (k k' : Index) (v : Op) (r : Rule) :
    List.lookup k ((k', v) :: r) = if k = k' then some v else List.lookup k r := by
  rw [List.lookup_cons]
  by_cases h : k = k'
  · rw [if_pos h, beq_iff_eq.mpr h]
  · rw [if_neg h, beq_false_of_ne h]

theorem lookup_none_iff (r : Rule) (k : Index) : List.lookup k r = none ↔ k ∉ keys r := by
  rw [List.lookup_eq_none_iff, keys, List.mem_map, not_exists]
  exact forall_congr' fun p => ⟨fun h hp => bne_iff_ne.mp (h hp.1) hp.2.symm,
    fun h hp => bne_iff_ne.mpr fun e => h ⟨hp, e.symm⟩⟩

theorem mem_keys_of_mem {r : Rule} {k : Index} {v : Op} (h : (k, v) ∈ r) : k ∈ keys r := by
  unfold keys; exact List.mem_map.mpr ⟨(k, v), h, rfl⟩

theorem mem_iff_lookup {r : Rule} (hnd : (keys r).Nodup) (k : Index) (v : Op) :
    (k, v) ∈ r ↔ List.lookup k r = some v := by
  constructor
  · intro h
    obtain ⟨l₁, l₂, rfl⟩ := List.append_of_mem h
    refine List.lookup_eq_some_iff.mpr ⟨l₁, l₂, rfl, fun p hp => bne_iff_ne.mpr fun e => ?_⟩
    rw [keys, List.map_append, List.nodup_append] at hnd
    exact hnd.2.2 _ (List.mem_map_of_mem hp) _ (List.mem_map_of_mem List.mem_cons_self) e.symm
  · intro h
    obtain ⟨l₁, l₂, rfl, -⟩ := List.lookup_eq_some_iff.mp h
    exact List.mem_append_right _ List.mem_cons_self

theorem lookup_insert (r : Rule) (k k' : Index) (v : Op) :
    List.lookup k' (Rule.insert r k v) = if k' = k then some v else List.lookup k' r := by
  induction r with
  | nil => simp only [Rule.insert, lookup_cons]
  | cons e r ih =>
    obtain ⟨k0, v0⟩ := e
    simp only [Rule.insert]
    split
    · rw [lookup_cons]
    split
    · next hk =>
      obtain rfl := beq_iff_eq.mp hk
      rw [lookup_cons, lookup_cons]
      split <;> rfl
    · next hk =>
      rw [lookup_cons, lookup_cons, ih]
      by_cases h0 : k' = k0
      · rw [if_pos h0, if_pos h0, if_neg (fun h => hk (beq_iff_eq.mpr (h.symm.trans h0)))]
      · rw [if_neg h0, if_neg h0]

theorem mem_insert {r : Rule} {k : Index} {v : Op} {e : Index × Op} (h : e ∈ Rule.insert r k v) :
    e = (k, v) ∨ e ∈ r := by
  induction r with
  | nil => exact Or.inl (List.mem_singleton.mp h)
  | cons e0 r ih =>
    simp only [Rule.insert] at h
    split at h
    · exact List.mem_cons.mp h
    split at h
    · exact (List.mem_cons.mp h).imp_right (List.mem_cons_of_mem _)
    · rcases List.mem_cons.mp h with h | h
      · exact Or.inr (h ▸ List.mem_cons_self)
      · exact (ih h).imp_right (List.mem_cons_of_mem _)

theorem sorted_insert {r : Rule} (hs : Sorted r) (k : Index) (v : Op) :
    Sorted (Rule.insert r k v) := by
  induction r with
  | nil => exact List.pairwise_singleton _ _
  | cons e0 r ih =>
    obtain ⟨k0, v0⟩ := e0
    obtain ⟨h0, hr⟩ := List.pairwise_cons.mp hs
    simp only [Rule.insert]
    split
    · next hlt =>
      refine List.pairwise_cons.mpr ⟨fun e he => ?_, hs⟩
      rcases List.mem_cons.mp he with rfl | he
      · exact hlt
      · exact indexLt_trans hlt (h0 e he)
    split
    · next hk => exact List.pairwise_cons.mpr ⟨beq_iff_eq.mp hk ▸ h0, hr⟩
    · next hnlt hk =>
      have hgt : Index.lt k0 k = true :=
        ((indexLt_trichotomy k k0).resolve_left hnlt).resolve_left (fun h => hk (beq_iff_eq.mpr h))
      refine List.pairwise_cons.mpr ⟨fun e he => ?_, ih hr⟩
      rcases mem_insert he with rfl | he
      · exact hgt
      · exact h0 e he

theorem zip4_eq_zip (a b c d : List Nat) : zip4 a b c d = a.zip (b.zip (c.zip d)) := by
  induction a generalizing b c d with
  | nil => rfl
  | cons a0 as ih =>
    cases b with
    | nil => rfl
    | cons b0 bs =>
      cases c with
      | nil => rfl
      | cons c0 cs =>
        cases d with
        | nil => rfl
        | cons d0 ds => exact congrArg _ (ih bs cs ds)

theorem zip4_getElem? (a b c d : List Nat) (j : Nat) (x y z w : Nat) :
    (zip4 a b c d)[j]? = some (x, y, z, w) ↔
      a[j]? = some x ∧ b[j]? = some y ∧ c[j]? = some z ∧ d[j]? = some w := by
  rw [zip4_eq_zip, List.getElem?_zip_eq_some, List.getElem?_zip_eq_some, List.getElem?_zip_eq_some]

theorem zip4_length (a b c d : List Nat) :
    (zip4 a b c d).length = min a.length (min b.length (min c.length d.length)) := by
  rw [zip4_eq_zip, List.length_zip, List.length_zip, List.length_zip]

theorem exists_mem_zip4 (A B C D : List Nat) (p : Nat × Nat × Nat × Nat → Prop) :
    (∃ x ∈ zip4 A B C D, p x) ↔
      ∃ (i a b c d : Nat), A[i]? = some a ∧ B[i]? = some b ∧ C[i]? = some c ∧ D[i]? = some d ∧
        p (a, b, c, d) := by
  constructor
  · rintro ⟨⟨a, b, c, d⟩, hx, hp⟩
    obtain ⟨i, hi⟩ := List.getElem?_of_mem hx
    obtain ⟨ha, hb, hc, hd⟩ := (zip4_getElem? _ _ _ _ i a b c d).mp hi
    exact ⟨i, a, b, c, d, ha, hb, hc, hd, hp⟩
  · rintro ⟨i, a, b, c, d, ha, hb, hc, hd, hp⟩
    exact ⟨_, List.mem_of_getElem? ((zip4_getElem? _ _ _ _ i a b c d).mpr ⟨ha, hb, hc, hd⟩), hp⟩

theorem spans_cons {s : Bool} {x : Nat × Nat × Nat × Nat} {rest : List (Nat × Nat × Nat × Nat)}
    {i : Nat} {rule rule' : Rule} (h : makeRuleSpans s (x :: rest) i rule = .ok (some rule'))
    (hpre : List.lookup (s, i) rule = none) :
    ∃ o rule₁, calculateDiff x.1 x.2.1 x.2.2.1 x.2.2.2 = .ok (o.map DiffResult.got) ∧
      makeRuleSpans s rest (i + 1) rule₁ = .ok (some rule') ∧
      (∀ k, List.lookup k rule₁ = if k = (s, i) then o else List.lookup k rule) ∧
      (Sorted rule → Sorted rule₁) := by
  obtain ⟨a, b, c, d⟩ := x
  simp only [makeRuleSpans] at h
  split at h
  · cases h
  · next hcd =>
    refine ⟨none, rule, hcd, h, fun k => ?_, id⟩
    split
    · next hk => rw [hk, hpre]
    · rfl
  · cases h
  · next op hcd =>
    exact ⟨some op, _, hcd, h, fun k => lookup_insert rule (s, i) k op, fun hs => sorted_insert hs _ _⟩

theorem spans_some (s : Bool) (l : List (Nat × Nat × Nat × Nat)) (i : Nat) (rule rule' : Rule)
    (h : makeRuleSpans s l i rule = .ok (some rule'))
    (hpre : ∀ j, i ≤ j → List.lookup (s, j) rule = none) :
    (∀ j x, l[j]? = some x →
        calculateDiff x.1 x.2.1 x.2.2.1 x.2.2.2
          = .ok ((List.lookup (s, i + j) rule').map DiffResult.got)) ∧
      (∀ k : Index, (k.1 ≠ s ∨ k.2 < i ∨ i + l.length ≤ k.2) →
        List.lookup k rule' = List.lookup k rule) ∧
      (Sorted rule → Sorted rule') := by
  induction l generalizing i rule with
  | nil =>
    cases h
    exact ⟨fun j x hx => (nomatch List.getElem?_nil ▸ hx), fun _ _ => rfl, id⟩
  | cons x rest ih =>
    obtain ⟨o, rule₁, hcd, hrec, hlk, hso⟩ := spans_cons h (hpre i (Nat.le_refl i))
    obtain ⟨h1, h2, h3⟩ := ih (i + 1) rule₁ hrec fun j hj => by
      rw [hlk, if_neg (fun e => by injection e with _ e; omega)]
      exact hpre j (by omega)
    refine ⟨fun j y hy => ?_, fun k hk => ?_, fun hs => h3 (hso hs)⟩
    · cases j with
      | zero =>
        cases hy
        rw [Nat.add_zero, h2 (s, i) (Or.inr (Or.inl (Nat.lt_succ_self i))), hlk, if_pos rfl]
        exact hcd
      | succ j =>
        rw [← Nat.add_assoc, Nat.add_right_comm]
        exact h1 j y hy
    · rw [List.length_cons] at hk
      rw [h2 k (hk.imp_right (Or.imp Nat.lt_succ_of_lt (by omega))), hlk, if_neg]
      rintro rfl
      rcases hk with hk | hk | hk
      · exact hk rfl
      · exact Nat.lt_irrefl _ hk
      · omega

theorem spans_no_error (s : Bool) (l : List (Nat × Nat × Nat × Nat)) (i : Nat) (rule : Rule)
    (e : PErr) : makeRuleSpans s l i rule ≠ .error e := by
  induction l generalizing i rule with
  | nil => exact fun h => nomatch h
  | cons q rest ih =>
    obtain ⟨a, b, c, d⟩ := q
    simp only [makeRuleSpans]
    split
    · next e' hcd => exact absurd hcd (calculateDiff_ne_error a b c d e')
    · exact ih _ _
    · exact fun h => nomatch h
    · exact ih _ _

theorem spans_none_iff (s : Bool) (l : List (Nat × Nat × Nat × Nat)) (i : Nat) (rule : Rule) :
    makeRuleSpans s l i rule = .ok none ↔
      ∃ x ∈ l, calculateDiff x.1 x.2.1 x.2.2.1 x.2.2.2 = .ok (some .unknown) := by
  induction l generalizing i rule with
  | nil => exact iff_of_false (fun h => nomatch h) (fun ⟨_, h, _⟩ => nomatch h)
  | cons q rest ih =>
    obtain ⟨a, b, c, d⟩ := q
    simp only [makeRuleSpans, List.mem_cons, exists_eq_or_imp]
    split
    · next e' hcd => exact absurd hcd (calculateDiff_ne_error a b c d e')
    · next hcd => rw [ih, hcd]; exact (or_iff_right (fun h => nomatch h)).symm
    · next hcd => exact iff_of_true rfl (Or.inl hcd)
    · next op hcd => rw [ih, hcd]; exact (or_iff_right (fun h => nomatch h)).symm

/-- the four count vectors of side `s`, block by block -/
abbrev sideCounts (c1 c2 c3 c4 : Counts) (s : Bool) : List (Nat × Nat × Nat × Nat) :=
  zip4 (cside c1 s) (cside c2 s) (cside c3 s) (cside c4 s)

theorem makeRule_eq (c1 c2 c3 c4 : Counts) :
    makeRule c1 c2 c3 c4 =
      match makeRuleSpans false (sideCounts c1 c2 c3 c4 false) 0 [] with
      | .error e => .error e
      | .ok none => .ok none
      | .ok (some rule) => makeRuleSpans true (sideCounts c1 c2 c3 c4 true) 0 rule := rfl

theorem make_rule_facts {c1 c2 c3 c4 : Counts} {rule : Rule}
    (h : makeRule c1 c2 c3 c4 = .ok (some rule)) :
    (∀ s j x, (sideCounts c1 c2 c3 c4 s)[j]? = some x →
        calculateDiff x.1 x.2.1 x.2.2.1 x.2.2.2
          = .ok ((List.lookup (s, j) rule).map DiffResult.got)) ∧
      (∀ s j, (sideCounts c1 c2 c3 c4 s).length ≤ j → List.lookup (s, j) rule = none) ∧
      Sorted rule := by
  rw [makeRule_eq] at h
  split at h
  · cases h
  · cases h
  · next ruleL hL =>
    obtain ⟨l1, l2, l3⟩ := spans_some false _ 0 [] ruleL hL (fun _ _ => rfl)
    have hpre : ∀ j, 0 ≤ j → List.lookup (true, j) ruleL = none :=
      fun j _ => l2 (true, j) (Or.inl (fun e => nomatch e))
    obtain ⟨r1, r2, r3⟩ := spans_some true _ 0 ruleL rule h hpre
    have hL : ∀ j, List.lookup (false, j) rule = List.lookup (false, j) ruleL :=
      fun j => r2 (false, j) (Or.inl (fun e => nomatch e))
    refine ⟨fun s j x hx => ?_, fun s j hj => ?_, r3 (l3 List.Pairwise.nil)⟩
    · cases s with
      | false => rw [hL, ← Nat.zero_add j]; exact l1 j x hx
      | true => rw [← Nat.zero_add j]; exact r1 j x hx
    · rw [← Nat.zero_add (List.length _)] at hj
      cases s with
      | false => rw [hL]; exact l2 (false, j) (Or.inr (Or.inr hj))
      | true => rw [r2 (true, j) (Or.inr (Or.inr hj))]; exact hpre j (Nat.zero_le j)

end BB.RuleArith
