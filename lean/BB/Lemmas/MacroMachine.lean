/-
Whatever the kind of macro, the macro instruction `pureInstr` over a base program is: decode the
slot to a window with the head on an end cell, run the base machine until the head leaves the
window (`runSimulator`, whose L0 meaning is in MacroRun), encode what is left.  `SlotWindow` says
what a kind has to supply for this; its lemmas give the L0 meaning of the three answers of
`pureInstr`.  The macro machine `macroF` against the base machine: if one macro step is `≥ 1` base
steps between decoded configurations, a macro run from the blank tape visits, in order,
configurations of the base run (`sim_run`).
-/
import BB.Lemmas.MacroRun

namespace BB.MacroSim

open BB BB.Macros

theorem two_mul_add {m M e : Nat} (he : e < 2) (hm : m < M) :
    (2 * m + e) / 2 = m ∧ (2 * m + e) % 2 = e ∧ 2 * m + e < 2 * M := by
  rw [Nat.mul_comm 2, Nat.mul_comm 2]
  exact ⟨(mul_add_div_mod he).1, (mul_add_div_mod he).2, mul_add_lt hm he⟩

theorem pureDeconstructInputs_block {lp : LogicParams} (hk : lp.kind = .block) (ms mc : Nat) :
    pureDeconstructInputs lp (ms, mc) =
      .ok (ms / 2, (ms % 2 == 1, decode lp.baseColors lp.cells mc)) := by
  simp only [pureDeconstructInputs, hk]

theorem pureReconstructOutputs_block {lp : LogicParams} (hk : lp.kind = .block) (f : Bool)
    (q : Nat) (d : Bool) (t : MTape) :
    pureReconstructOutputs lp (q, (d, t)) f =
      .ok (encode lp.baseColors t, d, 2 * q + (if d then 0 else 1)) := by
  simp only [pureReconstructOutputs, hk]

theorem simLim_block {lp : LogicParams} (hk : lp.kind = .block) :
    lp.simLim = lp.baseStates * lp.cells * lp.baseColors ^ lp.cells := by
  simp only [LogicParams.simLim, LogicParams.macroColors, hk]

/-- Slot `slot` of the macro `lp` stands for the `k`-cell window `tape` (`k ≥ 1`) entered in state
    `q` on its right (`re`) or left end cell, and whatever `k`-cell window the base machine leaves
    behind can be encoded. -/
structure SlotWindow (lp : LogicParams) (f : Bool) (slot : Slot) (k q : Nat) (re : Bool)
    (tape : MTape) : Prop where
  dec : pureDeconstructInputs lp slot = .ok (q, (re, tape))
  len : tape.length = k
  pos : 1 ≤ k
  enc : ∀ q' d t, t.length = k → ∃ i, pureReconstructOutputs lp (q', (d, t)) f = .ok i

namespace SlotWindow

variable {lp : LogicParams} {f : Bool} {slot : Slot} {k q : Nat} {re : Bool} {tape : MTape}
  {p : ProgF} {S C : Nat}

theorem instr_cases (hw : SlotWindow lp f slot k q re tape) (p : ProgF) :
    (pureInstr (innerOf p) lp f slot = .ok none ∧
      runSimulator (pureGet (innerOf p)) lp.simLim () (q, (re, tape)) = .ok (none, ())) ∨
    ∃ q' d t i, pureInstr (innerOf p) lp f slot = .ok (some i) ∧
      pureReconstructOutputs lp (q', (d, t)) f = .ok i ∧
      runSimulator (pureGet (innerOf p)) lp.simLim () (q, (re, tape)) =
        .ok (some (q', (d, t)), ()) := by
  have ht : tape ≠ [] := List.ne_nil_of_length_pos (by rw [hw.len]; exact hw.pos)
  obtain ⟨o, hs, hl⟩ := runSimulator_ok p lp.simLim q re ht
  cases o with
  | none => exact .inl ⟨by simp only [pureInstr, hw.dec, hs], hs⟩
  | some out =>
    obtain ⟨q', d, t⟩ := out
    obtain ⟨i, hi⟩ := hw.enc q' d t ((hl q' d t rfl).trans hw.len)
    exact .inr ⟨q', d, t, i, by simp only [pureInstr, hw.dec, hs, hi], hi, hs⟩

theorem no_error (hw : SlotWindow lp f slot k q re tape) (p : ProgF) (e : Err) :
    pureInstr (innerOf p) lp f slot ≠ .error e := by
  rcases hw.instr_cases p with ⟨hp, _⟩ | ⟨_, _, _, _, hp, _⟩ <;>
    rw [hp] <;> exact fun h => nomatch h

theorem of_some (hw : SlotWindow lp f slot k q re tape) (hcl : Closed p S C)
    (h0 : Fits S C k q tape) {i : Instr} (h : pureInstr (innerOf p) lp f slot = .ok (some i)) (oL oR : List Nat) :
    ∃ q' d t, pureReconstructOutputs lp (q', (d, t)) f = .ok i ∧ Fits S C k q' t ∧
      ∃ n, 1 ≤ n ∧ RunsIn p k oL oR n (enterCfg q re tape oL oR) (exitCfg q' d t oL oR) := by
  rcases hw.instr_cases p with ⟨hp, _⟩ | ⟨q', d, t, i', hp, hi, hs⟩
  · rw [hp] at h; cases h
  · obtain rfl : i' = i := Option.some.inj (Except.ok.inj (hp.symm.trans h))
    exact ⟨q', d, t, hi, runSimulator_some hcl h0 hw.pos oL oR hs⟩

theorem of_none (hw : SlotWindow lp f slot k q re tape) (hcl : Closed p S C)
    (h0 : Fits S C k q tape) (h : pureInstr (innerOf p) lp f slot = .ok none) (oL oR : List Nat) :
    HaltsInside p k oL oR (enterCfg q re tape oL oR) ∨
      (StaysFor p k oL oR lp.simLim (enterCfg q re tape oL oR) ∧
        (S * k * C ^ k ≤ lp.simLim → NeverLeaves p k oL oR (enterCfg q re tape oL oR))) := by
  rcases hw.instr_cases p with ⟨_, hs⟩ | ⟨_, _, _, _, hp, _⟩
  · exact runSimulator_none hcl h0 hw.pos oL oR hs
  · rw [hp] at h; cases h

theorem to_none (hw : SlotWindow lp f slot k q re tape) (hcl : Closed p S C)
    (h0 : Fits S C k q tape) (oL oR : List Nat)
    (h : HaltsInside p k oL oR (enterCfg q re tape oL oR) ∨
      NeverLeaves p k oL oR (enterCfg q re tape oL oR)) :
    pureInstr (innerOf p) lp f slot = .ok none := by
  rcases hw.instr_cases p with ⟨hp, _⟩ | ⟨_, _, _, _, _, _, hs⟩
  · exact hp
  · rw [runSimulator_none_of hcl h0 hw.pos oL oR lp.simLim re h] at hs; cases hs

end SlotWindow

theorem block_slotWindow {lp : LogicParams} (f : Bool) (hk : lp.kind = .block) (hc : 1 ≤ lp.cells)
    (ms mc : Nat) :
    SlotWindow lp f (ms, mc) lp.cells (ms / 2) (ms % 2 == 1) (decode lp.baseColors lp.cells mc) :=
  ⟨pureDeconstructInputs_block hk ms mc, decode_length _ _ _, hc,
    fun q' d t _ => ⟨_, pureReconstructOutputs_block hk f q' d t⟩⟩

theorem step1_macroF_some {p : ProgF} {lp : LogicParams} {f : Bool} {c c' : Cfg}
    (h : step1 (macroF p lp f) c = some c') :
    ∃ mc' d ms', pureInstr (innerOf p) lp f (c.state, c.scan) = .ok (some (mc', d, ms')) ∧
      c' = c.move mc' d ms' := by
  simp only [step1, macroF] at h
  cases hp : pureInstr (innerOf p) lp f (c.state, c.scan) with
  | error e => simp [hp] at h
  | ok o =>
    cases o with
    | none => simp [hp] at h
    | some i =>
      obtain ⟨mc', d, ms'⟩ := i
      simp only [hp, Option.some.injEq] at h
      exact ⟨mc', d, ms', rfl, h.symm⟩

theorem step1_macroF_none {p : ProgF} {lp : LogicParams} {f : Bool} {c : Cfg}
    (hne : ∀ e, pureInstr (innerOf p) lp f (c.state, c.scan) ≠ .error e) :
    step1 (macroF p lp f) c = none ↔ pureInstr (innerOf p) lp f (c.state, c.scan) = .ok none := by
  simp only [step1, macroF]
  cases hp : pureInstr (innerOf p) lp f (c.state, c.scan) with
  | error e => exact absurd hp (hne e)
  | ok o =>
    cases o with
    | none => simp
    | some i => obtain ⟨mc', d, ms'⟩ := i; simp

/-- Configurations of `M` decode (`dec`) to configurations of `p`; step `i` of `M` is step `t i`
    of `p`, up to trailing blanks. -/
theorem sim_run {M p : ProgF} {I : Cfg → Prop} {dec : Cfg → Cfg} (h0 : I Cfg.init)
    (hd0 : Cfg.init ≈c dec Cfg.init)
    (hstep : ∀ c c', I c → step1 M c = some c' →
      I c' ∧ ∃ n b', 1 ≤ n ∧ stepN p n (dec c) = some b' ∧ b' ≈c dec c') :
    ∀ (N : Nat) (C : Cfg), RunAt M N C →
      I C ∧ ∃ t : Nat → Nat, t 0 = 0 ∧ (∀ i, i < N → t i < t (i + 1)) ∧
        ∀ i, i ≤ N → ∃ Ci b, RunAt M i Ci ∧ RunAt p (t i) b ∧ b ≈c dec Ci := by
  intro N
  induction N with
  | zero =>
    intro C h
    obtain rfl : Cfg.init = C := Option.some.inj h
    refine ⟨h0, fun _ => 0, rfl, fun i hi => (Nat.not_lt_zero i hi).elim, fun i hi => ?_⟩
    obtain rfl : i = 0 := Nat.le_zero.1 hi
    exact ⟨Cfg.init, Cfg.init, rfl, rfl, hd0⟩
  | succ N ih =>
    intro C h
    have h' := h
    simp only [RunAt] at h'
    rw [stepN_succ_last] at h'
    cases h0 : stepN M N Cfg.init with
    | none => rw [h0] at h'; cases h'
    | some C0 =>
      rw [h0, Option.bind_some] at h'
      obtain ⟨hI, t, ht0, hmono, hall⟩ := ih C0 h0
      obtain ⟨hI', n, b', hn, hr, heq⟩ := hstep C0 C hI h'
      obtain ⟨Ci, b, h1, h2, h3⟩ := hall N (Nat.le_refl _)
      obtain rfl : Ci = C0 := Option.some.inj (h1.symm.trans h0)
      obtain ⟨b'', h4, h5⟩ := stepN_add_of_equiv h2 h3 hr
      -- the new time function: `t` up to `N`, then `n` more base steps
      refine ⟨hI', fun i => if i ≤ N then t i else t N + n, (if_pos (Nat.zero_le N)).trans ht0,
        fun i hi => ?_, fun i hi => ?_⟩
      · show (if i ≤ N then t i else t N + n) < (if i + 1 ≤ N then t (i + 1) else t N + n)
        rcases Nat.lt_or_eq_of_le (Nat.le_of_lt_succ hi) with hlt | rfl
        · rw [if_pos (Nat.le_of_lt hlt), if_pos (Nat.succ_le_of_lt hlt)]
          exact hmono i hlt
        · rw [if_pos (Nat.le_refl i), if_neg (Nat.not_succ_le_self i)]
          exact Nat.lt_add_of_pos_right hn
      · show ∃ Ci b, RunAt M i Ci ∧ RunAt p (if i ≤ N then t i else t N + n) b ∧ b ≈c dec Ci
        rcases Nat.lt_or_eq_of_le hi with hlt | rfl
        · rw [if_pos (Nat.le_of_lt_succ hlt)]
          exact hall i (Nat.le_of_lt_succ hlt)
        · rw [if_neg (Nat.not_succ_le_self N)]
          exact ⟨C, b'', h, h4, h5.trans heq⟩

theorem decode_ne_nil (b : Nat) {k : Nat} (hk : 1 ≤ k) (c : Nat) : decode b k c ≠ [] :=
  List.ne_nil_of_length_pos (by rw [decode_length]; exact hk)

/-- `g` decodes a macro cell to its block; a missing macro cell reads as `0`, which decodes to
    blanks (`h0`). -/
theorem flatMap_pull {g : Nat → List Nat} (h0 : AllZero (g 0)) (hne : ∀ m, g m ≠ [])
    (R : List Nat) :
    (R.flatMap g).headD 0 = (g (R.headD 0)).headD 0 ∧
      SameCells (R.flatMap g).tail ((g (R.headD 0)).tail ++ R.tail.flatMap g) := by
  have hs : SameCells (R.flatMap g) (g (R.headD 0) ++ R.tail.flatMap g) := by
    cases R with
    | nil => exact sameCells_nil_left.2 (by simpa using h0)
    | cons r rs => exact SameCells.refl _
  cases hg : g (R.headD 0) with
  | nil => exact absurd hg (hne _)
  | cons x r => rw [hg] at hs; exact ⟨hs.headD, hs.tail⟩

theorem exitCfg_equiv_decCfg (lp : LogicParams) (hc : 1 ≤ lp.cells) (c : Cfg) (mc' ms' : Nat)
    (d : Bool) (hpar : ms' % 2 = (if d then 0 else 1)) :
    exitCfg (ms' / 2) d (decode lp.baseColors lp.cells mc')
        (decL lp.baseColors lp.cells c.left) (decR lp.baseColors lp.cells c.right) ≈c
      decCfg lp (c.move mc' d ms') := by
  have h0 : AllZero (decode lp.baseColors lp.cells 0) := by
    rw [decode_color_zero]; exact allZero_replicate_zero _
  cases d with
  | true =>
    obtain ⟨e1, e2⟩ := flatMap_pull h0 (decode_ne_nil lp.baseColors hc) c.right
    have h1 : (ms' % 2 == 1) = false := by rw [hpar]; rfl
    simp only [exitCfg, decCfg, Cfg.move, if_true, enterCfg, h1, Bool.false_eq_true, if_false]
    exact ⟨rfl, e1, SameCells.refl _, e2⟩
  | false =>
    obtain ⟨e1, e2⟩ := flatMap_pull (g := fun m => (decode lp.baseColors lp.cells m).reverse)
      (by rw [decode_color_zero, List.reverse_replicate]; exact allZero_replicate_zero _)
      (fun m h => decode_ne_nil lp.baseColors hc m (List.reverse_eq_nil_iff.1 h)) c.left
    have h1 : (ms' % 2 == 1) = true := by rw [hpar]; rfl
    simp only [exitCfg, decCfg, Cfg.move, Bool.false_eq_true, if_false, enterCfg, h1, if_true]
    exact ⟨rfl, e1, e2, SameCells.refl _⟩

theorem init_equiv_decCfg (lp : LogicParams) (hc : 1 ≤ lp.cells) :
    Cfg.init ≈c decCfg lp Cfg.init := by
  obtain ⟨k, hk⟩ : ∃ k, lp.cells = k + 1 := ⟨lp.cells - 1, by omega⟩
  simp only [decCfg, Cfg.init, enterCfg, decode_color_zero, hk, List.replicate_succ]
  exact ⟨rfl, rfl, SameCells.refl _,
    sameCells_nil_left.2 (allZero_append.2 ⟨allZero_replicate_zero k, allZero_nil⟩)⟩

end BB.MacroSim
