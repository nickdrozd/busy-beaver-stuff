/-
What `get_exitpoints` computes: under each state that has a listed instruction to a different
state, the sorted duplicate-free list of those targets; keys strictly increasing.
-/
import BB.Lemmas.GraphConn

namespace BB.Graph

open BB

theorem get_cons (k : Nat) (v : List Nat) (e : Exitpoints) (q : Nat) :
    Exitpoints.get ((k, v) :: e) q = if k = q then some v else e.get q := by
  simp only [Exitpoints.get, beq_iff_eq]

theorem mem_keys_iff (e : Exitpoints) (q : Nat) :
    q ∈ e.map Prod.fst ↔ (e.get q).isSome = true := by
  fun_induction Exitpoints.get e q with
  | case1 => exact ⟨nofun, nofun⟩
  | case2 k v rest hk =>
    exact ⟨fun _ => rfl, fun _ => List.mem_cons.mpr (.inl (beq_iff_eq.mp hk).symm)⟩
  | case3 k v rest hk ih =>
    rw [List.map_cons, List.mem_cons, ih]
    exact ⟨fun h => h.resolve_left fun h => hk (beq_iff_eq.mpr h.symm), .inr⟩

def val (e : Exitpoints) (q : Nat) : List Nat := (e.get q).getD []

/-- keys strictly increasing (the `BTreeMap` order) -/
def SortedK (e : Exitpoints) : Prop := (e.map Prod.fst).Pairwise (· < ·)

theorem get_pushExit_ne (e : Exitpoints) (s d : Nat) {q : Nat} (h : s ≠ q) :
    (e.pushExit s d).get q = e.get q := by
  fun_induction Exitpoints.pushExit e s d with
  | case1 => exact (get_cons ..).trans (if_neg h)
  | case2 k v rest hk =>
    have hkq : k ≠ q := beq_iff_eq.mp hk ▸ h
    rw [get_cons, get_cons, if_neg hkq, if_neg hkq]
  | case3 k v rest hk hlt => rw [get_cons, if_neg h]
  | case4 k v rest hk hlt ih => rw [get_cons, get_cons, ih]

/-- only in a sorted table does the insertion in front of a larger key not hide an entry -/
theorem get_pushExit_self {e : Exitpoints} (s d : Nat) (h : SortedK e) :
    (e.pushExit s d).get s = some (val e s ++ [d]) := by
  fun_induction Exitpoints.pushExit e s d with
  | case1 => exact (get_cons ..).trans (if_pos rfl)
  | case2 k v rest hk =>
    have hk := beq_iff_eq.mp hk
    rw [val, get_cons, get_cons, if_pos hk, if_pos hk]; rfl
  | case3 k v rest hk hlt =>
    have : Exitpoints.get rest s = none := Option.not_isSome_iff_eq_none.mp fun hs =>
      Nat.lt_asymm hlt ((List.pairwise_cons.mp h).1 s ((mem_keys_iff rest s).mpr hs))
    rw [val, get_cons, get_cons, if_pos rfl, if_neg (mt beq_iff_eq.mpr hk), this]; rfl
  | case4 k v rest hk hlt ih =>
    have hk : k ≠ s := mt beq_iff_eq.mpr hk
    rw [val, get_cons, get_cons, if_neg hk, if_neg hk, ih (List.pairwise_cons.mp h).2]; rfl

theorem pushExit_sorted {e : Exitpoints} (s d : Nat) (h : SortedK e) :
    SortedK (e.pushExit s d) := by
  fun_induction Exitpoints.pushExit e s d with
  | case1 => exact List.pairwise_singleton ..
  | case2 => exact h
  | case3 k v rest hk hlt =>
    refine List.pairwise_cons.mpr ⟨fun y hy => ?_, h⟩
    exact (List.mem_cons.mp hy).elim (· ▸ hlt) fun hy =>
      Nat.lt_trans hlt ((List.pairwise_cons.mp h).1 y hy)
  | case4 k v rest hk hlt ih =>
    have hc := List.pairwise_cons.mp h
    refine List.pairwise_cons.mpr ⟨fun y hy => ?_, ih hc.2⟩
    by_cases hys : s = y
    · exact hys ▸ Nat.lt_of_le_of_ne (Nat.le_of_not_lt hlt) (mt beq_iff_eq.mpr hk)
    · rw [mem_keys_iff, get_pushExit_ne _ _ _ hys, ← mem_keys_iff] at hy
      exact hc.1 y hy

/-- the fold step of `get_exitpoints` -/
def exStep (e : Exitpoints) (kv : Slot × Instr) : Exitpoints :=
  if kv.1.1 == kv.2.2.2 then e else e.pushExit kv.1.1 kv.2.2.2

def exitsOf (p : Prog) (q : Nat) : List Nat :=
  (p.filter fun kv => kv.1.1 == q && kv.2.2.2 != q).map fun kv => kv.2.2.2

theorem exitsOf_cons (kv : Slot × Instr) (l : Prog) (q : Nat) :
    exitsOf (kv :: l) q =
      if kv.1.1 = q ∧ kv.2.2.2 ≠ q then kv.2.2.2 :: exitsOf l q else exitsOf l q := by
  simp only [exitsOf, List.filter_cons, Bool.and_eq_true, beq_iff_eq, bne_iff_ne]
  split <;> rfl

theorem mem_exitsOf (p : Prog) (q x : Nat) : x ∈ exitsOf p q ↔ EdgeL p q x ∧ x ≠ q := by
  simp only [exitsOf, List.mem_map, List.mem_filter, Bool.and_eq_true, beq_iff_eq, bne_iff_ne,
    EdgeL]
  constructor
  · rintro ⟨kv, ⟨hkv, h1, h2⟩, rfl⟩
    exact ⟨⟨kv, hkv, h1, rfl⟩, h2⟩
  · rintro ⟨⟨kv, hkv, h1, rfl⟩, h2⟩
    exact ⟨kv, ⟨hkv, h1, h2⟩, rfl⟩

theorem exStep_sorted {e : Exitpoints} (kv : Slot × Instr) (h : SortedK e) :
    SortedK (exStep e kv) := by
  unfold exStep; split
  · exact h
  · exact pushExit_sorted _ _ h

theorem get_exStep {e : Exitpoints} (kv : Slot × Instr) (q : Nat) (h : SortedK e) :
    (exStep e kv).get q =
      if kv.1.1 = q ∧ kv.2.2.2 ≠ q then some (val e q ++ [kv.2.2.2]) else e.get q := by
  unfold exStep
  split
  · rename_i hself
    rw [if_neg fun hc => hc.2 ((beq_iff_eq.mp hself) ▸ hc.1)]
  · rename_i hself
    by_cases hq : kv.1.1 = q
    · subst hq
      rw [if_pos ⟨rfl, fun hc => hself (beq_iff_eq.mpr hc.symm)⟩, get_pushExit_self _ _ h]
    · rw [if_neg fun hc => hq hc.1, get_pushExit_ne _ _ _ hq]

theorem fold_sorted (l : Prog) {e : Exitpoints} (h : SortedK e) : SortedK (l.foldl exStep e) := by
  induction l generalizing e with
  | nil => exact h
  | cons kv l ih => exact ih (exStep_sorted kv h)

theorem fold_get (l : Prog) {e : Exitpoints} (q : Nat) (h : SortedK e) :
    (l.foldl exStep e).get q =
      if exitsOf l q = [] then e.get q else some (val e q ++ exitsOf l q) := by
  induction l generalizing e with
  | nil => rfl
  | cons kv l ih =>
    rw [List.foldl_cons, ih (exStep_sorted kv h), val, get_exStep kv q h, exitsOf_cons]
    by_cases c : kv.1.1 = q ∧ kv.2.2.2 ≠ q
    · rw [if_pos c, if_pos c, if_neg (List.cons_ne_nil _ _)]
      by_cases hnil : exitsOf l q = []
      · rw [if_pos hnil, hnil]
      · rw [if_neg hnil, Option.getD_some, List.append_assoc]; rfl
    · rw [if_neg c, if_neg c]; rfl

theorem get_map (e : Exitpoints) (g : List Nat → List Nat) (q : Nat) :
    Exitpoints.get (e.map fun kv => (kv.1, g kv.2)) q = (e.get q).map g := by
  induction e with
  | nil => rfl
  | cons a rest ih =>
    obtain ⟨k, w⟩ := a
    rw [List.map_cons, get_cons, get_cons, ih]
    split <;> rfl

theorem insertSorted_perm (x : Nat) (l : List Nat) : (insertSorted x l).Perm (x :: l) := by
  fun_induction insertSorted x l with
  | case1 => exact .refl _
  | case2 => exact .refl _
  | case3 a l _ ih => exact (ih.cons a).trans (.swap x a l)

theorem mem_insertSorted (x y : Nat) (l : List Nat) : y ∈ insertSorted x l ↔ y = x ∨ y ∈ l :=
  (insertSorted_perm x l).mem_iff.trans List.mem_cons

theorem sortNat_perm (l : List Nat) : (sortNat l).Perm l := by
  induction l with
  | nil => exact .refl _
  | cons a l ih => exact (insertSorted_perm a _).trans (ih.cons a)

theorem sorted_insertSorted (x : Nat) (l : List Nat) (h : l.Pairwise (· ≤ ·)) :
    (insertSorted x l).Pairwise (· ≤ ·) := by
  fun_induction insertSorted x l with
  | case1 => exact List.pairwise_singleton ..
  | case2 a l hle =>
    refine List.pairwise_cons.mpr ⟨fun y hy => ?_, h⟩
    exact (List.mem_cons.mp hy).elim (· ▸ hle) fun hy =>
      Nat.le_trans hle ((List.pairwise_cons.mp h).1 y hy)
  | case3 a l hle ih =>
    have hc := List.pairwise_cons.mp h
    refine List.pairwise_cons.mpr ⟨fun y hy => ?_, ih hc.2⟩
    exact ((mem_insertSorted x y l).mp hy).elim (· ▸ Nat.le_of_not_le hle) (hc.1 y)

theorem sorted_sortNat (l : List Nat) : (sortNat l).Pairwise (· ≤ ·) := by
  induction l with
  | nil => exact .nil
  | cons a l ih => exact sorted_insertSorted _ _ ih

theorem mem_dedup (y : Nat) (l : List Nat) : y ∈ dedup l ↔ y ∈ l := by
  fun_induction dedup l with
  | case1 => rfl
  | case2 => rfl
  | case3 x z rest hxz ih =>
    rw [ih, beq_iff_eq.mp hxz]
    exact ⟨List.mem_cons_of_mem _,
      fun h => (List.mem_cons.mp h).elim (· ▸ List.mem_cons_self ..) id⟩
  | case4 x z rest hxz ih => rw [List.mem_cons, ih, ← List.mem_cons]

/-- on a sorted list `Vec::dedup` leaves no repeats at all -/
theorem strict_dedup (l : List Nat) (h : l.Pairwise (· ≤ ·)) : (dedup l).Pairwise (· < ·) := by
  fun_induction dedup l with
  | case1 => exact .nil
  | case2 => exact List.pairwise_singleton ..
  | case3 x z rest hxz ih => exact ih (List.pairwise_cons.mp h).2
  | case4 x z rest hxz ih =>
    have hc := List.pairwise_cons.mp h
    refine List.pairwise_cons.mpr ⟨fun y hy => ?_, ih hc.2⟩
    have hxz' : x < z := Nat.lt_of_le_of_ne (hc.1 z (List.mem_cons_self ..))
      fun h => hxz (beq_iff_eq.mpr h)
    rcases List.mem_cons.mp ((mem_dedup y (z :: rest)).mp hy) with rfl | hy'
    · exact hxz'
    · exact Nat.lt_of_lt_of_le hxz' ((List.pairwise_cons.mp hc.2).1 y hy')

theorem getExitpoints_eq (p : Prog) :
    getExitpoints p = (p.foldl exStep []).map fun kv => (kv.1, dedup (sortNat kv.2)) := rfl

theorem getExitpoints_get (p : Prog) (q : Nat) :
    (getExitpoints p).get q =
      if exitsOf p q = [] then none else some (dedup (sortNat (exitsOf p q))) := by
  rw [getExitpoints_eq, get_map _ (fun v => dedup (sortNat v)),
    fold_get p (e := []) q List.Pairwise.nil]
  split <;> rfl

theorem val_getExitpoints (p : Prog) (q : Nat) :
    val (getExitpoints p) q = dedup (sortNat (exitsOf p q)) := by
  rw [val, getExitpoints_get]
  split
  · rename_i h; rw [h]; rfl
  · rfl

theorem exE_iff_mem_val (ex : Exitpoints) (q x : Nat) : ExE ex q x ↔ x ∈ val ex q := by
  unfold ExE val
  cases ex.get q with
  | none => exact ⟨fun ⟨_, hv, _⟩ => (nomatch hv), nofun⟩
  | some v => exact ⟨fun ⟨_, hv, hx⟩ => Option.some.inj hv ▸ hx, fun hx => ⟨v, rfl, hx⟩⟩

theorem exE_iff (p : Prog) (q x : Nat) : ExE (getExitpoints p) q x ↔ EdgeL p q x ∧ x ≠ q := by
  rw [exE_iff_mem_val, val_getExitpoints, mem_dedup, (sortNat_perm _).mem_iff, mem_exitsOf]

theorem getExitpoints_isSome (p : Prog) (q : Nat) :
    ((getExitpoints p).get q).isSome = true ↔ ∃ x, EdgeL p q x ∧ x ≠ q := by
  simp only [← mem_exitsOf]
  rw [getExitpoints_get]
  split
  · rename_i h; rw [h]; exact ⟨nofun, nofun⟩
  · rename_i hne; exact ⟨fun _ => List.exists_mem_of_ne_nil _ hne, fun _ => rfl⟩

theorem getExitpoints_val_nodup {p : Prog} {q : Nat} {v : List Nat}
    (h : (getExitpoints p).get q = some v) : v.Nodup := by
  have : val (getExitpoints p) q = v := by rw [val, h]; rfl
  rw [← this, val_getExitpoints]
  exact (strict_dedup _ (sorted_sortNat _)).imp Nat.ne_of_lt

theorem getExitpoints_keys_nodup (p : Prog) : ((getExitpoints p).map Prod.fst).Nodup := by
  rw [getExitpoints_eq, List.map_map]
  exact (fold_sorted p (e := []) List.Pairwise.nil).imp Nat.ne_of_lt

end BB.Graph
