/-
C08 / C09: the base machine on a window, as steps of the window zipper (`lstep`, `lrun`) and
their meaning in L0.  A run that stays as long as there are window configurations never leaves
(`neverLeaves_of_lrun`, by pigeonhole).
-/
import BB.Lemmas.MacroDefs

namespace BB.MacroSim

open BB BB.Macros

theorem RunsIn.zero (p : ProgF) (k : Nat) (oL oR : List Nat) (c : Cfg) : RunsIn p k oL oR 0 c c :=
  ⟨rfl, fun i hi => by omega⟩

theorem RunsIn.cons {p : ProgF} {k : Nat} {oL oR : List Nat} {n : Nat} {c c1 c2 : Cfg}
    (hw : InWindow k oL oR c) (h1 : step1 p c = some c1) (h : RunsIn p k oL oR n c1 c2) :
    RunsIn p k oL oR (n + 1) c c2 := by
  refine ⟨by simp only [stepN, h1]; exact h.1, fun i hi => ?_⟩
  cases i with
  | zero => exact ⟨c, rfl, hw⟩
  | succ j =>
    obtain ⟨cj, h2, h3⟩ := h.2 j (by omega)
    exact ⟨cj, by simp only [stepN, h1]; exact h2, h3⟩

theorem RunsIn.one {p : ProgF} {k : Nat} {oL oR : List Nat} {c c1 : Cfg}
    (hw : InWindow k oL oR c) (h1 : step1 p c = some c1) : RunsIn p k oL oR 1 c c1 :=
  RunsIn.cons hw h1 (RunsIn.zero p k oL oR c1)

theorem RunsIn.trans {p : ProgF} {k : Nat} {oL oR : List Nat} {n m : Nat} {a b c : Cfg}
    (h1 : RunsIn p k oL oR n a b) (h2 : RunsIn p k oL oR m b c) : RunsIn p k oL oR (n + m) a c := by
  refine ⟨stepN_add_of_eq h1.1 h2.1, fun i hi => ?_⟩
  by_cases h : i < n
  · exact h1.2 i h
  · obtain ⟨j, rfl⟩ : ∃ j, i = n + j := ⟨i - n, by omega⟩
    obtain ⟨cj, h3, h4⟩ := h2.2 j (by omega)
    exact ⟨cj, stepN_add_of_eq h1.1 h3, h4⟩

/-- outcome of one (or several) base steps started with the head in the window -/
inductive LStep where
  | halt
  | exit (q : Nat) (d : Bool) (tape : MTape)
  | cont (q : Nat) (w : Win)

def lstep (p : ProgF) (q : Nat) (w : Win) : LStep :=
  match p q w.scan with
  | none => .halt
  | some (pr, sh, q') =>
    if sh then
      match w.right with
      | [] => .exit q' true (pr :: w.left).reverse
      | r :: rs => .cont q' ⟨pr :: w.left, r, rs⟩
    else
      match w.left with
      | [] => .exit q' false (pr :: w.right)
      | l :: ls => .cont q' ⟨ls, l, pr :: w.right⟩

/-- the L0 configuration an outcome stands for; `none`: the machine has halted -/
def LStep.cfg (oL oR : List Nat) : LStep → Option Cfg
  | .halt => none
  | .exit q d t => some (exitCfg q d t oL oR)
  | .cont q w => some (embed q w oL oR)

theorem step1_embed (p : ProgF) (q : Nat) (w : Win) (oL oR : List Nat) :
    step1 p (embed q w oL oR) = (lstep p q w).cfg oL oR := by
  obtain ⟨l, s, r⟩ := w
  simp only [step1, embed, lstep]
  cases p q s with
  | none => rfl
  | some i =>
    obtain ⟨pr, sh, q'⟩ := i
    cases sh with
    | true => cases r <;> simp [LStep.cfg, Cfg.move, exitCfg, embed]
    | false => cases l <;> simp [LStep.cfg, Cfg.move, exitCfg, embed]

def LStep.All (P : Nat → MTape → Prop) : LStep → Prop
  | .halt => True
  | .exit q _ t => P q t
  | .cont q w => P q w.toTape

/-- `P`, a property of the state and the window's cells, survives every defined step of `p`
    (which writes the cell under the head, whichever way the head then goes) -/
def Inv (p : ProgF) (P : Nat → MTape → Prop) : Prop :=
  ∀ q (w : Win) pr sh q', p q w.scan = some (pr, sh, q') → P q w.toTape →
    P q' (w.left.reverse ++ pr :: w.right)

theorem lstep_all {p : ProgF} {P : Nat → MTape → Prop} (hP : Inv p P) {q : Nat} {w : Win}
    (h0 : P q w.toTape) : (lstep p q w).All P := by
  have h := fun pr sh q' hp => hP q w pr sh q' hp h0
  obtain ⟨l, s, r⟩ := w
  simp only [lstep]
  cases hp : p q s with
  | none => trivial
  | some i =>
    obtain ⟨pr, sh, q'⟩ := i
    have := h pr sh q' hp
    cases sh with
    | true => cases r <;> simpa [LStep.All, Win.toTape] using this
    | false => cases l <;> simpa [LStep.All, Win.toTape] using this

theorem inv_length (p : ProgF) (k : Nat) : Inv p fun _ t => t.length = k := by
  intro q w pr sh q' _ h
  simpa [Win.toTape] using h

def Fits (S C k q : Nat) (t : MTape) : Prop := q < S ∧ TapeGood (· < C) k t

theorem inv_fits {p : ProgF} {S C : Nat} (hcl : Closed p S C) (k : Nat) : Inv p (Fits S C k) := by
  intro q w pr sh q' hp ⟨hq, ht⟩
  obtain ⟨hpr, hq'⟩ := hcl q w.scan pr sh q' hq (ht.2 _ w.scan_mem) hp
  exact ⟨hq', ht.set hpr⟩

def lrun (p : ProgF) : Nat → Nat → Win → Option (Nat × Win)
  | 0, q, w => some (q, w)
  | n + 1, q, w =>
    match lstep p q w with
    | .cont q' w' => lrun p n q' w'
    | _ => none

theorem lrun_add (p : ProgF) (n m q : Nat) (w : Win) :
    lrun p (n + m) q w = (lrun p n q w).bind fun x => lrun p m x.1 x.2 := by
  induction n generalizing q w with
  | zero => simp [lrun]
  | succ n ih =>
    rw [Nat.add_right_comm]
    simp only [lrun]
    cases lstep p q w with
    | cont q1 w1 => exact ih q1 w1
    | _ => rfl

theorem lrun_all {p : ProgF} {P : Nat → MTape → Prop} (hP : Inv p P) {n q : Nat} {w : Win}
    {x : Nat × Win} (h : lrun p n q w = some x) (h0 : P q w.toTape) : P x.1 x.2.toTape := by
  induction n generalizing q w with
  | zero => cases h; exact h0
  | succ n ih =>
    simp only [lrun] at h
    have h1 := lstep_all hP h0
    cases hl : lstep p q w with
    | cont q1 w1 => rw [hl] at h h1; exact ih h h1
    | halt => rw [hl] at h; cases h
    | exit _ _ _ => rw [hl] at h; cases h

theorem lrun_runsIn {p : ProgF} {k : Nat} (oL oR : List Nat) {n q : Nat} {w : Win}
    {x : Nat × Win} (h : lrun p n q w = some x) (hk : w.toTape.length = k) :
    RunsIn p k oL oR n (embed q w oL oR) (embed x.1 x.2 oL oR) := by
  induction n generalizing q w with
  | zero => cases h; exact RunsIn.zero _ _ _ _ _
  | succ n ih =>
    simp only [lrun] at h
    have h1 := lstep_all (inv_length p k) (q := q) hk
    have h2 := step1_embed p q w oL oR
    cases hl : lstep p q w with
    | cont q1 w1 =>
      rw [hl] at h h1 h2
      exact RunsIn.cons ⟨w, hk, rfl⟩ h2 (ih h h1)
    | halt => rw [hl] at h; cases h
    | exit _ _ _ => rw [hl] at h; cases h

/-- from `(q, w)` the machine makes `n` steps inside the window and then one with outcome `r` -/
def Ends (p : ProgF) (n q : Nat) (w : Win) (r : LStep) : Prop :=
  ∃ x, lrun p n q w = some x ∧ lstep p x.1 x.2 = r

theorem Ends.one {p : ProgF} {q : Nat} {w : Win} {r : LStep} (h : lstep p q w = r) :
    Ends p 0 q w r :=
  ⟨(q, w), rfl, h⟩

theorem Ends.step {p : ProgF} {n q : Nat} {w : Win} {q' : Nat} {w' : Win} {r : LStep}
    (h1 : lstep p q w = .cont q' w') (h : Ends p n q' w' r) : Ends p (n + 1) q w r := by
  obtain ⟨x, hx, hr⟩ := h
  exact ⟨x, by simp only [lrun, h1]; exact hx, hr⟩

theorem Ends.after {p : ProgF} {n m q : Nat} {w : Win} {q' : Nat} {w' : Win} {r : LStep}
    (h1 : Ends p n q w (.cont q' w')) (h2 : Ends p m q' w' r) : Ends p (n + (m + 1)) q w r := by
  obtain ⟨x, hx, hl⟩ := h1
  obtain ⟨y, hy, hr⟩ := (Ends.step hl h2 :)
  exact ⟨y, by rw [lrun_add, hx]; exact hy, hr⟩

theorem Ends.all {p : ProgF} {P : Nat → MTape → Prop} (hP : Inv p P) {n q : Nat} {w : Win}
    {r : LStep} (h : Ends p n q w r) (h0 : P q w.toTape) : r.All P := by
  obtain ⟨x, hx, rfl⟩ := h
  exact lstep_all hP (lrun_all hP hx h0)

theorem Ends.post {p : ProgF} {k : Nat} (oL oR : List Nat) {n q : Nat} {w : Win} {r : LStep}
    (h : Ends p n q w r) (hk : w.toTape.length = k) :
    ∃ c', RunsIn p k oL oR n (embed q w oL oR) c' ∧ InWindow k oL oR c' ∧
      step1 p c' = r.cfg oL oR := by
  obtain ⟨x, hx, rfl⟩ := h
  exact ⟨_, lrun_runsIn oL oR hx hk, ⟨x.2, lrun_all (inv_length p k) hx hk, rfl⟩,
    step1_embed p x.1 x.2 oL oR⟩

theorem lrun_le {p : ProgF} {n q : Nat} {w : Win} {x : Nat × Win} (h : lrun p n q w = some x)
    {m : Nat} (hm : m ≤ n) : ∃ z, lrun p m q w = some z := by
  rw [← Nat.add_sub_cancel' hm, lrun_add] at h
  cases hz : lrun p m q w with
  | none => rw [hz] at h; cases h
  | some z => exact ⟨z, rfl⟩

theorem lrun_forever {p : ProgF} {i d q : Nat} {w : Win} {y : Nat × Win}
    (h1 : lrun p i q w = some y) (h2 : lrun p (i + (d + 1)) q w = some y) :
    ∀ m, ∃ z, lrun p m q w = some z := by
  rw [lrun_add, h1] at h2
  have hper : ∀ t, lrun p (i + t * (d + 1)) q w = some y := by
    intro t
    induction t with
    | zero => rw [Nat.zero_mul]; exact h1
    | succ t ih => rw [Nat.succ_mul, ← Nat.add_assoc, lrun_add, ih]; exact h2
  exact fun m => lrun_le (hper m)
    (Nat.le_trans (Nat.le_mul_of_pos_right m (Nat.succ_pos d)) (Nat.le_add_left _ _))

theorem neverLeaves_of_forever {p : ProgF} {k : Nat} (oL oR : List Nat) {q : Nat} {w : Win}
    (hk : w.toTape.length = k) (h : ∀ m, ∃ z, lrun p m q w = some z) :
    NeverLeaves p k oL oR (embed q w oL oR) := by
  intro m
  obtain ⟨z, hz⟩ := h m
  exact ⟨_, (lrun_runsIn oL oR hz hk).1, z.2, lrun_all (inv_length p k) hz hk, rfl⟩

theorem php (N : Nat) (f : Nat → Nat) (h : ∀ i, i ≤ N → f i < N) :
    ∃ i j, i < j ∧ j ≤ N ∧ f i = f j := by
  apply Classical.byContradiction
  intro hno
  -- otherwise `f 0, …, f N` are `N + 1` different numbers below `N`
  have hnd : ((List.range (N + 1)).map f).Nodup := by
    rw [List.nodup_iff_pairwise_ne, List.pairwise_map, List.pairwise_iff_getElem]
    intro i j hi hj hij he
    rw [List.length_range] at hj
    rw [List.getElem_range, List.getElem_range] at he
    exact hno ⟨i, j, hij, Nat.le_of_lt_succ hj, he⟩
  have hsub : (List.range (N + 1)).map f ⊆ List.range N := by
    intro x hx
    obtain ⟨i, hi, rfl⟩ := List.mem_map.1 hx
    exact List.mem_range.2 (h i (Nat.le_of_lt_succ (List.mem_range.1 hi)))
  have := hnd.length_le_of_subset hsub
  rw [List.length_map, List.length_range, List.length_range] at this
  exact Nat.not_succ_le_self N this

/-- injective numbering of the window configurations `(q, w)` with `q < S`, `k` cells `< C` -/
def code (C k : Nat) (x : Nat × Win) : Nat :=
  (x.1 * k + x.2.left.length) * C ^ k + encode C x.2.toTape

theorem fits_code {S C k q : Nat} {w : Win} (h : Fits S C k q w.toTape) :
    w.left.length < k ∧ encode C w.toTape < C ^ k := by
  obtain ⟨_, hl, hc⟩ := h
  refine ⟨?_, hl ▸ (encode_lt_and_decode _ _ hc).1⟩
  simp only [Win.toTape, List.length_append, List.length_reverse, List.length_cons] at hl
  omega

theorem code_lt {S C k q : Nat} {w : Win} (h : Fits S C k q w.toTape) :
    code C k (q, w) < S * k * C ^ k :=
  mul_add_lt (mul_add_lt h.1 (fits_code h).1) (fits_code h).2

theorem code_inj {S C k : Nat} {x y : Nat × Win} (hx : Fits S C k x.1 x.2.toTape)
    (hy : Fits S C k y.1 y.2.toTape) (h : code C k x = code C k y) : x = y := by
  obtain ⟨hxl, hxe⟩ := fits_code hx
  obtain ⟨hyl, hye⟩ := fits_code hy
  obtain ⟨h1, h2⟩ := mul_add_inj hxe hye h
  obtain ⟨h3, h4⟩ := mul_add_inj hxl hyl h1
  have h5 : x.2.toTape = y.2.toTape := by
    rw [← decode_encode hx.2.1 hx.2.2, ← decode_encode hy.2.1 hy.2.2, h2]
  obtain ⟨q, l, s, r⟩ := x
  obtain ⟨q', l', s', r'⟩ := y
  obtain ⟨h6, h7⟩ := List.append_inj h5 (by simpa using h4)
  cases List.reverse_inj.1 h6
  cases h7
  cases h3
  rfl

/-- `S * k * C ^ k` bounds the number of window configurations (`code_lt`), so some
    configuration comes back (`php`). -/
theorem neverLeaves_of_lrun {p : ProgF} {S C k : Nat} (hcl : Closed p S C) (oL oR : List Nat)
    {q : Nat} {w : Win} (h0 : Fits S C k q w.toTape) {n : Nat} (hn : S * k * C ^ k ≤ n)
    {x : Nat × Win} (h : lrun p n q w = some x) : NeverLeaves p k oL oR (embed q w oL oR) := by
  have hN : ∀ {i}, i ≤ S * k * C ^ k → i ≤ n := fun hi => Nat.le_trans hi hn
  let f : Nat → Nat × Win := fun i => (lrun p i q w).getD (q, w)
  have hf : ∀ i, i ≤ n → lrun p i q w = some (f i) := by
    intro i hi
    obtain ⟨z, hz⟩ := lrun_le h hi
    simp only [f, hz, Option.getD_some]
  have hfit : ∀ i, i ≤ n → Fits S C k (f i).1 (f i).2.toTape := fun i hi =>
    lrun_all (inv_fits hcl k) (hf i hi) h0
  obtain ⟨i, j, hij, hj, he⟩ := php (S * k * C ^ k) (fun i => code C k (f i))
    fun i hi => code_lt (hfit i (hN hi))
  have hi := Nat.le_trans (Nat.le_of_lt hij) (hN hj)
  obtain ⟨d, rfl⟩ : ∃ d, j = i + (d + 1) := ⟨j - i - 1, by omega⟩
  have hfe := code_inj (hfit i hi) (hfit _ (hN hj)) he
  exact neverLeaves_of_forever oL oR h0.2.1
    (lrun_forever (hf i hi) (hfe ▸ hf (i + (d + 1)) (hN hj)))

end BB.MacroSim
