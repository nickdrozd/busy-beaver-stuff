/-
Symbolic rule validation (BB/Model/SymRule.lean): linear forms, instantiation of symbolic
spans/tapes, soundness of one symbolic cycle (`symStep_sound`: a determined symbolic cycle is,
under EVERY valuation, the cycle the plain simulator takes on the instantiated tape) and of one
validated period (`symPeriod_sound`: under every valuation, a run of real machine steps).
-/
import BB.Model.SymRule
import BB.Lemmas.Validate

namespace BB.Sym

theorem dot_nil_left (v : Val) : dot [] v = 0 := by cases v <;> rfl

theorem dot_nil_right (ks : List Nat) : dot ks [] = 0 := by cases ks <;> rfl

theorem dot_cons (k : Nat) (ks : List Nat) (x : Nat) (xs : Val) :
    dot (k :: ks) (x :: xs) = k * x + dot ks xs := rfl

theorem dot_addKs (a b : List Nat) (v : Val) : dot (addKs a b) v = dot a v + dot b v := by
  fun_induction addKs a b generalizing v with
  | case1 b => rw [dot_nil_left, Nat.zero_add]
  | case2 a => rw [dot_nil_left, Nat.add_zero]
  | case3 x xs y ys ih =>
    cases v with
    | nil => simp only [dot_nil_right]
    | cons w ws => rw [dot_cons, dot_cons, dot_cons, ih, Nat.add_mul]; omega

theorem eval_add (f g : Form) (v : Val) : (f.add g).eval v = f.eval v + g.eval v := by
  simp only [Form.add, Form.eval, dot_addKs]; omega

theorem eval_succ (f : Form) (v : Val) : f.succ.eval v = f.eval v + 1 := by
  simp only [Form.succ, Form.eval]; omega

theorem eval_const (n : Nat) (v : Val) : (Form.const n).eval v = n := by
  simp only [Form.const, Form.eval, dot_nil_left, Nat.add_zero]

theorem dot_var (i : Nat) (v : Val) : dot (List.replicate i 0 ++ [1]) v = v.getD i 0 := by
  induction i generalizing v with
  | zero =>
    cases v with
    | nil => rfl
    | cons x xs => simp only [List.replicate_zero, List.nil_append, dot_cons, dot_nil_left,
        List.getD_cons_zero]; omega
  | succ i ih =>
    cases v with
    | nil => simp only [dot_nil_right, List.getD_nil]
    | cons x xs =>
      simp only [List.replicate_succ, List.cons_append, dot_cons, ih, List.getD_cons_succ]
      omega

theorem eval_var (c i : Nat) (v : Val) : (Form.var c i).eval v = c + v.getD i 0 := by
  simp only [Form.var, Form.eval, dot_var]

theorem dot_zeros (zs : List Nat) (h : zs.all (· == 0) = true) (v : Val) : dot zs v = 0 := by
  induction zs generalizing v with
  | nil => exact dot_nil_left v
  | cons z zs ih =>
    cases v with
    | nil => rfl
    | cons x xs =>
      rw [List.all_cons, Bool.and_eq_true, beq_iff_eq] at h
      rw [dot_cons, ih h.2, h.1, Nat.zero_mul]

theorem dot_append (a b : List Nat) (v : Val) :
    dot (a ++ b) v = dot a v + dot b (v.drop a.length) := by
  induction a generalizing v with
  | nil => simp only [List.nil_append, dot_nil_left, List.length_nil, List.drop_zero, Nat.zero_add]
  | cons x xs ih =>
    cases v with
    | nil => simp only [dot_nil_right, List.drop_nil]
    | cons w ws =>
      simp only [List.cons_append, dot_cons, ih, List.length_cons, List.drop_succ_cons]
      omega

theorem eval_isConst (f : Form) (h : f.isConst = true) (v : Val) : f.eval v = f.c := by
  rw [Form.eval, dot_zeros f.ks h v, Nat.add_zero]

theorem dot_trimKs (ks : List Nat) (v : Val) : dot (trimKs ks) v = dot ks v := by
  -- `ks` is its trimmed form followed by zeros
  have h := congrArg List.reverse (List.takeWhile_append_dropWhile (p := (· == 0)) (l := ks.reverse))
  rw [List.reverse_append, List.reverse_reverse] at h
  have hz : (ks.reverse.takeWhile (· == 0)).reverse.all (· == 0) = true := by
    rw [List.all_reverse]; exact List.all_takeWhile
  rw [← congrArg (dot · v) h, dot_append, dot_zeros _ hz, Nat.add_zero, trimKs]

theorem Form.eqv_eval {f g : Form} (h : f.eqv g = true) (v : Val) : f.eval v = g.eval v := by
  simp only [Form.eqv, Bool.and_eq_true, beq_iff_eq] at h
  simp only [Form.eval, h.1]
  rw [← dot_trimKs f.ks, ← dot_trimKs g.ks, h.2]

theorem SSpan.inst_nil (v : Val) : SSpan.inst [] v = [] := rfl

theorem SSpan.inst_cons (b : SBlock) (s : SSpan) (v : Val) :
    SSpan.inst (b :: s) v = ⟨b.color, b.count.eval v⟩ :: SSpan.inst s v := rfl

theorem SSpan.eqv_inst {a b : SSpan} (h : SSpan.eqv a b = true) (v : Val) :
    SSpan.inst a v = SSpan.inst b v := by
  fun_induction SSpan.eqv a b with
  | case1 => rfl
  | case2 x xs y ys ih =>
    simp only [Bool.and_eq_true, beq_iff_eq] at h
    rw [SSpan.inst_cons, SSpan.inst_cons, ih h.2, h.1.1, Form.eqv_eval h.1.2]
  | case3 => cases h

theorem STape.eqv_inst {a b : STape} (h : a.eqv b = true) (v : Val) : a.inst v = b.inst v := by
  simp only [STape.eqv, Bool.and_eq_true, beq_iff_eq] at h
  simp only [STape.inst, h.1.1, SSpan.eqv_inst h.1.2, SSpan.eqv_inst h.2]

theorem SSpan.posB_cons (b : SBlock) (s : SSpan) :
    SSpan.posB (b :: s) = true ↔ 1 ≤ b.count.c ∧ SSpan.posB s = true := by
  simp only [SSpan.posB, List.all_cons, Bool.and_eq_true, decide_eq_true_eq, ge_iff_le]

theorem SSpan.posB_inst {s : SSpan} (h : SSpan.posB s = true) (v : Val) : Span.Pos (s.inst v) := by
  induction s with
  | nil => exact Span.pos_nil
  | cons x xs ih =>
    rw [SSpan.posB_cons] at h
    exact .cons (Nat.lt_of_lt_of_le h.1 (Nat.le_add_right _ _)) (ih h.2)

theorem STape.posB_inst {t : STape} (h : t.posB = true) (v : Val) : (t.inst v).Pos := by
  simp only [STape.posB, Bool.and_eq_true] at h
  exact ⟨SSpan.posB_inst h.1 v, SSpan.posB_inst h.2 v⟩

/-- the second half of `SSpan.pull`: take one cell off the span (`Span.pullTail` of Canon.lean is
    the plain counterpart) -/
def SSpan.pullTail (s1 : SSpan) (stepped : Form) : Option (Nat × Form × SSpan) :=
  match s1 with
  | [] => some (0, stepped, [])
  | b :: rest =>
    if b.count.c ≥ 2 then some (b.color, stepped, ⟨b.color, ⟨b.count.c - 1, b.count.ks⟩⟩ :: rest)
    else if b.count.c == 1 && b.count.isConst then some (b.color, stepped, rest)
    else none

theorem SSpan.pull_eq (s : SSpan) (scan : Nat) (skip : Bool) :
    SSpan.pull s scan skip =
      match s with
      | b :: rest =>
        if (skip && b.color == scan) = true then SSpan.pullTail rest b.count.succ
        else SSpan.pullTail s (Form.const 1)
      | [] => SSpan.pullTail [] (Form.const 1) := by
  cases s with
  | nil => rfl
  | cons b rest =>
    by_cases hs : (skip && b.color == scan) = true
    · simp only [SSpan.pull, hs, if_true]
      cases rest <;> rfl
    · simp only [SSpan.pull, hs]
      rfl

theorem SSpan.pullTail_inst {s1 : SSpan} {stepped : Form} {ns : Nat} {k : Form} {s' : SSpan}
    (hpos : SSpan.posB s1 = true) (h : SSpan.pullTail s1 stepped = some (ns, k, s')) (v : Val) :
    Span.pullTail (s1.inst v) = (ns, s'.inst v) ∧ k = stepped ∧ SSpan.posB s' = true := by
  cases s1 with
  | nil =>
    simp only [SSpan.pullTail, Option.some.injEq, Prod.mk.injEq] at h
    obtain ⟨rfl, rfl, rfl⟩ := h
    exact ⟨rfl, rfl, rfl⟩
  | cons b rest =>
    rw [SSpan.posB_cons] at hpos
    simp only [SSpan.pullTail] at h
    simp only [SSpan.inst_cons, Span.pullTail]
    by_cases h2 : b.count.c ≥ 2
    · rw [if_pos h2, Option.some.injEq, Prod.mk.injEq, Prod.mk.injEq] at h
      obtain ⟨rfl, rfl, rfl⟩ := h
      rw [if_pos (show b.count.eval v > 1 from Nat.lt_of_lt_of_le h2 (Nat.le_add_right _ _)),
        SSpan.inst_cons, SSpan.posB_cons]
      exact ⟨by rw [Form.eval, Form.eval, Nat.sub_add_comm hpos.1], rfl, Nat.le_sub_of_add_le h2,
        hpos.2⟩
    · rw [if_neg h2] at h
      by_cases h1 : (b.count.c == 1 && b.count.isConst) = true
      · rw [if_pos h1, Option.some.injEq, Prod.mk.injEq, Prod.mk.injEq] at h
        obtain ⟨rfl, rfl, rfl⟩ := h
        rw [Bool.and_eq_true, beq_iff_eq] at h1
        rw [if_neg (by rw [eval_isConst _ h1.2, h1.1]; exact Nat.lt_irrefl 1)]
        exact ⟨rfl, rfl, hpos.2⟩
      · rw [if_neg h1] at h; cases h

theorem SSpan.pull_inst {s : SSpan} {scan : Nat} {skip : Bool} {ns : Nat} {k : Form} {s' : SSpan}
    (hpos : SSpan.posB s = true) (h : SSpan.pull s scan skip = some (ns, k, s')) (v : Val) :
    Span.pull (s.inst v) scan skip = (ns, k.eval v, s'.inst v) ∧ 1 ≤ k.c ∧
      SSpan.posB s' = true := by
  rw [SSpan.pull_eq] at h
  rw [Span.pull_eq]
  cases s with
  | nil =>
    obtain ⟨h1, rfl, h3⟩ := SSpan.pullTail_inst hpos h v
    rw [SSpan.inst_nil] at h1 ⊢
    exact ⟨by rw [eval_const]; simp only [Span.pullSkip, h1], Nat.le_refl _, h3⟩
  | cons b rest =>
    simp only [SSpan.inst_cons, Span.pullSkip] at h ⊢
    by_cases hs : (skip && b.color == scan) = true
    · rw [if_pos hs] at h ⊢
      obtain ⟨h1, rfl, h3⟩ := SSpan.pullTail_inst ((SSpan.posB_cons b rest).1 hpos).2 h v
      exact ⟨by rw [h1, eval_succ, Nat.add_comm], by simp only [Form.succ]; omega, h3⟩
    · rw [if_neg hs] at h ⊢
      obtain ⟨h1, rfl, h3⟩ := SSpan.pullTail_inst hpos h v
      rw [SSpan.inst_cons] at h1
      exact ⟨by rw [h1, eval_const], Nat.le_refl _, h3⟩

theorem SSpan.push_inst (s : SSpan) (print : Nat) (stepped : Form) (v : Val) :
    SSpan.inst (SSpan.push s print stepped) v = Span.push (s.inst v) print (stepped.eval v) := by
  cases s with
  | nil =>
    simp only [SSpan.push, Span.push, SSpan.inst_nil]
    split <;> rfl
  | cons b rest =>
    simp only [SSpan.push, Span.push, SSpan.inst_cons]
    split
    · simp only [SSpan.inst_cons, eval_add]
    · simp only [SSpan.inst_cons]

theorem SSpan.push_posB {s : SSpan} (hpos : SSpan.posB s = true) (print : Nat) {stepped : Form}
    (hk : 1 ≤ stepped.c) : SSpan.posB (SSpan.push s print stepped) = true := by
  cases s with
  | nil =>
    simp only [SSpan.push]
    split
    · rfl
    · rw [SSpan.posB_cons]; exact ⟨hk, rfl⟩
  | cons b rest =>
    simp only [SSpan.push]
    split
    · rw [SSpan.posB_cons] at hpos ⊢
      exact ⟨by simp only [Form.add]; omega, hpos.2⟩
    · rw [SSpan.posB_cons]; exact ⟨hk, hpos⟩

theorem STape.step_inst {t : STape} {shift : Bool} {color : Nat} {skip : Bool} {t' : STape}
    {k : Form} (hpos : t.posB = true) (h : t.step shift color skip = some (t', k)) (v : Val) :
    (t.inst v).step shift color skip = (t'.inst v, k.eval v) ∧ t'.posB = true := by
  simp only [STape.posB, Bool.and_eq_true] at hpos ⊢
  unfold STape.step at h
  split at h
  next hs =>
    split at h
    next ns st pl hp =>
      cases h
      obtain ⟨h1, h2, h3⟩ := SSpan.pull_inst hpos.2 hp v
      exact ⟨by simp only [Tape.step, hs, if_true, STape.inst, h1, SSpan.push_inst],
        SSpan.push_posB hpos.1 color h2, h3⟩
    next => cases h
  next hs =>
    split at h
    next ns st pl hp =>
      cases h
      obtain ⟨h1, h2, h3⟩ := SSpan.pull_inst hpos.1 hp v
      exact ⟨by simp only [Tape.step, hs, Bool.false_eq_true, if_false, STape.inst, h1, SSpan.push_inst],
        h3, SSpan.push_posB hpos.2 color h2⟩
    next => cases h

theorem SSpan.inst_isEmpty (s : SSpan) (v : Val) : (s.inst v).isEmpty = s.isEmpty := by
  cases s <;> rfl

theorem STape.atEdge_inst (t : STape) (shift : Bool) (v : Val) :
    (t.inst v).atEdge shift = t.atEdge shift := by
  cases shift <;> simp only [Tape.atEdge, STape.atEdge, STape.inst, SSpan.inst_isEmpty,
    if_true, Bool.false_eq_true, if_false]

/-- **sym_step_sound** (BB/Props/C03.lean) -/
theorem symStep_sound (p : Prog) (q : Nat) (s : STape) (q' : Nat) (s' : STape) (k : Form)
    (hpos : s.posB = true) (h : symStep p q s = .next q' s' k) (v : Val) :
    plainStep p q (s.inst v) = .next q' (s'.inst v) (k.eval v) ∧ s'.posB = true := by
  unfold symStep at h
  unfold plainStep
  rw [show (s.inst v).scan = s.scan from rfl]
  split at h
  · cases h
  next color shift next hg =>
    rw [hg]
    simp only at h ⊢
    rw [STape.atEdge_inst]
    split at h
    · cases h
    next he =>
      rw [if_neg he]
      split at h
      next t1 k1 hs =>
        cases h
        obtain ⟨h1, h2⟩ := STape.step_inst hpos hs v
        rw [h1]
        exact ⟨rfl, h2⟩
      next => cases h

theorem symPeriodLoop_sound (p : Prog) (q : Nat) (target : STape) (v : Val) (K : Prop) :
    ∀ (fuel cycles : Nat) (steps : Form) (cur : Nat) (t : STape) (C : Nat) (f : Form),
      t.posB = true → (K → (t.inst v).Canon) →
      symPeriodLoop p q target fuel cycles steps cur t = some (C, f) →
      ∃ d, f.eval v = steps.eval v + d ∧ 1 ≤ d ∧
        RunVia p.toF (OnWay p.toF K) ((t.inst v).toCfg cur) d ((target.inst v).toCfg q) ∧
        (K → (target.inst v).Canon) := by
  intro fuel
  induction fuel with
  | zero => intro cycles steps cur t C f _ _ h; cases h
  | succ fuel ih =>
    intro cycles steps cur t C f hpos hK h
    rw [symPeriodLoop] at h
    split at h
    next cur' t' k hss =>
      obtain ⟨hps, hpos'⟩ := symStep_sound p cur t cur' t' k hpos hss v
      obtain ⟨hk, _, hK', hrunK⟩ := plainStep_sound (STape.posB_inst hpos v) hK hps
      split at h
      next hhit =>
        cases h
        simp only [Bool.and_eq_true, beq_iff_eq] at hhit
        obtain ⟨rfl, heqv⟩ := hhit
        rw [← STape.eqv_inst heqv v]
        exact ⟨k.eval v, eval_add _ _ _, hk, hrunK, hK'⟩
      next =>
        obtain ⟨d, hS, hd, hrun', hcanA⟩ :=
          ih (cycles + 1) (steps.add k) cur' t' C f hpos' hK' h
        rw [eval_add, Nat.add_assoc] at hS
        exact ⟨k.eval v + d, hS, Nat.le_trans hk (Nat.le_add_right _ _),
          hrunK.append id hrun', hcanA⟩
    next => cases h

theorem shiftSpan_cons {b : SBlock} {bs : SSpan} {d : Int} {ds : List Int} {tgt : SSpan}
    (h : shiftSpan (b :: bs) (d :: ds) = some tgt) :
    1 ≤ (b.count.c : Int) + d ∧ ∃ r, shiftSpan bs ds = some r ∧
      tgt = ⟨b.color, ⟨((b.count.c : Int) + d).toNat, b.count.ks⟩⟩ :: r := by
  rw [shiftSpan] at h
  split at h
  · cases h
  next hc =>
    obtain ⟨r, hr, h⟩ := Option.map_eq_some_iff.1 h
    exact ⟨Int.not_lt.1 hc, r, hr, h.symm⟩

theorem shiftSpan_posB {s : SSpan} {ds : List Int} {r : SSpan} (h : shiftSpan s ds = some r) :
    SSpan.posB r = true := by
  induction s generalizing ds r with
  | nil =>
    cases ds with
    | nil => simp only [shiftSpan, Option.some.injEq] at h; subst h; rfl
    | cons d ds => simp only [shiftSpan] at h; cases h
  | cons b bs ih =>
    cases ds with
    | nil => simp only [shiftSpan] at h; cases h
    | cons d ds =>
      obtain ⟨hc, r', hr, rfl⟩ := shiftSpan_cons h
      rw [SSpan.posB_cons]
      exact ⟨by simp only; omega, ih hr⟩

theorem STape.shift_some {t : STape} {dl dr : List Int} {target : STape}
    (h : t.shift dl dr = some target) :
    ∃ l r, shiftSpan t.lspan dl = some l ∧ shiftSpan t.rspan dr = some r ∧
      target = ⟨t.scan, l, r⟩ := by
  unfold STape.shift at h
  split at h
  next l r hl hr => cases h; exact ⟨l, r, hl, hr, rfl⟩
  next => cases h

theorem STape.shift_posB {t : STape} {dl dr : List Int} {target : STape}
    (h : t.shift dl dr = some target) : target.posB = true := by
  obtain ⟨l, r, hl, hr, rfl⟩ := STape.shift_some h
  simp only [STape.posB, Bool.and_eq_true]
  exact ⟨shiftSpan_posB hl, shiftSpan_posB hr⟩

theorem symPeriod_some {p : Prog} {q : Nat} {s : STape} {dl dr : List Int} {budget cycles : Nat}
    {f : Form} (h : symPeriod p q s dl dr budget = some (cycles, f)) :
    s.posB = true ∧ ∃ target, s.shift dl dr = some target ∧
      symPeriodLoop p q target budget 0 (Form.const 0) q s = some (cycles, f) := by
  unfold symPeriod at h
  split at h
  · cases h
  next hp =>
    split at h
    · cases h
    next target hsh =>
      exact ⟨by simpa only [Bool.not_eq_true', Bool.not_eq_false] using hp, target, hsh, h⟩

/-- **sym_period_sound** (BB/Props/C03.lean) -/
theorem symPeriod_sound (p : Prog) (q : Nat) (s target : STape) (dl dr : List Int)
    (budget cycles : Nat) (f : Form) (h : symPeriod p q s dl dr budget = some (cycles, f))
    (ht : s.shift dl dr = some target) (v : Val) :
    1 ≤ f.eval v ∧ (s.inst v).Pos ∧ (target.inst v).Pos ∧
      RunVia p.toF (OnWay p.toF (s.inst v).Canon) ((s.inst v).toCfg q) (f.eval v)
        ((target.inst v).toCfg q) ∧
      ((s.inst v).Canon → (target.inst v).Canon) := by
  obtain ⟨hpos, target', ht', hloop⟩ := symPeriod_some h
  rw [ht] at ht'
  simp only [Option.some.injEq] at ht'
  subst ht'
  obtain ⟨d, hS, hd, hrun, hcan⟩ :=
    symPeriodLoop_sound p q target v (s.inst v).Canon budget 0 (Form.const 0) q s cycles f hpos id
      hloop
  rw [eval_const, Nat.zero_add] at hS
  rw [hS]
  exact ⟨hd, STape.posB_inst hpos v, STape.posB_inst (STape.shift_posB ht) v, hrun, hcan⟩

end BB.Sym
