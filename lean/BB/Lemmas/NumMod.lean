/-
C18: `BB.NumMod.expModInt` (the model of `Exp.__mod__` / `find_period` of tm/num.py for an integer
exponent) returns the true residue.  Each stage keeps `base ^ exp % mod`: the early returns, the
literal special cases, the `case 3:` reduction, the reduction by the period found, the
square-and-multiply loop.  The model is first cut into these stages (`guarded`, `literalCases`,
`expModMain`; each cut holds by `rfl`), because the early returns and the literal cases come back
with a symbolic exponent in BB/Lemmas/NumModTree.lean.  Core Lean only; periodicity comes from
BB/Lemmas/PowMod.lean.
-/
import BB.Model.NumMod
import BB.Lemmas.PowMod

namespace BB.NumMod

open BB.PowMod

/-
The model functions are chains `if g₁ then r₁ else if g₂ then r₂ else ... rest` with `none` for a
raise.  A hypothesis "the chain returned `x`" or a goal "the chain returns something" is taken
apart one guard at a time with the next three lemmas. -/

theorem ite_beq_eq_some {α β : Type} [BEq β] [LawfulBEq β] {a b : β} {t e : Option α} {x : α}
    (h : (if a == b then t else e) = some x) : a = b ∧ t = some x ∨ a ≠ b ∧ e = some x := by
  by_cases hab : a = b
  · exact .inl ⟨hab, by rwa [if_pos (beq_iff_eq.mpr hab)] at h⟩
  · exact .inr ⟨hab, by rwa [if_neg (mt beq_iff_eq.mp hab)] at h⟩

theorem ite_none_eq_some {α : Type} {c : Prop} [Decidable c] {e : Option α} {x : α}
    (h : (if c then none else e) = some x) : ¬c ∧ e = some x := by
  by_cases hc : c
  · rw [if_pos hc] at h
    exact absurd h nofun
  · rw [if_neg hc] at h
    exact ⟨hc, h⟩

theorem isSome_ite_some {α : Type} {c : Prop} [Decidable c] {x : α} {o : Option α}
    (h : ¬c → o.isSome = true) : (if c then some x else o).isSome = true := by
  by_cases hc : c
  · rw [if_pos hc]
    rfl
  · rw [if_neg hc]
    exact h hc

/-- `res < mod` because the loop returns `res` itself, not `res % mod`, once `exp` is 0; the other
    exit, `res == 0`, is harmless because 0 stays 0. -/
theorem sqMul_spec (mod : Nat) (hmod : 0 < mod) : ∀ (fuel base exp res : Nat),
    exp < 2 ^ fuel → res < mod → sqMul mod fuel base exp res = res * base ^ exp % mod := by
  intro fuel
  induction fuel with
  | zero =>
    intro base exp res he hr
    rw [Nat.lt_one_iff.mp he, Nat.pow_zero, Nat.mul_one, Nat.mod_eq_of_lt hr]
    rfl
  | succ fuel ih =>
    intro base exp res he hr
    unfold sqMul
    by_cases h : (exp == 0 || res == 0) = true
    · rw [if_pos h]
      simp only [Bool.or_eq_true, beq_iff_eq] at h
      rcases h with rfl | rfl
      · rw [Nat.pow_zero, Nat.mul_one, Nat.mod_eq_of_lt hr]
      · rw [Nat.zero_mul, Nat.zero_mod]
    · rw [if_neg h]
      have hres : (if exp % 2 == 1 then res * base % mod else res) < mod := by
        split
        · exact Nat.mod_lt _ hmod
        · exact hr
      rw [ih _ _ _ (by rw [Nat.pow_succ] at he; omega) hres]
      simp only [beq_iff_eq]
      exact sq_step base exp mod res

/-- `if exp == 0: return 1`, then the loop with the fuel the model gives it -/
theorem sqMul_pow (base mod e : Nat) (hm : 2 ≤ mod) :
    (if e == 0 then 1 else sqMul mod (e + 1) base e 1) = base ^ e % mod := by
  by_cases h0 : e = 0
  · subst h0
    rw [Nat.pow_zero, Nat.mod_eq_of_lt (by omega)]
    rfl
  · have hlt : e < 2 ^ (e + 1) := Nat.lt_trans (Nat.lt_succ_self _) Nat.lt_two_pow_self
    rw [if_neg (by simpa using h0), sqMul_spec mod (by omega) (e + 1) base e 1 hlt (by omega),
      Nat.one_mul]

theorem findPeriodGo_spec (base mod : Nat) : ∀ (left period val k : Nat),
    val * base % mod = base ^ period % mod → findPeriodGo base mod left period val = k →
    (k = 0 ∧ ∀ j, period ≤ j → j < period + left → base ^ j % mod ≠ 1) ∨
    (period ≤ k ∧ k < period + left ∧ base ^ k % mod = 1 ∧
      ∀ j, period ≤ j → j < k → base ^ j % mod ≠ 1) := by
  intro left
  induction left with
  | zero =>
    intro period val k _ hk
    left
    refine ⟨by simpa [findPeriodGo] using hk.symm, ?_⟩
    intro j h1 h2
    omega
  | succ left ih =>
    intro period val k hval hk
    unfold findPeriodGo at hk
    simp only [beq_iff_eq] at hk
    by_cases h1 : val * base % mod = 1
    · rw [if_pos h1] at hk
      subst hk
      exact .inr ⟨Nat.le_refl _, by omega, hval ▸ h1, fun j h2 h3 => by omega⟩
    · rw [if_neg h1] at hk
      have hstep : ∀ j, period ≤ j → (period + 1 ≤ j → base ^ j % mod ≠ 1) →
          base ^ j % mod ≠ 1 := by
        intro j h2 h
        by_cases hj : j = period
        · rw [hj, ← hval]
          exact h1
        · exact h (by omega)
      rcases ih (period + 1) _ k (by rw [hval, Nat.mod_mul_mod, ← Nat.pow_succ]) hk with
        ⟨hk0, hall⟩ | ⟨hle, hlt, hone, hall⟩
      · exact .inl ⟨hk0, fun j h2 h3 => hstep j h2 fun h => hall j h (by omega)⟩
      · exact .inr ⟨by omega, by omega, hone, fun j h2 h3 => hstep j h2 fun h => hall j h h3⟩

theorem findPeriodGo_order (base mod k : Nat) (h : findPeriodGo base mod (mod - 1) 1 1 = k) :
    (0 < k → base ^ k % mod = 1 ∧ ∀ j, 0 < j → j < k → base ^ j % mod ≠ 1) ∧
    (k = 0 → ∀ j, 0 < j → j < mod → base ^ j % mod ≠ 1) := by
  have hval : 1 * base % mod = base ^ 1 % mod := by rw [Nat.one_mul, Nat.pow_one]
  rcases findPeriodGo_spec base mod (mod - 1) 1 1 k hval h with ⟨hk0, hall⟩ | ⟨hle, _, hone, hall⟩
  · exact ⟨fun hk => by omega, fun _ j h1 h2 => hall j h1 (by omega)⟩
  · exact ⟨fun _ => ⟨hone, hall⟩, fun hk => by omega⟩

theorem findPeriod_eq_some {base mod k : Nat} (h : findPeriod base mod = some k) :
    (base == 2 && isTwoPow3 mod) = true ∧ k = 0 ∨ findPeriodGo base mod (mod - 1) 1 1 = k := by
  unfold findPeriod at h
  split at h
  · rename_i hs
    exact .inl ⟨hs, (Option.some.inj h).symm⟩
  · split at h
    · exact absurd h (by simp)
    · exact .inr (Option.some.inj h)

theorem findPeriod_one (base mod p : Nat) (h : findPeriod base mod = some p) (hp : 0 < p) :
    base ^ p % mod = 1 := by
  rcases findPeriod_eq_some h with ⟨_, h0⟩ | hgo
  · omega
  · exact ((findPeriodGo_order base mod p hgo).1 hp).1

theorem pow_mod_order (base mod p e : Nat) (hp : 0 < p) (h1 : base ^ p % mod = 1) :
    base ^ (e % p) % mod = base ^ e % mod :=
  (period_sound base mod p hp ((Nat.mod_mod _ _).symm.trans (congrArg (· % mod) h1)) e).symm

/-- `if period > 0: exp %= period` -/
theorem reduce_by_period (base mod p e : Nat) (hp : 0 < p → base ^ p % mod = 1) :
    base ^ (if p > 0 then e % p else e) % mod = base ^ e % mod := by
  by_cases h : p > 0
  · rw [if_pos h]
    exact pow_mod_order base mod p e h (hp h)
  · rw [if_neg h]

theorem log2Exact_sound : ∀ (fuel m n : Nat), log2Exact fuel m = some n → m = 2 ^ n := by
  intro fuel
  induction fuel with
  | zero => exact fun m n h => absurd h nofun
  | succ fuel ih =>
    intro m n h
    unfold log2Exact at h
    rcases ite_beq_eq_some h with ⟨hm, h⟩ | ⟨_, h⟩
    · rw [hm, ← Option.some.inj h]
    · obtain ⟨hc, h⟩ := ite_none_eq_some h
      obtain ⟨n', hn', rfl⟩ := Option.map_eq_some_iff.mp h
      simp only [Bool.or_eq_true, beq_iff_eq, not_or] at hc
      rw [Nat.pow_succ, ← ih (m / 2) n' hn']
      omega

theorem three_pow_two_pow : ∀ k, ∃ c, 3 ^ (2 ^ (k + 1)) = 1 + c * 2 ^ (k + 3) := by
  intro k
  induction k with
  | zero => exact ⟨1, by decide⟩
  | succ k ih =>
    obtain ⟨c, hc⟩ := ih
    refine ⟨c + c * c * 2 ^ (k + 2), ?_⟩
    have h1 : (3 : Nat) ^ (2 ^ (k + 1 + 1)) = 3 ^ (2 ^ (k + 1)) * 3 ^ (2 ^ (k + 1)) := by
      rw [← Nat.pow_add, Nat.pow_succ 2 (k + 1)]
      congr 1
      omega
    have h2 : (2 : Nat) ^ (k + 3) = 2 * 2 ^ (k + 2) := by
      rw [Nat.pow_succ, Nat.mul_comm]
    have h3 : (2 : Nat) ^ (k + 1 + 3) = 2 * 2 ^ (k + 2) * 2 := by
      rw [Nat.pow_succ, Nat.pow_succ, Nat.mul_comm (2 ^ (k + 2)) 2]
    rw [h1, hc, h3, h2]
    generalize (2 : Nat) ^ (k + 2) = N
    grind

theorem three_order (k : Nat) : 3 ^ (2 ^ (k + 1)) % 2 ^ (k + 3) = 1 := by
  obtain ⟨c, hc⟩ := three_pow_two_pow k
  have h1 : 1 < 2 ^ (k + 3) := Nat.one_lt_two_pow (by omega)
  rw [hc, Nat.add_mul_mod_self_right, Nat.mod_eq_of_lt h1]

theorem reduce3_two_pow (exp n : Nat) (hn : 2 ≤ n) :
    3 ^ (exp % 2 ^ (max (n - 2) 1)) % 2 ^ n = 3 ^ exp % 2 ^ n := by
  by_cases h2 : n = 2
  · subst h2
    exact pow_mod_order 3 (2 ^ 2) (2 ^ (max (2 - 2) 1)) exp (by decide) (by decide)
  · obtain ⟨k, rfl⟩ : ∃ k, n = k + 3 := ⟨n - 3, by omega⟩
    rw [show max (k + 3 - 2) 1 = k + 1 by omega]
    exact pow_mod_order 3 _ _ exp (Nat.two_pow_pos _) (three_order k)

/-- the reduction of `case 3:` at a modulus that `log2Exact` has recognised as `2 ^ n` -/
theorem reduce3_of_log2 (mod n exp : Nat) (hm : 3 ≤ mod) (hn : log2Exact (mod + 1) mod = some n) :
    3 ^ (exp % 2 ^ (max (n - 2) 1)) % mod = 3 ^ exp % mod := by
  have hmod := log2Exact_sound _ _ _ hn
  have hn2 : 2 ≤ n := by
    rcases n with _ | _ | n
    · simp at hmod; omega
    · simp at hmod; omega
    · omega
  rw [hmod]
  exact reduce3_two_pow exp n hn2

theorem reduce3_pow (base mod exp : Nat) (hm : 3 ≤ mod) :
    base ^ (reduce3 base mod exp) % mod = base ^ exp % mod := by
  unfold reduce3
  split
  · rename_i hb
    have hb3 : base = 3 := by simpa using hb
    subst hb3
    split
    · rename_i n hn
      exact reduce3_of_log2 mod n exp hm hn
    · rfl
  · rfl

/-- the `match base:` block of `Exp.__mod__` with its seven returned values left open: `special`
    puts in the values for an integer exponent, `BB.NumModTree.specialSym` those for a symbolic one -/
def literalCases {α : Type} (base mod : Nat) (b2m4 b2m6 b2m12 b2m30 b3m6 b6m10 b7m12 : α) :
    Option α :=
  if base == 2 then
    if mod == 4 then some b2m4
    else if mod == 6 then some b2m6
    else if mod == 12 then some b2m12
    else if mod == 30 then some b2m30
    else none
  else if base == 3 then (if mod == 6 then some b3m6 else none)
  else if base == 6 then (if mod == 10 then some b6m10 else none)
  else if base == 7 then (if mod == 12 then some b7m12 else none)
  else none

theorem literalCases_elim {α : Type} {P : Nat → Nat → α → Prop} {base mod : Nat}
    {a4 a6 a12 a30 b6 c10 d12 x : α} (h : literalCases base mod a4 a6 a12 a30 b6 c10 d12 = some x)
    (h4 : P 2 4 a4) (h6 : P 2 6 a6) (h12 : P 2 12 a12) (h30 : P 2 30 a30) (g6 : P 3 6 b6)
    (g10 : P 6 10 c10) (g12 : P 7 12 d12) : P base mod x := by
  have leaf {b k : Nat} {v : α} {rest : Option α} (hb : base = b) (hv : P b k v)
      (h : (if mod == k then some v else rest) = some x) (hrest : rest = some x → P base mod x) :
      P base mod x := by
    rcases ite_beq_eq_some h with ⟨hm, h⟩ | ⟨_, h⟩
    · rw [hb, hm, ← Option.some.inj h]
      exact hv
    · exact hrest h
  unfold literalCases at h
  rcases ite_beq_eq_some h with ⟨hb, h⟩ | ⟨_, h⟩
  · exact leaf hb h4 h fun h => leaf hb h6 h fun h => leaf hb h12 h fun h => leaf hb h30 h nofun
  rcases ite_beq_eq_some h with ⟨hb, h⟩ | ⟨_, h⟩
  · exact leaf hb g6 h nofun
  rcases ite_beq_eq_some h with ⟨hb, h⟩ | ⟨_, h⟩
  · exact leaf hb g10 h nofun
  rcases ite_beq_eq_some h with ⟨hb, h⟩ | ⟨_, h⟩
  · exact leaf hb g12 h nofun
  · exact absurd h nofun

theorem special_eq (base mod exp : Nat) :
    special base mod exp = literalCases base mod 0 (if exp % 2 == 0 then 4 else 2)
      (if exp % 2 == 0 then 4 else 8) (match exp % 4 with | 3 => 8 | 0 => 16 | 1 => 2 | _ => 4)
      3 6 (if exp % 2 == 0 then 1 else 7) := rfl

theorem entry_from_two {b m p r v e : Nat} (ok : rowOk b m p r v = true)
    (he : 2 ≤ e) (hr : e % p = r) : v = b ^ e % m :=
  (row_of_ok ok e he hr).symm

/-- `return x if exp % 2 == 0 else y` -/
theorem ite_mod_two {b m x y e : Nat} (he : 2 ≤ e) (h0 : rowOk b m 2 0 x = true)
    (h1 : rowOk b m 2 1 y = true) : (if e % 2 == 0 then x else y) = b ^ e % m := by
  rcases Nat.mod_two_eq_zero_or_one e with h | h
  · rw [h]
    exact entry_from_two h0 he h
  · rw [h]
    exact entry_from_two h1 he h

/-- every value in the `match base:` block is the residue it stands for (each `decide` evaluates
    one `rowOk`: three modular powers) -/
theorem special_sound (base mod exp r : Nat) (he : 2 ≤ exp) (h : special base mod exp = some r) :
    r = base ^ exp % mod := by
  rw [special_eq] at h
  refine literalCases_elim (P := fun b m r => r = b ^ exp % m) h
    (entry_from_two (p := 1) (by decide) he (Nat.mod_one _))
    (ite_mod_two he (by decide) (by decide)) (ite_mod_two he (by decide) (by decide)) ?_
    (entry_from_two (p := 1) (by decide) he (Nat.mod_one _))
    (entry_from_two (p := 1) (by decide) he (Nat.mod_one _))
    (ite_mod_two he (by decide) (by decide))
  have h4 : exp % 4 < 4 := Nat.mod_lt _ (by decide)
  generalize hj : exp % 4 = j at h4
  match j, h4 with
  | 0, _ => exact entry_from_two (by decide) he hj
  | 1, _ => exact entry_from_two (by decide) he hj
  | 2, _ => exact entry_from_two (by decide) he hj
  | 3, _ => exact entry_from_two (by decide) he hj

/-- the part of `Exp.__mod__` that does not look at the exponent: three early returns, then
    `base % mod` (ZeroDivisionError) and `assert base % mod != 0`; `rest` is what follows -/
def guarded (base mod : Nat) (rest : Option Nat) : Option Nat :=
  if mod == 1 then some 0
  else if mod == base then some 0
  else if mod == 2 then some (base % 2)
  else if mod == 0 then none
  else if base % mod == 0 then none
  else rest

theorem guarded_correct {base mod r : Nat} {rest : Option Nat} (e : Nat) (he : 1 ≤ e)
    (h : guarded base mod rest = some r) (hrest : 3 ≤ mod → rest = some r → r = base ^ e % mod) :
    r = base ^ e % mod := by
  unfold guarded at h
  rcases ite_beq_eq_some h with ⟨hm, h⟩ | ⟨h1, h⟩
  · rw [← Option.some.inj h, hm, Nat.mod_one]
  rcases ite_beq_eq_some h with ⟨hm, h⟩ | ⟨_, h⟩
  · rw [← Option.some.inj h, hm, pow_mod_self base e he]
  rcases ite_beq_eq_some h with ⟨hm, h⟩ | ⟨h2, h⟩
  · rw [← Option.some.inj h, hm, pow_mod_two base e he]
  rcases ite_beq_eq_some h with ⟨_, h⟩ | ⟨h0, h⟩
  · exact absurd h nofun
  · exact hrest (by omega) (ite_none_eq_some h).2

theorem ite_some_eq (c : Prop) [Decidable c] (a b : Nat) :
    (if c then some a else some b) = some (if c then a else b) := by
  split <;> rfl

/-- `Exp.__mod__` below its three early returns and three assertions -/
def expModMain (base exp mod : Nat) : Option Nat :=
  match special base mod exp with
  | some r => some r
  | none =>
    let exp := reduce3 base mod exp
    match findPeriod base mod with
    | none => none
    | some period =>
      let exp := if period > 0 then exp % period else exp
      if exp == 0 then some 1
      else some (sqMul mod (exp + 1) base exp 1)

theorem expModInt_eq (base exp mod : Nat) : expModInt base exp mod =
    guarded base mod (if exp ≤ 1 then none else expModMain base exp mod) := rfl

theorem expModMain_correct (base exp mod r : Nat) (hm : 3 ≤ mod) (he : 2 ≤ exp)
    (h : expModMain base exp mod = some r) : r = base ^ exp % mod := by
  unfold expModMain at h
  cases hs : special base mod exp with
  | some r' =>
    rw [hs] at h
    exact Option.some.inj h ▸ special_sound base mod exp r' he hs
  | none =>
    rw [hs] at h
    cases hp : findPeriod base mod with
    | none => rw [hp] at h; exact absurd h (by simp)
    | some period =>
      rw [hp] at h
      rw [← Option.some.inj ((ite_some_eq _ _ _).symm.trans h), sqMul_pow base mod _ (by omega),
        reduce_by_period base mod period _ (findPeriod_one base mod period hp),
        reduce3_pow base mod exp hm]

/-- `find_period` raises (`PeriodLimit`) only from `2^24` on -/
theorem findPeriod_isSome (base mod : Nat) (hlim : mod < 2 ^ 24) :
    (findPeriod base mod).isSome := by
  unfold findPeriod
  split
  · rfl
  · rw [if_neg (by omega)]; rfl

theorem expModMain_isSome (base exp mod : Nat) (hlim : mod < 2 ^ 24) :
    (expModMain base exp mod).isSome := by
  unfold expModMain
  cases special base mod exp with
  | some r => rfl
  | none =>
    obtain ⟨p, hp⟩ := Option.isSome_iff_exists.mp (findPeriod_isSome base mod hlim)
    rw [hp]
    dsimp only
    rw [ite_some_eq]
    rfl

theorem expModInt_residue (base exp mod r : Nat) (he : 1 ≤ exp)
    (h : expModInt base exp mod = some r) : r = base ^ exp % mod := by
  refine guarded_correct exp he h fun hm hr => ?_
  obtain ⟨h1, hr⟩ := ite_none_eq_some hr
  exact expModMain_correct base exp mod r hm (by omega) hr

end BB.NumMod
