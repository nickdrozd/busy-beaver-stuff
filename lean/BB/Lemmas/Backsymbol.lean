/-
The backsymbol macro: the definitions the statements of C09 use (window = scanned cell + `k`
remembered cells, macro tape mirrored), what `pureDeconstructInputs` and the repaired
`pureReconstructOutputs` do on such a window, and the decoded configuration before and after a
macro step.
-/
import BB.Lemmas.MacroMachine

namespace BB.MacroSim

open BB BB.Macros

/-- base state of a backsymbol macro state `ms = atRight + 2 * (q * C^k + span)` -/
def bsState (lp : LogicParams) (ms : Nat) : Nat := ms / 2 / lp.backsymbols

/-- the `k` remembered cells of a backsymbol macro state, left to right -/
def bsSpan (lp : LogicParams) (ms : Nat) : MTape :=
  decode lp.baseColors lp.cells (ms / 2 % lp.backsymbols)

/-- the `k + 1`-cell window of slot `(ms, mc)`: the remembered cells lie right of the scanned cell
    `mc` when `ms % 2 = 1` (head on the window's left end) and left of it when `ms % 2 = 0`
    (head on the window's right end). -/
def bsTape (lp : LogicParams) (ms mc : Nat) : MTape :=
  if ms % 2 == 1 then mc :: bsSpan lp ms else bsSpan lp ms ++ [mc]

/-- is the head on the window's right end? -/
def bsRe (ms : Nat) : Bool := !(ms % 2 == 1)

/-- the window just AFTER the macro step that printed `mc'` and went to macro state `ms'`: the
    base head has left it; `mc'` is the cell that drops out of the new window: the far end cell.
    `ms' % 2 = 1`: left through the left side, the remembered cells are the `k` left ones. -/
def bsExitTape (lp : LogicParams) (ms' mc' : Nat) : MTape :=
  if ms' % 2 == 1 then bsSpan lp ms' ++ [mc'] else mc' :: bsSpan lp ms'

/-- **Decoding a backsymbol-macro configuration.**  Macro colours are base colours.  The macro tape
    is MIRRORED: the macro's right half-tape holds the base cells LEFT of the window and vice
    versa (leaving the window to the right is a macro LEFT shift). -/
def decCfgB (lp : LogicParams) (c : Cfg) : Cfg :=
  enterCfg (bsState lp c.state) (bsRe c.state) (bsTape lp c.state c.scan) c.right c.left

/-- all cells of the macro tape are base colours -/
def CellsBelow (C : Nat) (c : Cfg) : Prop :=
  c.scan < C ∧ (∀ x ∈ c.left, x < C) ∧ (∀ x ∈ c.right, x < C)

instance (C : Nat) (c : Cfg) : Decidable (CellsBelow C c) := by
  unfold CellsBelow; infer_instance

theorem backsymbols_pos {lp : LogicParams} (hC : 0 < lp.baseColors) : 0 < lp.backsymbols :=
  Nat.pow_pos hC

theorem bsTape_length (lp : LogicParams) (ms mc : Nat) :
    (bsTape lp ms mc).length = lp.cells + 1 := by
  simp only [bsTape, bsSpan]
  split <;> simp [decode_length]

theorem bsExitTape_length (lp : LogicParams) (ms mc : Nat) :
    (bsExitTape lp ms mc).length = lp.cells + 1 := by
  simp only [bsExitTape, bsSpan]
  split <;> simp [decode_length]

theorem bsTape_lt {lp : LogicParams} (hC : 0 < lp.baseColors) (ms : Nat) {mc : Nat}
    (hmc : mc < lp.baseColors) : ∀ x ∈ bsTape lp ms mc, x < lp.baseColors := by
  have h := decode_lt _ lp.cells (ms / 2 % lp.backsymbols) hC
  unfold bsTape bsSpan
  split
  · exact List.forall_mem_cons.2 ⟨hmc, h⟩
  · exact List.forall_mem_append.2 ⟨h, List.forall_mem_singleton.2 hmc⟩

theorem bsState_lt {lp : LogicParams} (hC : 0 < lp.baseColors) {ms : Nat}
    (hms : ms < 2 * lp.baseStates * lp.backsymbols) : bsState lp ms < lp.baseStates := by
  rw [bsState, Nat.div_lt_iff_lt_mul (backsymbols_pos hC), Nat.div_lt_iff_lt_mul (by decide)]
  rwa [Nat.mul_comm, ← Nat.mul_assoc]

theorem pureDeconstructInputs_backsym {lp : LogicParams} (hk : lp.kind = .backsymbol)
    (hC : 0 < lp.baseColors) (ms mc : Nat) :
    pureDeconstructInputs lp (ms, mc) = .ok (bsState lp ms, (bsRe ms, bsTape lp ms mc)) := by
  have hB : (lp.backsymbols == 0) = false := beq_false_of_ne (Nat.ne_of_gt (backsymbols_pos hC))
  simp only [pureDeconstructInputs, hk, hB, Bool.false_eq_true, if_false, bsState, bsRe, bsTape,
    bsSpan]
  cases ms % 2 == 1 <;> rfl

theorem recon_fix (lp : LogicParams) (hk : lp.kind = .backsymbol) (q' : Nat) (d : Bool)
    {t : MTape} (ht : t.length = lp.cells + 1) :
    ∃ mc' bs', bs'.length = lp.cells ∧ t = (if d then mc' :: bs' else bs' ++ [mc']) ∧
      pureReconstructOutputs lp (q', (d, t)) true =
        .ok (mc', !d, (if d then 0 else 1) + 2 * (q' * lp.backsymbols + encode lp.baseColors bs')) := by
  cases d with
  | true =>
    cases t with
    | nil => simp at ht
    | cons x r =>
      refine ⟨x, r, by simpa using ht, rfl, ?_⟩
      simp [pureReconstructOutputs, hk, backsymbolSplit, splitAt, head0]
  | false =>
    have h1 : (t.take lp.cells).length = lp.cells := by simp [ht]
    have h2 : (t.drop lp.cells).length = 1 := by simp [ht]
    obtain ⟨c, hc⟩ := List.length_eq_one_iff.1 h2
    refine ⟨c, t.take lp.cells, h1, ?_, ?_⟩
    · simp only [Bool.false_eq_true, if_false]
      rw [← hc, List.take_append_drop]
    · have hn : ¬ (lp.cells > t.length) := by omega
      simp [pureReconstructOutputs, hk, backsymbolSplit, splitAt, hn, hc, head0]

theorem backsym_slotWindow {lp : LogicParams} (hk : lp.kind = .backsymbol)
    (hC : 0 < lp.baseColors) (ms mc : Nat) :
    SlotWindow lp true (ms, mc) (lp.cells + 1) (bsState lp ms) (bsRe ms) (bsTape lp ms mc) :=
  ⟨pureDeconstructInputs_backsym hk hC ms mc, bsTape_length lp ms mc, Nat.le_add_left 1 lp.cells,
    fun q' d _ ht => let ⟨_, _, _, _, h⟩ := recon_fix lp hk q' d ht; ⟨_, h⟩⟩

/-- the macro state `e + 2 * (q * B + enc)` built by `reconstruct_outputs`, read back -/
theorem bs_newState {lp : LogicParams} {q enc e : Nat} (he : e < 2) (henc : enc < lp.backsymbols)
    (hq : q < lp.baseStates) :
    bsState lp (e + 2 * (q * lp.backsymbols + enc)) = q ∧
      bsSpan lp (e + 2 * (q * lp.backsymbols + enc)) = decode lp.baseColors lp.cells enc ∧
      (e + 2 * (q * lp.backsymbols + enc)) % 2 = e ∧
      e + 2 * (q * lp.backsymbols + enc) < 2 * lp.baseStates * lp.backsymbols := by
  obtain ⟨h1, h2, h3⟩ := two_mul_add he (mul_add_lt hq henc)
  obtain ⟨h4, h5⟩ := mul_add_div_mod (a := q) henc
  rw [bsState, bsSpan, Nat.add_comm e, h1, h2, h4, h5, Nat.mul_assoc]
  exact ⟨rfl, rfl, rfl, h3⟩

theorem recon_readback {lp : LogicParams} (hk : lp.kind = .backsymbol) {q' : Nat} (d : Bool)
    {t : MTape} (ht : t.length = lp.cells + 1) (hq : q' < lp.baseStates)
    (hlt : ∀ x ∈ t, x < lp.baseColors) :
    ∃ mc' ms', pureReconstructOutputs lp (q', (d, t)) true = .ok (mc', !d, ms') ∧
      bsState lp ms' = q' ∧ bsExitTape lp ms' mc' = t ∧ ms' % 2 = (if !d then 1 else 0) ∧
      ms' < 2 * lp.baseStates * lp.backsymbols ∧ mc' < lp.baseColors := by
  obtain ⟨x, bs', hbl, rfl, hrec⟩ := recon_fix lp hk q' d ht
  have hbs : ∀ y ∈ bs', y < lp.baseColors := fun y hy => hlt y (by split <;> simp [hy])
  obtain ⟨a1, a2, a3, a4⟩ := bs_newState (lp := lp) (q := q') (e := if d then 0 else 1)
    (enc := encode lp.baseColors bs') (by cases d <;> decide)
    (by have := (encode_lt_and_decode _ _ hbs).1; rwa [hbl] at this) hq
  refine ⟨x, _, hrec, a1, ?_, by rw [a3]; cases d <;> rfl, a4, hlt x (by split <;> simp)⟩
  simp only [bsExitTape, a2, a3, decode_encode hbl hbs]
  cases d <;> rfl

theorem simLim_backsym {lp : LogicParams} (hk : lp.kind = .backsymbol) :
    lp.simLim = 2 * lp.baseStates * lp.baseColors ^ (lp.cells + 1) := by
  simp only [LogicParams.simLim, LogicParams.macroColors, LogicParams.macroStates,
    LogicParams.backsymbols, hk, Nat.pow_succ, Nat.mul_assoc]

/-- for `k ≤ 1` remembered cells `sim_lim` reaches the number of window configurations -/
theorem simLim_backsym_enough {lp : LogicParams} (hk : lp.kind = .backsymbol)
    (hc : lp.cells ≤ 1) :
    lp.baseStates * (lp.cells + 1) * lp.baseColors ^ (lp.cells + 1) ≤ lp.simLim := by
  rw [simLim_backsym hk, Nat.mul_comm 2]
  exact Nat.mul_le_mul_right _ (Nat.mul_le_mul_left _ (by omega))

theorem exitCfg_right_cons (q x : Nat) (span oL oR : List Nat) :
    exitCfg q true (x :: span) oL oR =
      enterCfg q true (span ++ [oR.headD 0]) (x :: oL) oR.tail := by
  simp only [exitCfg, enterCfg, if_true, List.reverse_cons, List.reverse_append, List.reverse_nil,
    List.nil_append, List.singleton_append, List.tail_cons, List.headD_cons, List.append_assoc]

theorem exitCfg_left_concat (q x : Nat) (span oL oR : List Nat) :
    exitCfg q false (span ++ [x]) oL oR =
      enterCfg q false (oL.headD 0 :: span) oL.tail (x :: oR) := by
  simp only [exitCfg, enterCfg, Bool.false_eq_true, if_false, List.headD_cons, List.tail_cons,
    List.append_assoc, List.singleton_append]

/-- A macro shift `sh` is a base exit to the other side `!sh` (the macro tape is mirrored,
    `decCfgB`); the printed macro colour `mc'` is the cell that drops out of the window. -/
theorem exitCfg_eq_decCfgB (lp : LogicParams) (c : Cfg) (mc' ms' : Nat) (sh : Bool)
    (hpar : ms' % 2 = (if sh then 1 else 0)) :
    exitCfg (bsState lp ms') (!sh) (bsExitTape lp ms' mc') c.right c.left =
      decCfgB lp (c.move mc' sh ms') := by
  cases sh with
  | true =>
    have h1 : (ms' % 2 == 1) = true := by rw [hpar]; rfl
    simp only [bsExitTape, decCfgB, bsRe, bsTape, Cfg.move, h1, if_true, Bool.not_true]
    exact exitCfg_left_concat ..
  | false =>
    have h1 : (ms' % 2 == 1) = false := by rw [hpar]; rfl
    simp only [bsExitTape, decCfgB, bsRe, bsTape, Cfg.move, h1, Bool.false_eq_true, if_false,
      Bool.not_false]
    exact exitCfg_right_cons ..

theorem init_equiv_decCfgB (lp : LogicParams) : Cfg.init ≈c decCfgB lp Cfg.init := by
  have ht : bsTape lp 0 0 = List.replicate (lp.cells + 1) 0 := by
    rw [List.replicate_succ', ← decode_color_zero lp.baseColors]
    rfl
  have hd : decCfgB lp Cfg.init = ⟨0, List.replicate lp.cells 0 ++ [], 0, []⟩ := by
    show enterCfg (bsState lp 0) true (bsTape lp 0 0) [] [] = _
    rw [ht, bsState, Nat.zero_div, enterCfg, if_pos rfl, List.reverse_replicate,
      List.replicate_succ]
    rfl
  rw [hd]
  exact ⟨rfl, rfl, sameCells_nil_left.2 (allZero_append.2 ⟨allZero_replicate_zero _, allZero_nil⟩),
    SameCells.refl _⟩

theorem cellsBelow_move {C : Nat} (hC : 0 < C) {c : Cfg} (h : CellsBelow C c) {pr : Nat}
    (hpr : pr < C) (sh : Bool) (q : Nat) : CellsBelow C (c.move pr sh q) := by
  obtain ⟨_, hl, hr⟩ := h
  have hd : ∀ l : List Nat, (∀ x ∈ l, x < C) → l.headD 0 < C ∧ ∀ x ∈ l.tail, x < C := by
    rintro (_ | ⟨a, r⟩) hl
    · exact ⟨hC, nofun⟩
    · exact List.forall_mem_cons.1 hl
  cases sh
  · exact ⟨(hd _ hl).1, (hd _ hl).2, List.forall_mem_cons.2 ⟨hpr, hr⟩⟩
  · exact ⟨(hd _ hr).1, List.forall_mem_cons.2 ⟨hpr, hl⟩, (hd _ hr).2⟩

end BB.MacroSim
