/-
C04: γ under the sweep mechanism (`check_spinout`, indefinite blocks, the repaired F1 drop) and
subsumption between blank tapes (for blank-state pruning).
-/
import BB.Lemmas.ReasonGamma
import BB.Lemmas.ReasonInstr

namespace BB.Reason

open BB

theorem pullSpan_pushIndef (t : Backstepper) (sh : Bool) :
    (t.pushIndef sh).pullSpan sh = t.pullSpan sh := by
  cases sh <;> rfl

theorem pushSpan_pushIndef (t : Backstepper) (sh : Bool) :
    (t.pushIndef sh).pushSpan sh = (t.pushSpan sh).pushBlock t.scan 0 := by
  cases sh <;> rfl

theorem scan_pushIndef (t : Backstepper) (sh : Bool) : (t.pushIndef sh).scan = t.scan := by
  cases sh <;> rfl

theorem SM.tail_of_nil {s : Span} {f : Nat → Nat} (h : SM s f) (hs : s.span = []) :
    SM s (fun i => f (i + 1)) := by
  obtain ⟨bs, e⟩ := s
  cases hs
  cases h with
  | nilBlanks h0 => exact SpanMatch.nilBlanks (fun i => h0 (i + 1))
  | nilUnknown => exact SpanMatch.nilUnknown

theorem SM.absorb_indef {s : Span} {g : Nat → Nat} {col : Nat} {rest : List Block}
    (hs : s.span = ⟨col, 0⟩ :: rest) (h : SM s (fun i => g (i + 1))) (h0 : g 0 = col) : SM s g := by
  obtain ⟨bs, e⟩ := s
  cases hs
  cases h with
  | cons k _ _ h3 h4 =>
    exact .cons (k + 1) (fun h => absurd rfl h) (fun _ => Nat.le_add_left 1 k)
      (Nat.forall_lt_succ_left.2 ⟨h0, h3⟩) h4

theorem checkSpinout_some {t : Backstepper} {sh : Bool} {r : Nat} {b : Bool}
    (h : t.checkSpinout sh r = some b) :
    t.scan = r ∧ (t.pullSpan sh).span = [] ∧ b = !(t.pushSpan sh).matchesColor t.scan := by
  rw [Backstepper.checkSpinout] at h
  by_cases hsc : (t.scan != r) = true
  · rw [if_pos hsc] at h; cases h
  · rw [if_neg hsc] at h
    by_cases hpull : (!(t.pullSpan sh).span.isEmpty) = true
    · rw [if_pos hpull] at h; cases h
    · rw [if_neg hpull] at h
      refine ⟨by simpa using hsc, by simpa using hpull, ?_⟩
      split at h
      · exact (Option.some.inj h).symm
      · cases h

/-! The sweeping instruction: `c' ∈ γ(q, t)` where `t` has nothing on the side the head came from,
and `c` is the predecessor of `c'` by the instruction that keeps state `q` on the scanned colour. -/

theorem sweep_pred_indef {q : Nat} {t : Backstepper} {c c' : Cfg} {pr : Nat} {sh : Bool}
    (hp : IsPred c c' pr sh) (hg : GammaT q t c') (hpull : (t.pullSpan sh).span = [])
    (hq : c.state = q) (hsc : c.scan = t.scan) : GammaT q (t.pushIndef sh) c :=
  gammaT_pred hp hg hq (hsc.trans (scan_pushIndef t sh).symm)
    (fun _ h => pullSpan_pushIndef t sh ▸ h.tail_of_nil hpull)
    (fun _ h h0 => pushSpan_pushIndef t sh ▸ h0 ▸ h.pushIndef)

theorem sweep_pred_stay {q : Nat} {t : Backstepper} {c c' : Cfg} {pr : Nat} {sh : Bool}
    (hp : IsPred c c' pr sh) (hg : GammaT q (t.pushIndef sh) c')
    (hpull : (t.pullSpan sh).span = []) (hq : c.state = q) (hsc : c.scan = t.scan) :
    GammaT q (t.pushIndef sh) c :=
  gammaT_pred hp hg hq (hsc.trans (scan_pushIndef t sh).symm)
    (fun _ h => h.tail_of_nil ((congrArg Span.span (pullSpan_pushIndef t sh)).trans hpull))
    (fun _ h h0 => h.absorb_indef (congrArg Span.span (pushSpan_pushIndef t sh))
      (h0.trans (scan_pushIndef t sh)))

/-- the repaired drop: the predecessor by the sweeping instruction is already in γ(q, t) -/
theorem sweep_absorbed {q : Nat} {t : Backstepper} {c c' : Cfg} {pr : Nat} {sh : Bool}
    (hp : IsPred c c' pr sh) (hg : GammaT q t c') (hpull : (t.pullSpan sh).span = [])
    (hq : c.state = q) (hsc : c.scan = t.scan)
    (hm : (t.pushSpan sh).matchesColor t.scan = true) (ha : t.sweepAbsorbed sh = true) :
    GammaT q t c := by
  refine gammaT_pred hp hg hq hsc (fun _ h => h.tail_of_nil hpull) fun g h h0 => ?_
  rw [Backstepper.sweepAbsorbed] at ha
  generalize t.pushSpan sh = s at h hm ha
  obtain ⟨bs, e⟩ := s
  cases bs with
  | nil =>
    -- the push side is empty: it ends in `unknown`, or in `blanks` and the scanned colour is 0
    cases e with
    | unknown => exact .nilUnknown
    | blanks => exact SpanMatch.nil_blanks_succ.2 ⟨h0.trans (beq_iff_eq.1 hm), h⟩
  | cons b rest =>
    -- the push side starts with an indefinite block of the scanned colour
    obtain ⟨col, n⟩ := b
    cases beq_iff_eq.1 ha
    exact h.absorb_indef rfl (h0.trans (beq_iff_eq.1 hm).symm)

theorem SpanMatch.blank_iff {bs : List Block} {e : TapeEnd} {f : Nat → Nat}
    (hb : ∀ b ∈ bs, b.color = 0) :
    SpanMatch bs e f ↔ (∀ i, i < minLenB bs → f i = 0) ∧ (e = .blanks → ∀ i, f i = 0) := by
  induction bs generalizing f with
  | nil =>
    refine ⟨fun h => ⟨fun _ hi => absurd hi (Nat.not_lt_zero _), fun he => ?_⟩, fun h => ?_⟩
    · cases he; cases h with | nilBlanks h0 => exact h0
    · cases e with
      | blanks => exact .nilBlanks (h.2 rfl)
      | unknown => exact .nilUnknown
  | cons b rest ih =>
    obtain ⟨c, n⟩ := b
    cases hb ⟨c, n⟩ List.mem_cons_self
    have ih := fun {f} => @ih f (fun b hb' => hb b (List.mem_cons_of_mem _ hb'))
    have hlen : minLenB (⟨0, n⟩ :: rest) = (if n = 0 then 1 else n) + minLenB rest := by
      rw [minLenB]; congr 1; by_cases hn : n = 0 <;> simp [hn]
    rw [hlen]
    constructor
    · intro h
      cases h with
      | cons k h1 h2 h3 h4 =>
        obtain ⟨ih1, ih2⟩ := ih.1 h4
        have hle : (if n = 0 then 1 else n) ≤ k := by
          split
          · exact h2 ‹_›
          · exact Nat.le_of_eq (h1 ‹_›).symm
        have hz : ∀ i, i < k + minLenB rest → f i = 0 := fun i hi => by
          by_cases hik : i < k
          · exact h3 i hik
          · have := ih1 (i - k) (by omega)
            rwa [Nat.sub_add_cancel (Nat.le_of_not_lt hik)] at this
        refine ⟨fun i hi => hz i (by omega), fun he i => ?_⟩
        by_cases hik : i < k
        · exact h3 i hik
        · have := ih2 he (i - k)
          rwa [Nat.sub_add_cancel (Nat.le_of_not_lt hik)] at this
    · intro ⟨h1, h2⟩
      refine .cons (if n = 0 then 1 else n) (fun hn => if_neg hn) (fun hn => Nat.le_of_eq (if_pos hn).symm)
        (fun i hi => h1 i (by omega)) (ih.2 ⟨fun i hi => h1 _ (by omega), fun he i => h2 he _⟩)

theorem SpanMatch.of_all_zero {bs : List Block} {e : TapeEnd} {f : Nat → Nat}
    (hb : ∀ b ∈ bs, b.color = 0) (hf : ∀ i, f i = 0) : SpanMatch bs e f :=
  (blank_iff hb).2 ⟨fun i _ => hf i, fun _ => hf⟩

theorem sideSub_sound {y z : Span} {f : Nat → Nat} (hy : y.blank = true) (hz : z.blank = true)
    (hs : sideSub y z = true) (h : SM z f) : SM y f := by
  simp only [Span.blank, List.all_eq_true, beq_iff_eq] at hy hz
  simp only [sideSub, Bool.or_eq_true, beq_iff_eq, Bool.and_eq_true, decide_eq_true_eq] at hs
  obtain ⟨h1, h2⟩ := (SpanMatch.blank_iff hz).1 h
  rcases hs with he | ⟨he, hle⟩
  · exact SpanMatch.of_all_zero hy (h2 he)
  · exact (SpanMatch.blank_iff hy).2
      ⟨fun i hi => h1 i (Nat.lt_of_lt_of_le hi hle), fun he' => by rw [he] at he'; cases he'⟩

theorem blankSub_sound {q : Nat} {y z : Backstepper} {c : Cfg} (hy : y.blank = true)
    (hz : z.blank = true) (hs : blankSub y z = true) (h : GammaT q z c) : GammaT q y c := by
  simp only [Backstepper.blank, Bool.and_eq_true, beq_iff_eq] at hy hz
  simp only [blankSub, Bool.and_eq_true] at hs
  obtain ⟨hq, hsc, hl, hr⟩ := h
  exact ⟨hq, by rw [hsc, hz.1.1, hy.1.1], sideSub_sound hy.1.2 hz.1.2 hs.1 hl,
    sideSub_sound hy.2 hz.2 hs.2 hr⟩

end BB.Reason
