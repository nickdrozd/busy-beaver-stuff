/-
Meaning of `Span.compareTakeRs` and `HeadTape.alignsWith` on canonical tapes.

* `compareTakeRs s p take = true` on canonical spans ⇒ the first `take` cells of the two spans are
  equal.  (The Rust loop keeps a partially consumed block *with its full count*; on canonical spans
  this is harmless because the next comparison then meets two different colours and fails.)
* `alignsWith` ⇒ the two configurations hold the same cells, relative to their heads, on the window
  visited since the reference was taken, and on the whole half-line on the side moved towards.
-/
import BB.Lemmas.LinRec

namespace BB

theorem cellAt_block_lt {a c : Nat} (rest : List Nat) {i : Nat} (h : i < a) :
    cellAt (List.replicate a c ++ rest) i = c := by
  rw [cellAt_append_left _ (by simpa using h), cellAt_replicate h]

theorem cellAt_block_ge {a c : Nat} (rest : List Nat) {i : Nat} (h : a ≤ i) :
    cellAt (List.replicate a c ++ rest) i = cellAt rest (i - a) := by
  have := cellAt_append_right (List.replicate a c) rest (i - a)
  rwa [List.length_replicate, Nat.add_sub_cancel' h] at this

/-- on a canonical span the first cell tells whether the leading block is still there -/
theorem Span.Canon.cell_zero_ite {b : Block} {s : Span} (h : Span.Canon (b :: s)) (c : Prop)
    [Decidable c] : cellAt (Span.unroll (if c then s else b :: s)) 0 = b.color ↔ ¬ c := by
  by_cases hc : c
  · rw [if_pos hc]
    refine iff_of_false (fun e => ?_) (fun h' => h' hc)
    cases s with
    | nil => exact h.2 e.symm
    | cons x r =>
      rw [Span.unroll_cons, cellAt_block_lt _ h.tail.head_pos] at e
      exact h.2.1 e.symm
  · rw [if_neg hc, Span.unroll_cons, cellAt_block_lt _ h.head_pos]
    exact iff_of_true rfl hc

theorem Span.Canon.ite_tail {b : Block} {s : Span} (h : Span.Canon (b :: s)) (c : Prop)
    [Decidable c] : Span.Canon (if c then s else b :: s) := by
  split
  · exact h.tail
  · exact h

theorem Span.compareTakeGo_cons (fuel take : Nat) (sb pb : Block) (ss ps : Span) :
    Span.compareTakeGo (fuel + 1) (sb :: ss) (pb :: ps) take =
      if take == 0 then true
      else if sb.color != pb.color then false
      else if sb.count == 0 || pb.count == 0 then false
      else Span.compareTakeGo fuel
        (if sb.count == min take (min sb.count pb.count) then ss else sb :: ss)
        (if pb.count == min take (min sb.count pb.count) then ps else pb :: ps)
        (take - min take (min sb.count pb.count)) := rfl

theorem Span.compareTakeGo_succ_true {fuel take : Nat} {s p : Span} (ht : take ≠ 0)
    (h : Span.compareTakeGo (fuel + 1) s p take = true) :
    (s = [] ∧ p = []) ∨ ∃ sb ss pb ps, s = sb :: ss ∧ p = pb :: ps ∧ sb.color = pb.color ∧
      0 < sb.count ∧ 0 < pb.count ∧
      Span.compareTakeGo fuel
        (if sb.count == min take (min sb.count pb.count) then ss else sb :: ss)
        (if pb.count == min take (min sb.count pb.count) then ps else pb :: ps)
        (take - min take (min sb.count pb.count)) = true := by
  have ht' : ¬ (take == 0) = true := by rwa [beq_iff_eq]
  match s, p with
  | [], [] => exact .inl ⟨rfl, rfl⟩
  | [], _ :: _ =>
    change (if (take == 0) = true then true else false) = true at h
    rw [if_neg ht'] at h; cases h
  | _ :: _, [] =>
    change (if (take == 0) = true then true else false) = true at h
    rw [if_neg ht'] at h; cases h
  | sb :: ss, pb :: ps =>
    rw [Span.compareTakeGo_cons, if_neg ht'] at h
    by_cases hc : sb.color = pb.color
    · rw [if_neg (by rw [hc, bne_self_eq_false]; exact Bool.false_ne_true)] at h
      by_cases h0 : (sb.count == 0 || pb.count == 0) = true
      · rw [if_pos h0] at h; cases h
      · rw [if_neg h0] at h
        rw [Bool.not_eq_true, Bool.or_eq_false_iff, beq_eq_false_iff_ne,
          beq_eq_false_iff_ne] at h0
        exact .inr ⟨sb, ss, pb, ps, rfl, rfl, hc, Nat.pos_of_ne_zero h0.1,
          Nat.pos_of_ne_zero h0.2, h⟩
    · rw [if_pos (by rwa [bne_iff_ne])] at h; cases h

theorem Span.compareTakeGo_cells : ∀ (fuel : Nat) {s p : Span} {take : Nat},
    Span.Canon s → Span.Canon p → take ≤ fuel → Span.compareTakeGo fuel s p take = true →
    ∀ i, i < take → cellAt (Span.unroll s) i = cellAt (Span.unroll p) i := by
  intro fuel
  induction fuel with
  | zero =>
    intro s p take _ _ hle _ i hi
    exact absurd (Nat.lt_of_lt_of_le hi hle) (Nat.not_lt_zero i)
  | succ fuel ih =>
    intro s p take hs hp hle h i hi
    rcases Span.compareTakeGo_succ_true (Nat.ne_zero_of_lt hi) h with
      ⟨rfl, rfl⟩ | ⟨⟨c, a⟩, ss, ⟨c', b⟩, ps, rfl, rfl, hc, ha, hb, h⟩
    · rfl
    · cases (hc : c = c')
      rw [Span.unroll_cons, Span.unroll_cons]
      simp only at ha hb h ⊢
      by_cases hall : take ≤ min a b
      · rw [cellAt_block_lt _ (Nat.lt_of_lt_of_le hi (Nat.le_min.1 hall).1),
          cellAt_block_lt _ (Nat.lt_of_lt_of_le hi (Nat.le_min.1 hall).2)]
      · -- A block runs out with `take` not exhausted.  Were it only one of them, the other span
        -- would still start with the common colour and the popped one, being canonical, not:
        -- their first cells would differ, against `key 0`.
        have hm : min a b < take := Nat.lt_of_not_le hall
        rw [Nat.min_eq_right (Nat.le_of_lt hm)] at h
        have key := ih (hs.ite_tail _) (hp.ite_tail _) (by omega) h
        have hab : a = b := by
          have h1 := hs.cell_zero_ite ((a == min a b) = true)
          rw [key 0 (Nat.sub_pos_of_lt hm), hp.cell_zero_ite ((b == min a b) = true), beq_iff_eq,
            beq_iff_eq] at h1
          have h1 := Decidable.not_iff_not.1 h1
          rcases Nat.le_total a b with hle | hle
          · rw [Nat.min_eq_left hle] at h1; exact (h1.2 rfl).symm
          · rw [Nat.min_eq_right hle] at h1; exact h1.1 rfl
        subst hab
        simp only [Nat.min_self, BEq.rfl, if_true] at key hm
        by_cases hi' : i < a
        · rw [cellAt_block_lt _ hi', cellAt_block_lt _ hi']
        · rw [cellAt_block_ge _ (Nat.le_of_not_lt hi'), cellAt_block_ge _ (Nat.le_of_not_lt hi')]
          exact key (i - a) (by omega)

theorem Span.compareTakeRs_cells {s p : Span} {take : Nat} (hs : Span.Canon s) (hp : Span.Canon p)
    (h : Span.compareTakeRs s p take = true) :
    ∀ i, i < take → cellAt (Span.unroll s) i = cellAt (Span.unroll p) i :=
  Span.compareTakeGo_cells take hs hp (Nat.le_refl _) h

theorem HeadTape.alignsWith_sides {self prev : HeadTape} {lm rm : Int}
    (h : self.alignsWith prev lm rm = true) :
    self.tape.scan = prev.tape.scan ∧
    (if self.head - prev.head < 0 then self.tape.lspan = prev.tape.lspan
      else Span.compareTakeRs self.tape.lspan prev.tape.lspan (prev.head - lm).natAbs = true) ∧
    (if 0 < self.head - prev.head then self.tape.rspan = prev.tape.rspan
      else Span.compareTakeRs self.tape.rspan prev.tape.rspan (prev.head - rm).natAbs = true) := by
  delta HeadTape.alignsWith at h
  by_cases hscan : self.tape.scan = prev.tape.scan
  · refine ⟨hscan, ?_⟩
    rw [if_neg (by rw [hscan, bne_self_eq_false]; exact Bool.false_ne_true)] at h
    split at h
    · cases h
    · by_cases hpos : 0 < self.head - prev.head
      · rw [if_pos hpos, Bool.and_eq_true, beq_iff_eq] at h
        rw [if_neg (Int.lt_asymm hpos), if_pos hpos]
        exact h
      · rw [if_neg hpos] at h ⊢
        by_cases hneg : self.head - prev.head < 0
        · rw [if_pos hneg, Bool.and_eq_true, beq_iff_eq] at h
          rw [if_pos hneg]
          exact h.symm
        · rw [if_neg hneg, Bool.and_eq_true] at h
          rw [if_neg hneg]
          exact h
  · rw [if_pos (by rwa [bne_iff_ne])] at h
    cases h

theorem Span.side_cells {s p : Span} {c : Prop} [Decidable c] {take : Nat} (hs : Span.Canon s)
    (hp : Span.Canon p) (h : if c then s = p else Span.compareTakeRs s p take = true) {k : Nat}
    (hk : ¬ c → k < take) : cellAt (Span.unroll p) k = cellAt (Span.unroll s) k := by
  split at h
  · rw [h]
  · exact (Span.compareTakeRs_cells hs hp h k (hk ‹_›)).symm

/-- the window on which a head that went from `lm ≤ h ≤ rm` to `h + δ` is compared: the cells
    visited, and all cells on the side of the drift -/
def driftWindow (lm rm δ : Int) (x : Int) : Prop := (0 ≤ δ → lm ≤ x) ∧ (δ ≤ 0 → x ≤ rm)

theorem driftWindow.closed {lm rm δ x : Int} (h : driftWindow lm rm δ x) :
    driftWindow lm rm δ (x + δ) :=
  ⟨fun hδ => Int.le_trans (h.1 hδ) (Int.le_add_of_nonneg_right hδ),
    fun hδ => Int.le_trans (Int.add_le_add_left hδ x) (Int.le_trans (Int.le_of_eq (Int.add_zero x))
      (h.2 hδ))⟩

theorem driftWindow.of_mem {lm rm δ x : Int} (h : lm ≤ x ∧ x ≤ rm) : driftWindow lm rm δ x :=
  ⟨fun _ => h.1, fun _ => h.2⟩

theorem driftWindow.right (lm rm δ : Int) :
    (∀ x, driftWindow lm rm δ x → driftWindow lm rm δ (x + 1)) ∨
      ∃ B, ∀ x, driftWindow lm rm δ x → x ≤ B := by
  by_cases h : 0 < δ
  · exact .inl fun x hx =>
      ⟨fun hδ => Int.le_trans (hx.1 hδ) (Int.le_add_of_nonneg_right (by decide)),
        fun hδ => absurd h (Int.not_lt.2 hδ)⟩
  · exact .inr ⟨rm, fun x hx => hx.2 (Int.not_lt.1 h)⟩

theorem driftWindow.left (lm rm δ : Int) :
    (∀ x, driftWindow lm rm δ x → driftWindow lm rm δ (x - 1)) ∨
      ∃ B, ∀ x, driftWindow lm rm δ x → B ≤ x := by
  by_cases h : δ < 0
  · exact .inl fun x hx => ⟨fun hδ => absurd h (Int.not_lt.2 hδ),
      fun hδ => Int.le_trans (Int.sub_le_self x (by decide)) (hx.2 hδ)⟩
  · exact .inr ⟨lm, fun x hx => hx.1 (Int.not_lt.1 h)⟩

theorem HeadTape.alignsWith_agree {self prev : HeadTape} {lm rm : Int} (hc : self.tape.Canon)
    (hp : prev.tape.Canon) (hl : lm ≤ prev.head) (hr : prev.head ≤ rm)
    (h : self.alignsWith prev lm rm = true) (q : Nat) :
    AgreeW (driftWindow lm rm (self.head - prev.head)) prev.head
      (prev.tape.toCfg q) (self.tape.toCfg q) := by
  obtain ⟨hscan, hL, hR⟩ := HeadTape.alignsWith_sides h
  refine ⟨rfl, fun x hx => ?_⟩
  rcases int_cases (x - prev.head) with e | ⟨k, e⟩ | ⟨k, e⟩ <;> rw [e]
  · exact hscan.symm
  · rw [Cfg.cell_pos, Cfg.cell_pos]
    refine Span.side_cells hc.2 hp.2 hR fun hn => ?_
    have := hx.2 (Int.not_lt.1 hn)
    omega
  · rw [Cfg.cell_neg, Cfg.cell_neg]
    refine Span.side_cells hc.1 hp.1 hL fun hn => ?_
    have := hx.1 (Int.not_lt.1 hn)
    omega

end BB
