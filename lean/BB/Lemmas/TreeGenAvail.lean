/-
C10 support: the availability counters of the code are a function of the table,
`avail = min(max, 2 + largest state / colour mentioned)`, because the machine state and the tape
colours of every node of the generation process are mentioned in its table.  Hence the process
with the counters (`ProcFrom`) and the declarative one (`SpecFrom`) have the same results.
-/
import BB.Lemmas.TreeGenHarvest
import BB.Lemmas.StepRefine

namespace BB.Tree

open BB

/-- the largest value of `f` over the entries of a table: `maxState` and `maxColor` are `maxOf`
    for two choices of `f`, by `rfl`. -/
def maxOf (f : Slot × Instr → Nat) (p : Prog) : Nat := p.foldr (fun kv m => max (f kv) m) 0

theorem maxOf_le_iff {f : Slot × Instr → Nat} {p : Prog} {B : Nat} :
    maxOf f p ≤ B ↔ ∀ kv ∈ p, f kv ≤ B := by
  induction p with
  | nil => simp [maxOf]
  | cons kv p ih =>
    rw [List.forall_mem_cons, ← ih]
    exact Nat.max_le

theorem le_maxOf {f : Slot × Instr → Nat} {p : Prog} {kv : Slot × Instr} (h : kv ∈ p) :
    f kv ≤ maxOf f p := maxOf_le_iff.mp (Nat.le_refl _) kv h

theorem maxOf_insert {f : Slot × Instr → Nat} {p : Prog} {s : Slot} (i : Instr)
    (hn : p.get s = none) : maxOf f (p.insert s i) = max (maxOf f p) (f (s, i)) := by
  refine Nat.le_antisymm (maxOf_le_iff.mpr fun kv hkv => ?_)
    (Nat.max_le.mpr ⟨maxOf_le_iff.mpr fun kv hkv => ?_, ?_⟩)
  · rcases (Prog.mem_insert_iff hn).mp hkv with rfl | h
    · exact Nat.le_max_right ..
    · exact Nat.le_trans (le_maxOf h) (Nat.le_max_left ..)
  · exact le_maxOf ((Prog.mem_insert_iff hn).mpr (.inr hkv))
  · exact le_maxOf ((Prog.mem_insert_iff hn).mpr (.inl rfl))

theorem maxState_le_iff {p : Prog} {B : Nat} :
    maxState p ≤ B ↔ ∀ kv ∈ p, kv.1.1 ≤ B ∧ kv.2.2.2 ≤ B :=
  (maxOf_le_iff (f := fun kv => max kv.1.1 kv.2.2.2)).trans
    (forall₂_congr fun _ _ => Nat.max_le)

theorem maxColor_le_iff {p : Prog} {B : Nat} :
    maxColor p ≤ B ↔ ∀ kv ∈ p, kv.1.2 ≤ B ∧ kv.2.1 ≤ B :=
  (maxOf_le_iff (f := fun kv => max kv.1.2 kv.2.1)).trans
    (forall₂_congr fun _ _ => Nat.max_le)

theorem maxState_insert {p : Prog} {s : Slot} (i : Instr) (h : p.get s = none) :
    maxState (p.insert s i) = max (maxState p) (max s.1 i.2.2) :=
  maxOf_insert (f := fun kv => max kv.1.1 kv.2.2.2) i h

theorem maxColor_insert {p : Prog} {s : Slot} (i : Instr) (h : p.get s = none) :
    maxColor (p.insert s i) = max (maxColor p) (max s.2 i.1) :=
  maxOf_insert (f := fun kv => max kv.1.2 kv.2.1) i h

def SpanLe (s : Span) (m : Nat) : Prop := ∀ b ∈ s, b.color ≤ m

def TapeLe (t : Tape) (m : Nat) : Prop := t.scan ≤ m ∧ SpanLe t.lspan m ∧ SpanLe t.rspan m

theorem SpanLe.mono {s : Span} {m m' : Nat} (h : SpanLe s m) (hm : m ≤ m') : SpanLe s m' :=
  fun b hb => Nat.le_trans (h b hb) hm

theorem TapeLe.mono {t : Tape} {m m' : Nat} (h : TapeLe t m) (hm : m ≤ m') : TapeLe t m' :=
  ⟨Nat.le_trans h.1 hm, h.2.1.mono hm, h.2.2.mono hm⟩

theorem spanLe_nil (m : Nat) : SpanLe [] m := nofun

theorem spanLe_cons {b : Block} {s : Span} {m : Nat} :
    SpanLe (b :: s) m ↔ b.color ≤ m ∧ SpanLe s m := List.forall_mem_cons

theorem tapeLe_init (m : Nat) : TapeLe Tape.init m := ⟨Nat.zero_le _, spanLe_nil _, spanLe_nil _⟩

theorem pullTail_le {s1 : Span} {m : Nat} (h : SpanLe s1 m) :
    (Span.pullTail s1).1 ≤ m ∧ SpanLe (Span.pullTail s1).2 m := by
  fun_cases Span.pullTail s1 with
  | case1 => exact ⟨Nat.zero_le _, spanLe_nil _⟩
  | case2 b rest hb =>
    have ⟨hb', hr⟩ := spanLe_cons.mp h
    exact ⟨hb', spanLe_cons.mpr ⟨hb', hr⟩⟩
  | case3 b rest hb => exact spanLe_cons.mp h

theorem pullSkip_le {s : Span} {m : Nat} (h : SpanLe s m) (scan : Nat) (skip : Bool) :
    SpanLe (Span.pullSkip s scan skip).2 m := by
  fun_cases Span.pullSkip s scan skip with
  | case1 b rest hc => exact (spanLe_cons.mp h).2
  | case2 b rest hc => exact h
  | case3 => exact h

theorem pull_le {s : Span} {m : Nat} (h : SpanLe s m) (scan : Nat) (skip : Bool) :
    (Span.pull s scan skip).1 ≤ m ∧ SpanLe (Span.pull s scan skip).2.2 m := by
  rw [Span.pull_eq]
  exact pullTail_le (pullSkip_le h scan skip)

theorem push_le {s : Span} {m : Nat} (h : SpanLe s m) {pr : Nat} (hpr : pr ≤ m) (k : Nat) :
    SpanLe (Span.push s pr k) m := by
  fun_cases Span.push s pr k with
  | case1 b rest hb => exact spanLe_cons.mpr ((spanLe_cons (b := b)).mp h)
  | case2 b rest hb => exact spanLe_cons.mpr ⟨hpr, h⟩
  | case3 => exact spanLe_nil _
  | case4 => exact spanLe_cons.mpr ⟨hpr, spanLe_nil _⟩

theorem step_le {t : Tape} {m : Nat} (h : TapeLe t m) (sh : Bool) {pr : Nat} (hpr : pr ≤ m)
    (skip : Bool) : TapeLe (t.step sh pr skip).1 m := by
  unfold Tape.step
  cases sh
  · have := pull_le h.2.1 t.scan skip
    exact ⟨this.1, this.2, push_le h.2.2 hpr _⟩
  · have := pull_le h.2.2 t.scan skip
    exact ⟨this.1, push_le h.2.1 hpr _, this.2⟩

theorem run_le {p : Prog} {q : Nat} {t : Tape} {lim : Nat} {slot : Slot} {t' : Tape}
    (hq : q ≤ maxState p) (ht : TapeLe t (maxColor p))
    (h : runForUndefined p q t lim = (.undefined slot, t')) :
    TapeLe t' (maxColor p) ∧ slot.1 ≤ maxState p ∧ slot.2 ≤ maxColor p := by
  revert hq ht
  refine run_undefined_induction ?_ ?_ h
  · exact fun _ hsc hq ht => ⟨ht, hq, hsc ▸ ht.1⟩
  · intro q t c sh nx hg ih _ ht
    have hmem := Prog.mem_of_get hg
    exact ih (maxState_le_iff.mp (Nat.le_refl _) _ hmem).2
      (step_le ht sh (maxColor_le_iff.mp (Nat.le_refl _) _ hmem).2 _)

theorem mentioned_child {p : Prog} {q : Nat} {t : Tape} {lim : Nat} {slot : Slot} {t' : Tape}
    (hq : q ≤ maxState p) (ht : TapeLe t (maxColor p))
    (h : runForUndefined p q t lim = (.undefined slot, t')) (i : Instr) :
    slot.1 ≤ maxState (p.insert slot i) ∧ TapeLe t' (maxColor (p.insert slot i)) := by
  obtain ⟨ht', hs, _⟩ := run_le hq ht h
  rw [maxState_insert i (run_undefined_get h), maxColor_insert i (run_undefined_get h)]
  exact ⟨Nat.le_trans hs (Nat.le_max_left ..), ht'.mono (Nat.le_max_left ..)⟩

theorem prog0_get : prog0.get (1, 0) = none := rfl

theorem initProg_eq (i : Instr) : initProg i = prog0.insert (1, 0) i := rfl

theorem maxState_prog0 : maxState prog0 = 1 := rfl
theorem maxColor_prog0 : maxColor prog0 = 1 := rfl

/-- `A0 ↦ 1RB` run from the blank tape stops at `B0` on `Tape.initStepped`: the first state of
    every task is a child of the one-entry table, so what holds of children holds of it. -/
theorem run_prog0 : runForUndefined prog0 0 (Tape.init) 2 = (.undefined (1, 0), Tape.initStepped) :=
  rfl

theorem mentioned_root (i : Instr) :
    1 ≤ maxState (prog0.insert (1, 0) i) ∧
      TapeLe Tape.initStepped (maxColor (prog0.insert (1, 0) i)) :=
  mentioned_child (Nat.zero_le _) (tapeLe_init _) run_prog0 i

theorem growAvail_eq (a m s i : Nat) :
    growAvail a m s i = if a < m ∧ 1 + max s i = a then a + 1 else a := by
  simp only [growAvail, Bool.and_eq_true, decide_eq_true_eq, beq_iff_eq]

/-- The arithmetic of the counters.  `M` is the largest index mentioned before the latest
    instruction, with index `j`, was inserted, and the counter is `min S (2 + M)`.  At a slot with
    a mentioned index `s` the counter moves to `min S (2 + max M j)`. -/
theorem growAvail_min {S M s j : Nat} (hj : j < min S (2 + M)) (hs : s ≤ max M j) :
    growAvail (min S (2 + M)) S s j = min S (2 + max M j) := by
  rw [growAvail_eq]
  rcases Nat.lt_or_ge M j with h | h
  · -- `j = M + 1` was the last available index: the counter takes its one step, unless it is at `S`
    rw [Nat.max_eq_right (Nat.le_of_lt h)] at hs ⊢
    rw [Nat.max_eq_right hs]
    have hS : 2 + M ≤ S := by omega
    rw [Nat.min_eq_right hS] at hj ⊢
    split <;> omega
  · -- nothing new is mentioned and `1 + max s j` is below `2 + M`
    rw [Nat.max_eq_left h] at hs ⊢
    rw [if_neg]
    omega

/-- a counter `a` with bound `S`, the largest index `m` mentioned in the table and the index `j`
    of the latest instruction -/
def CounterInv (S a m j : Nat) : Prop := ∃ M, a = min S (2 + M) ∧ m = max M j ∧ j < a

theorem CounterInv.grow {S a m j s : Nat} (h : CounterInv S a m j) (hs : s ≤ m) :
    growAvail a S s j = min S (2 + m) := by
  obtain ⟨M, rfl, rfl, hj⟩ := h
  exact growAvail_min hj hs

theorem CounterInv.child {S m s i : Nat} (hs : s ≤ m) (hi : i < min S (2 + m)) :
    CounterInv S (min S (2 + m)) (max m (max s i)) i :=
  ⟨m, rfl, by rw [← Nat.max_assoc, Nat.max_eq_left hs], hi⟩

theorem lt_min_two_add {x S m : Nat} : x < min S (2 + m) ↔ x < S ∧ x ≤ m + 1 := by omega

/-- what holds of every node of the process: the counters follow the table; the machine state and
    the tape colours are mentioned. -/
structure NodeInv (S C : Nat) (n : Node) : Prop where
  states : CounterInv S n.availS (maxState n.prog) n.instr.2.2
  colors : CounterInv C n.availC (maxColor n.prog) n.instr.1
  state : n.state ≤ maxState n.prog
  tape : TapeLe n.tape (maxColor n.prog)

theorem nodeInv_root {S C : Nat} {i : Instr} (hi : i.2.2 < min 3 S ∧ i.1 < min 3 C) :
    NodeInv S C (rootNode S C i) where
  states := ⟨1, Nat.min_comm .., (maxState_insert i prog0_get).trans (Nat.max_assoc 1 1 _).symm,
    hi.1⟩
  colors := ⟨1, Nat.min_comm .., (maxColor_insert i prog0_get).trans
    (congrArg (max 1) (Nat.zero_max _)), hi.2⟩
  state := (mentioned_root i).1
  tape := (mentioned_root i).2

theorem grow_eq {S C : Nat} {n : Node} (inv : NodeInv S C n) {lim : Nat} {slot : Slot}
    {t' : Tape} (hrun : runForUndefined n.prog n.state n.tape lim = (.undefined slot, t')) :
    growAvail n.availS S slot.1 n.instr.2.2 = min S (2 + maxState n.prog) ∧
    growAvail n.availC C slot.2 n.instr.1 = min C (2 + maxColor n.prog) :=
  have ⟨_, hs1, hs2⟩ := run_le inv.state inv.tape hrun
  ⟨inv.states.grow hs1, inv.colors.grow hs2⟩

theorem offers_iff_avail {S C : Nat} {n : Node} (inv : NodeInv S C n) {lim : Nat} {slot : Slot}
    {t' : Tape} (hrun : runForUndefined n.prog n.state n.tape lim = (.undefined slot, t'))
    (i : Instr) : n.Offers (S, C) slot i ↔ Avail S C n.prog i := by
  unfold Node.Offers Avail
  rw [(grow_eq inv hrun).1, (grow_eq inv hrun).2, lt_min_two_add, lt_min_two_add]

theorem nodeInv_child {S C : Nat} {n : Node} (inv : NodeInv S C n) {lim : Nat} {slot : Slot}
    {t' : Tape} (hrun : runForUndefined n.prog n.state n.tape lim = (.undefined slot, t'))
    {i : Instr} (hoff : n.Offers (S, C) slot i) : NodeInv S C (n.child (S, C) slot t' i) := by
  have hnone := run_undefined_get hrun
  obtain ⟨_, hs1, hs2⟩ := run_le inv.state inv.tape hrun
  obtain ⟨hm1, hm2⟩ := mentioned_child inv.state inv.tape hrun i
  unfold Node.Offers at hoff
  unfold Node.child
  rw [(grow_eq inv hrun).1, (grow_eq inv hrun).2] at hoff ⊢
  exact ⟨maxState_insert i hnone ▸ .child hs1 hoff.1, maxColor_insert i hnone ▸ .child hs2 hoff.2,
    hm1, hm2⟩

theorem procFrom_iff_specFrom {S C lim : Nat} {n : Node} (inv : NodeInv S C n) (k : Nat)
    (r : Prog) :
    ProcFrom (S, C) lim n k r ↔ SpecFrom S C lim n.prog n.state n.tape k r := by
  constructor
  · intro h
    induction h with
    | stop hno => exact .stop hno
    | last hrun hoff => exact .last hrun ((offers_iff_avail inv hrun _).mp hoff)
    | fill hrun hoff _ ih =>
      exact .fill hrun ((offers_iff_avail inv hrun _).mp hoff) (ih (nodeInv_child inv hrun hoff))
  · intro h
    obtain ⟨instr, p, q, t, aS, aC⟩ := n
    dsimp only at h
    induction h generalizing instr aS aC with
    | stop hno => exact .stop hno
    | last hrun hav => exact .last hrun ((offers_iff_avail inv hrun _).mpr hav)
    | fill hrun hav _ ih =>
      have hoff := (offers_iff_avail inv hrun _).mpr hav
      exact .fill hrun hoff (ih _ _ _ (nodeInv_child inv hrun hoff))

end BB.Tree
