/-
C10 support: for `S, C ≥ 2` every table of the declarative process lies inside the `S × C` table,
is strictly sorted (the `BTreeMap` invariant) and has no shadowed key; hence two results that agree
as tables (as printed) are equal.  For `S = 1` or `C = 1` this fails (`Props/C10.lean`).
-/
import BB.Lemmas.TreeGenAvail
import BB.Lemmas.Parse

namespace BB.Tree

open BB

def NoShadow (p : Prog) : Prop := ∀ kv ∈ p, p.get kv.1 = some kv.2

theorem noShadow_insert {p : Prog} {s : Slot} (i : Instr) (h : NoShadow p) (hn : p.get s = none) :
    NoShadow (p.insert s i) := by
  intro kv hkv
  rcases (Prog.mem_insert_iff hn).mp hkv with rfl | hm
  · exact Prog.get_insert_self ..
  · rw [Prog.get_insert_ne _ _ _ _ fun e => by rw [e, h kv hm] at hn; cases hn]
    exact h kv hm

theorem inTable_iff {S C : Nat} {p : Prog} (hS : 1 ≤ S) (hC : 1 ≤ C) :
    InTable S C p ↔ maxState p < S ∧ maxColor p < C := by
  obtain ⟨S, rfl⟩ : ∃ n, S = n + 1 := ⟨S - 1, by omega⟩
  obtain ⟨C, rfl⟩ : ∃ n, C = n + 1 := ⟨C - 1, by omega⟩
  simp only [InTable, Nat.lt_succ_iff, maxState_le_iff, maxColor_le_iff]
  exact ⟨fun h => ⟨fun kv hkv => ⟨(h kv hkv).1, (h kv hkv).2.2.2⟩,
      fun kv hkv => ⟨(h kv hkv).2.1, (h kv hkv).2.2.1⟩⟩,
    fun h kv hkv => ⟨(h.1 kv hkv).1, (h.2 kv hkv).1, (h.2 kv hkv).2, (h.1 kv hkv).2⟩⟩

theorem InTable.get_eq_none {S C : Nat} {p : Prog} (h : InTable S C p) {s : Slot}
    (hs : ¬(s.1 < S ∧ s.2 < C)) : p.get s = none := by
  cases hg : p.get s with
  | none => rfl
  | some v =>
    have := h _ (Prog.mem_of_get hg)
    exact absurd ⟨this.1, this.2.1⟩ hs

/-- invariant of the states `(p, q, t)` of the declarative process -/
structure SpecInv (S C : Nat) (p : Prog) (q : Nat) (t : Tape) : Prop where
  inTable : InTable S C p
  noShadow : NoShadow p
  sorted : Parse.Sorted p
  state : q ≤ maxState p
  tape : TapeLe t (maxColor p)

theorem specInv_start {S C : Nat} (hS : 2 ≤ S) (hC : 2 ≤ C) : SpecInv S C prog0 0 Tape.init where
  inTable := (inTable_iff (Nat.le_of_lt hS) (Nat.le_of_lt hC)).mpr ⟨hS, hC⟩
  noShadow := fun _ hkv => List.mem_singleton.mp hkv ▸ rfl
  sorted := List.pairwise_singleton ..
  state := Nat.zero_le _
  tape := tapeLe_init _

theorem specInv_step {S C : Nat} (hS : 1 ≤ S) (hC : 1 ≤ C) {p : Prog} {q : Nat} {t : Tape}
    (inv : SpecInv S C p q t) {lim : Nat} {slot : Slot} {t' : Tape}
    (hrun : runForUndefined p q t lim = (.undefined slot, t')) {i : Instr} (hi : Avail S C p i) :
    SpecInv S C (p.insert slot i) slot.1 t' := by
  have hnone := run_undefined_get hrun
  obtain ⟨_, hs1, hs2⟩ := run_le inv.state inv.tape hrun
  obtain ⟨hm1, hm2⟩ := mentioned_child inv.state inv.tape hrun i
  obtain ⟨hmS, hmC⟩ := (inTable_iff hS hC).mp inv.inTable
  refine ⟨(inTable_iff hS hC).mpr ?_, noShadow_insert i inv.noShadow hnone,
    Parse.sorted_insert _ _ _ inv.sorted, hm1, hm2⟩
  rw [maxState_insert i hnone, maxColor_insert i hnone]
  exact ⟨Nat.max_lt.mpr ⟨hmS, Nat.max_lt.mpr ⟨Nat.lt_of_le_of_lt hs1 hmS, hi.1.1⟩⟩,
    Nat.max_lt.mpr ⟨hmC, Nat.max_lt.mpr ⟨Nat.lt_of_le_of_lt hs2 hmC, hi.2.1⟩⟩⟩

theorem specFrom_invariant {S C lim : Nat} {I : Prog → Nat → Tape → Prop}
    (step : ∀ {p q t slot t' i}, I p q t → runForUndefined p q t lim = (.undefined slot, t') →
      Avail S C p i → I (p.insert slot i) slot.1 t')
    {p : Prog} {q : Nat} {t : Tape} {k : Nat} {r : Prog} (h : SpecFrom S C lim p q t k r)
    (h0 : I p q t) : ∃ q' t', I r q' t' := by
  induction h with
  | stop _ => exact ⟨_, _, h0⟩
  | last hrun hav => exact ⟨_, _, step h0 hrun hav⟩
  | fill hrun hav _ ih => exact ih (step h0 hrun hav)

/-- Induction over the declarative process.  Its first state is itself a child of the one-entry
    table (`run_prog0`), so `start` is about `prog0` on the blank tape. -/
theorem specRaw_invariant {S C : Nat} {I : Prog → Nat → Tape → Prop} (start : I prog0 0 Tape.init)
    (step : ∀ {p q t lim slot t' i}, I p q t → runForUndefined p q t lim = (.undefined slot, t') →
      Avail S C p i → I (p.insert slot i) slot.1 t')
    {halt : Bool} {lim : Nat} {p : Prog} (h : SpecRaw S C halt lim p) : ∃ q t, I p q t :=
  have ⟨_, hi, hf⟩ := h
  specFrom_invariant step hf (step start run_prog0 hi)

/-- what `SpecInv` leaves for a final table -/
structure TableOk (S C : Nat) (p : Prog) : Prop where
  inTable : InTable S C p
  noShadow : NoShadow p
  sorted : Parse.Sorted p

theorem specRaw_tableOk {S C : Nat} (hS : 2 ≤ S) (hC : 2 ≤ C) {halt : Bool} {lim : Nat} {p : Prog}
    (h : SpecRaw S C halt lim p) : TableOk S C p :=
  have ⟨_, _, inv⟩ := specRaw_invariant (specInv_start hS hC)
    (fun inv hrun hav => specInv_step (Nat.le_of_lt hS) (Nat.le_of_lt hC) inv hrun hav) h
  ⟨inv.inTable, inv.noShadow, inv.sorted⟩

theorem TableOk.ext {S C : Nat} {p p' : Prog} (hp : TableOk S C p) (hp' : TableOk S C p')
    (h : ∀ q c, q < S → c < C → p.get (q, c) = p'.get (q, c)) : p = p' := by
  refine Parse.sorted_ext p p' hp.sorted hp'.sorted (fun s => ?_)
  by_cases hs : s.1 < S ∧ s.2 < C
  · exact h s.1 s.2 hs.1 hs.2
  · rw [hp.inTable.get_eq_none hs, hp'.inTable.get_eq_none hs]

/-- inside the table the filter means what it says: an instruction *into the last state* and an
    instruction *printing the last colour* -/
theorem usesLast_exact {S C : Nat} {p : Prog} (h : InTable S C p) (hu : UsesLast S C p) :
    (∃ kv ∈ p, kv.2.2.2 = S - 1) ∧ (∃ kv ∈ p, kv.2.1 = C - 1) :=
  have ⟨⟨kv, hkv, h1⟩, ⟨kv', hkv', h2⟩⟩ := hu
  ⟨⟨kv, hkv, Nat.le_antisymm (Nat.le_sub_one_of_lt (h kv hkv).2.2.2) (Nat.sub_le_of_le_add h1)⟩,
    ⟨kv', hkv', Nat.le_antisymm (Nat.le_sub_one_of_lt (h kv' hkv').2.2.1) (Nat.sub_le_of_le_add h2)⟩⟩

end BB.Tree
