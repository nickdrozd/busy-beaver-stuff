/-
Simulation of the model of the Python runner (`BB.PyM.pyRun`) by the model of the Rust runner
(`runProver`), under the no-divergence condition `pyRunAgrees`.  The loop states are related by
`Rel`: same tape, prover, state and rule applications, Python's step counter undefined or equal to
Rust's, and the blank records alike up to that.  One iteration keeps `Rel` or leaves what the
property speaks of (`IterRel`).
-/
import BB.Model.PyMachine

namespace BB.PyM

open BB

/-- the Python outcome kind an outcome of the Rust runner corresponds to (`none` for the Rust
    runner's own limits) -/
def rsKind : TermRes → Option PyKind
  | .xlimit => some .xlimit
  | .infrul => some .infrul
  | .spnout => some .spnout
  | .undfnd => some .undfnd
  | .cfglim => none
  | .mulrul => none
  | .overflow => none

/-- the Rust runner ended in one of its own declared limits -/
def rsLimit (r : MachineResult) : Bool :=
  r.result == .cfglim || r.result == .mulrul || r.result == .overflow

/-- same blank-tape record: the same states in the same order, and the same recorded step wherever
    the Python step counter is still defined (it is -1 after the first rule application) -/
def BlanksAgree : PyBlanks → Blanks → Prop
  | [], [] => True
  | (q, n) :: a, (q', n') :: b => q = q' ∧ (n = -1 ∨ n = Int.ofNat n') ∧ BlanksAgree a b
  | _, _ => False

/-- the fields C17 compares: outcome kind, non-blank cells, rule applications, blank record -/
def RunAgree (r : PyResult) (r' : MachineResult) : Prop :=
  rsKind r'.result = some r.kind ∧ r.marks = r'.marks ∧ r.rulapp = r'.rulapp
    ∧ BlanksAgree r.blanks r'.blanks

/-- the two step counters: Python's is undefined (-1) or equal to Rust's -/
def StepsAgree (n : Int) (n' : Nat) : Prop := n = -1 ∨ n = Int.ofNat n'

/-- the simulation relation between the loop states -/
structure Rel (s : PyState) (s' : PState) : Prop where
  tape   : s.tape = s'.tape
  prover : s.prover = s'.prover
  state  : s.state = s'.state
  rulapp : s.rulapp = s'.rulapp
  blanks : BlanksAgree s.blanks s'.blanks
  steps  : StepsAgree s.step s'.steps

theorem rel_init : Rel PyState.init PState.init :=
  ⟨rfl, rfl, rfl, rfl, trivial, Or.inr rfl⟩

theorem rsLimit_of_rsKind_none {r' : MachineResult} (h : rsKind r'.result = none) :
    rsLimit r' = true := by
  unfold rsLimit
  match r'.result, h with
  | .cfglim, _ | .mulrul, _ | .overflow, _ => rfl

/-- `if step != -1: step += stepped` against `steps += stepped` -/
theorem stepsAgree_add {n : Int} {n' : Nat} (h : StepsAgree n n') (k : Nat) :
    StepsAgree (if n != -1 then n + (k : Int) else n) (n' + k) := by
  rcases h with rfl | rfl
  · exact Or.inl rfl
  · have hne : (Int.ofNat n' != -1) = true := by
      simp only [bne_iff_ne, ne_eq, Int.ofNat_eq_natCast]; omega
    rw [if_pos hne]
    exact Or.inr (Int.natCast_add n' k).symm

theorem blanks_contains {a : PyBlanks} {b : Blanks} (h : BlanksAgree a b) (q : Nat) :
    a.contains q = b.contains q := by
  induction a generalizing b with
  | nil =>
    cases b with
    | nil => rfl
    | cons y ys => exact h.elim      -- lists of different shapes: `BlanksAgree` is `False` by definition
  | cons x xs ih =>
    cases b with
    | nil => exact h.elim
    | cons y ys =>
      show (x.1 == q || PyBlanks.contains xs q) = (y.1 == q || Blanks.contains ys q)
      rw [h.1, ih h.2.2]

theorem blanks_insert {a : PyBlanks} {b : Blanks} (h : BlanksAgree a b) (q : Nat) {n : Int}
    {n' : Nat} (hn : StepsAgree n n') : BlanksAgree (a.insert q n) (b.insert q n') := by
  induction a generalizing b with
  | nil =>
    cases b with
    | nil => exact ⟨rfl, hn, trivial⟩
    | cons y ys => exact h.elim
  | cons x xs ih =>
    cases b with
    | nil => exact h.elim
    | cons y ys =>
      obtain ⟨k, v⟩ := x
      obtain ⟨k', v'⟩ := y
      obtain ⟨rfl, hv, hr⟩ := h
      unfold PyBlanks.insert Blanks.insert
      by_cases h1 : (k == q) = true
      · rw [if_pos h1, if_pos h1]
        exact ⟨rfl, hn, hr⟩
      · rw [if_neg h1, if_neg h1]
        by_cases h2 : q < k
        · rw [if_pos h2, if_pos h2]
          exact ⟨rfl, hn, rfl, hv, hr⟩
        · rw [if_neg h2, if_neg h2]
          exact ⟨rfl, hv, ih hr⟩

theorem u64Ck_ok {x y : Nat} (h : u64Ck x = .ok y) : y = x := by
  unfold u64Ck at h
  split at h
  · cases h
  · injection h with h; exact h.symm

theorem stepCk_ok {t : Tape} {d : Bool} {c : Nat} {sk : Bool} {r : Tape × Nat}
    (h : t.stepCk d c sk = .ok r) : t.step d c sk = r := by
  unfold Tape.stepCk at h
  generalize t.step d c sk = q at h
  obtain ⟨t', k⟩ := q
  simp only [] at h
  split at h
  · cases h
  · split at h
    · split at h
      · cases h
      · injection h
    · injection h

theorem mkProverResult_ok {res : TermRes} {ls : Option Slot} {c : Nat} {s' : PState}
    {r' : MachineResult} (h : mkProverResult res ls c s' = .ok r') :
    r'.result = res ∧ r'.marks = s'.tape.marks ∧ r'.rulapp = s'.rulapp ∧ r'.blanks = s'.blanks := by
  unfold mkProverResult at h
  split at h
  · cases h
  · next m hm =>
    obtain rfl := u64Ck_ok hm
    injection h with h
    subst h
    exact ⟨rfl, rfl, rfl, rfl⟩

theorem mkPyOutcome_ok {kind : PyKind} {ls : Option Slot} {c : Nat} {s : PyState} {r : PyResult}
    (h : mkPyOutcome kind ls c s = .ok r) :
    r.kind = kind ∧ r.marks = s.tape.marks ∧ r.rulapp = s.rulapp ∧ r.blanks = s.blanks := by
  unfold mkPyOutcome at h
  split at h
  · cases h
  · injection h with h
    subst h
    exact ⟨rfl, rfl, rfl, rfl⟩

/-- how one loop iteration of the Python model relates to one of the Rust model: either one of
    them leaves what the property speaks of (a Python stop, a Rust panic or overflow, a Rust limit
    outcome), or both end with corresponding kinds in related states, or both go on in related
    states -/
inductive IterRel : PyIter → PStep → Prop
  | pyFail {e : PyStop} {x : PStep} : IterRel (.fail e) x
  | rsFail {x : PyIter} {e : PErr} : IterRel x (.fail e)
  | rsLimit {x : PyIter} {res : TermRes} {ls : Option Slot} {c : Bool} {s' : PState}
      (h : rsKind res = none) : IterRel x (.done res ls c s')
  | done {kind : PyKind} {res : TermRes} {ls ls' : Option Slot} {c : Bool} {s : PyState}
      {s' : PState} (hk : rsKind res = some kind) (hr : Rel s s') :
      IterRel (.done kind ls s) (.done res ls' c s')
  | cont {s : PyState} {s' : PState} {app : Option RuleApp} (hr : Rel s s') :
      IterRel (.cont s) (.cont s' app)

theorem stepIter_rel (p : Prog) {s : PyState} {s' : PState} (hr : Rel s s')
    (hs : (match p.get (s.state, s.tape.scan) with
        | some (color, shift, next) => stepAgree s.tape shift color (s.state == next)
        | none => true) = true) :
    IterRel (pyStepIter p s) (proverStepIter p s') := by
  unfold pyStepIter proverStepIter
  rw [← hr.tape, ← hr.state]
  cases hg : p.get (s.state, s.tape.scan) with
  | none => exact .done rfl hr
  | some ins =>
    obtain ⟨color, shift, next⟩ := ins
    rw [hg] at hs
    simp only [stepAgree, beq_iff_eq] at hs
    simp only []
    by_cases hsp : (s.state == next && s.tape.atEdge shift) = true
    · rw [if_pos hsp, if_pos hsp]
      exact .done rfl hr
    · rw [if_neg hsp, if_neg hsp]
      cases hck : s.tape.stepCk shift color (s.state == next) with
      | error e => exact .rsFail
      | ok ts =>
        obtain ⟨tape', stepped⟩ := ts
        rw [hs, stepCk_ok hck]
        simp only []
        cases hu : u64Ck (s'.steps + stepped) with
        | error e => exact .rsFail
        | ok steps' =>
          obtain rfl := u64Ck_ok hu
          have hst := stepsAgree_add hr.steps stepped
          have hb' := blanks_insert hr.blanks next hst
          simp only [blanks_contains hr.blanks next]
          by_cases hbl : (color == 0 && tape'.blank) = true
          · rw [if_pos hbl, if_pos hbl]
            by_cases hc : s'.blanks.contains next = true
            · rw [if_pos hc, if_pos hc]
              exact .done rfl ⟨rfl, hr.prover, rfl, hr.rulapp, hr.blanks, hst⟩
            · rw [if_neg hc, if_neg hc]
              by_cases hz : (next == 0) = true
              · rw [if_pos hz, if_pos hz]
                exact .done rfl ⟨rfl, hr.prover, rfl, hr.rulapp, hb', hst⟩
              · rw [if_neg hz, if_neg hz]
                exact .cont ⟨rfl, hr.prover, rfl, hr.rulapp, hb', hst⟩
          · rw [if_neg hbl, if_neg hbl]
            exact .cont ⟨rfl, hr.prover, rfl, hr.rulapp, hr.blanks, hst⟩

theorem tryAgree_eq {pv : Prover} {p : Prog} {cycle state : Nat} {tape : Tape}
    (h : tryAgree pv p cycle state tape = true)
    {a : PyTry} {pv1 : Prover} {b : Option ProverResult} {pv2 : Prover}
    (h1 : pyTryRule pv p cycle state tape = .ok (a, pv1))
    (h2 : Prover.tryRule pv p cycle state tape = .ok (b, pv2)) :
    b = some .multRule ∨ (a.toRs = b ∧ pv1 = pv2) := by
  unfold tryAgree at h
  rw [h1, h2] at h
  simpa using h

theorem applyAgree_eq {t : Tape} {rule : Rule} (h : applyAgree t rule = true)
    {a : Option Nat} {t1 : Tape} {rd : List Index} {b : Option Nat} {t2 : Tape}
    (h1 : pyApplyRule t rule = .ok (a, t1, rd)) (h2 : applyRule t rule = .ok (b, t2)) :
    a = b ∧ t1 = t2 := by
  unfold applyAgree at h
  rw [h1, h2] at h
  simpa using h

theorem pyApplyRule_none {t : Tape} {rule : Rule} {t1 : Tape} {rd : List Index}
    (h : pyApplyRule t rule = .ok (none, t1, rd)) : t1 = t := by
  unfold pyApplyRule at h
  split at h
  · cases h
  · injection h with h; injection h with _ h; injection h with h _; exact h.symm
  · split at h
    · cases h
    · injection h with h; injection h with h _; cases h

theorem iter_rel (p : Prog) (cycle : Nat) {s : PyState} {s' : PState} (hr : Rel s s')
    (ha : iterAgree p cycle s = true) :
    IterRel (pyIter p cycle s) (proverIter p cycle s') := by
  simp only [iterAgree, Bool.and_eq_true] at ha
  obtain ⟨⟨hta, haa⟩, hsa⟩ := ha
  -- the Rust state is the Python one, but for the step counter and the blank record
  obtain ⟨ht, hp, hst, hra, hb, hsteps⟩ := hr
  obtain ⟨t', pv', st', steps', ra', bl'⟩ := s'
  simp only [] at ht hp hst hra hb hsteps
  subst ht hp hst hra
  have hrel : ∀ pv, Rel { s with prover := pv } ⟨s.tape, pv, s.state, steps', s.rulapp, bl'⟩ :=
    fun pv => ⟨rfl, rfl, rfl, rfl, hb, hsteps⟩
  unfold pyIter proverIter
  simp only []
  cases h1 : pyTryRule s.prover p cycle s.state s.tape with
  | error e => exact .pyFail
  | ok r1 =>
    obtain ⟨a, pv1⟩ := r1
    cases h2 : Prover.tryRule s.prover p cycle s.state s.tape with
    | error e => exact .rsFail
    | ok r2 =>
      obtain ⟨b, pv2⟩ := r2
      rcases tryAgree_eq hta h1 h2 with rfl | ⟨rfl, rfl⟩
      · exact .rsLimit rfl
      · cases a with
        | none => exact stepIter_rel p (hrel pv1) hsa
        | infinite => exact .done rfl (hrel pv1)
        | configLimit => exact .rsLimit rfl
        | got rule =>
          rw [h1] at haa
          simp only [PyTry.toRs]
          cases h3 : pyApplyRule s.tape rule with
          | error e => exact .pyFail
          | ok r3 =>
            obtain ⟨x, t1, rd⟩ := r3
            cases h4 : applyRule s.tape rule with
            | error e => exact .rsFail
            | ok r4 =>
              obtain ⟨y, t2⟩ := r4
              obtain ⟨rfl, rfl⟩ := applyAgree_eq haa h3 h4
              cases x with
              | none => exact stepIter_rel p (hrel pv1) hsa
              | some times =>
                simp only []
                cases h5 : u64Ck (s.rulapp + times) with
                | error e => exact .rsFail
                | ok rulapp' =>
                  obtain rfl := u64Ck_ok h5
                  exact .cont ⟨rfl, rfl, rfl, rfl, hb, Or.inl rfl⟩

theorem done_agree {kind : PyKind} {res : TermRes} {ls ls' : Option Slot} {c c' : Nat}
    {s : PyState} {s' : PState} (hk : rsKind res = some kind) (hr : Rel s s')
    {r : PyResult} {r' : MachineResult}
    (h1 : mkPyOutcome kind ls c s = .ok r) (h2 : mkProverResult res ls' c' s' = .ok r') :
    RunAgree r r' := by
  obtain ⟨a1, a2, a3, a4⟩ := mkPyOutcome_ok h1
  obtain ⟨b1, b2, b3, b4⟩ := mkProverResult_ok h2
  refine ⟨?_, ?_, ?_, ?_⟩
  · rw [b1, a1]; exact hk
  · rw [a2, b2, hr.tape]
  · rw [a3, b3, hr.rulapp]
  · rw [a4, b4]; exact hr.blanks

theorem loop_agree (p : Prog) : ∀ (fuel cycle : Nat) (s : PyState) (s' : PState)
    (acc : List RuleApp) (r : PyResult) (r' : MachineResult),
    Rel s s' → agreeLoop p fuel cycle s = true → pyLoop p fuel cycle s = .ok r →
    (proverLoop p fuel cycle s' acc).1 = .ok r' → rsLimit r' = false → RunAgree r r' := by
  intro fuel
  induction fuel with
  | zero =>
    intro cycle s s' acc r r' hr _ h1 h2 _
    exact done_agree rfl hr h1 h2
  | succ fuel ih =>
    intro cycle s s' acc r r' hr ha h1 h2 hl
    simp only [agreeLoop, Bool.and_eq_true] at ha
    have hi := iter_rel p cycle hr ha.1
    simp only [pyLoop] at h1
    simp only [proverLoop] at h2
    generalize pyIter p cycle s = x at hi h1 ha
    generalize proverIter p cycle s' = y at hi h2
    cases hi with
    | @pyFail e _ => cases e <;> cases h1
    | rsFail => cases h2
    | rsLimit hk =>
      rw [← (mkProverResult_ok h2).1] at hk
      rw [rsLimit_of_rsKind_none hk] at hl
      cases hl
    | done hk hr2 => exact done_agree hk hr2 h1 h2
    | cont hr2 => exact ih (cycle + 1) _ _ _ r r' hr2 ha.2 h1 h2 hl

/-- the run clause for the two models, under the no-divergence condition -/
theorem run_agree (p : Prog) (lim : Nat) (r : PyResult) (r' : MachineResult)
    (h1 : pyRun p lim = .ok r) (ha : pyRunAgrees p lim = true)
    (h2 : runProver p lim = .ok r') (hl : rsLimit r' = false) : RunAgree r r' := by
  unfold pyRun at h1
  split at h1
  · cases h1
  · exact loop_agree p lim 0 _ _ [] r r' rel_init ha h1 h2 hl

end BB.PyM
