/-
C05 — segment analysis.  The invariant of the search loop (`SInv`): the explored configurations
are closed under stepping inside the window, under `branch_in`/`branch_out` (up to marks), every
goal point met is recorded, every mark belongs to an explored or a pending configuration.  Goals
`halt` and `spinout`.  One iteration of the search keeps it; a search that ends with an empty stack
leaves a closed explored set (`searchLoop_closed`).
-/
import BB.Lemmas.SegWindowTape

namespace BB.Segment

open BB

/-- closure properties of the explored set `E` -/
structure ClosInv (ap : AnalyzedProg) (goal : Term) (seg : Nat) (E : Core → Prop) (cs : Configs) :
    Prop where
  eGood : ∀ X, E X → Good seg X.2
  eStep : ∀ X Y, E X → cstep ap.prog X = some Y → E Y
  eEdge : ∀ X Z, E X → X.2.scan = none → EdgeSucc ap X Z → Marked cs Z
  eGoalIn : ∀ X, E X → GoalIn ap.prog goal X → Recorded cs X
  eGoalEdge : ∀ X, E X → GoalEdge ap goal X → Recorded cs X

/-- every mark belongs to an explored or a pending configuration -/
structure MarkInv (seg : Nat) (E : Core → Prop) (cs : Configs) : Prop where
  mSeen : ∀ q t, SHas cs.seen q t → E (q, t) ∨ ∃ c ∈ cs.todo, c.core = (q, t)
  mBlank : ∀ q pos, DHas cs.blanks q pos → ∃ t, Good seg t ∧ Tape.blank t = true ∧
    Tape.pos t = pos ∧ (E (q, t) ∨ ∃ c ∈ cs.todo, c.core = (q, t))
  todoGood : ∀ c ∈ cs.todo, Good seg c.tape

structure SInv (ap : AnalyzedProg) (goal : Term) (seg : Nat) (K : Nat → Prop) (E : Core → Prop)
    (cs : Configs) : Prop where
  segEq : cs.seg = seg
  clos : ClosInv ap goal seg E cs
  mark : MarkInv seg E cs
  rLen : ∀ q r, dictGet cs.reached q = some r → r.length < seg
  keys : ∀ q, K q → (dictGet cs.reached q).isSome = true

theorem ClosInv.grow {ap : AnalyzedProg} {goal : Term} {seg : Nat} {E : Core → Prop}
    {c c' : Configs} (h : ClosInv ap goal seg E c) (hg : Grow c c') : ClosInv ap goal seg E c' :=
  ⟨h.eGood, h.eStep, fun X Z hX hs he => (h.eEdge X Z hX hs he).grow hg,
    fun X hX hgi => hg.recd X (h.eGoalIn X hX hgi), fun X hX hge => hg.recd X (h.eGoalEdge X hX hge)⟩

theorem MarkInv.mono {seg : Nat} {E E' : Core → Prop} {c c' : Configs} (h : MarkInv seg E c)
    (hown : ∀ Z, (E Z ∨ ∃ x ∈ c.todo, x.core = Z) → E' Z ∨ ∃ x ∈ c'.todo, x.core = Z)
    (hseen : ∀ q t, SHas c'.seen q t →
      SHas c.seen q t ∨ E' (q, t) ∨ ∃ x ∈ c'.todo, x.core = (q, t))
    (hblanks : ∀ q pos, DHas c'.blanks q pos → DHas c.blanks q pos ∨
      ∃ t, Good seg t ∧ Tape.blank t = true ∧ Tape.pos t = pos ∧
        (E' (q, t) ∨ ∃ x ∈ c'.todo, x.core = (q, t)))
    (htodo : ∀ x ∈ c'.todo, x ∈ c.todo ∨ Good seg x.tape) : MarkInv seg E' c' :=
  ⟨fun q t hs => (hseen q t hs).elim (fun h' => hown _ (h.mSeen q t h')) id,
    fun q p hd => (hblanks q p hd).elim
      (fun h' => let ⟨t, t1, t2, t3, t4⟩ := h.mBlank q p h'; ⟨t, t1, t2, t3, hown _ t4⟩) id,
    fun x hx => (htodo x hx).elim (h.todoGood x) id⟩

theorem MarkInv.ext {seg : Nat} {E : Core → Prop} {c c' : Configs} (h : MarkInv seg E c)
    (he : Ext seg c c') : MarkInv seg E c' := by
  refine h.mono (fun Z hZ => hZ.imp id fun ⟨x, hx, hc⟩ => ⟨x, he.todoMono x hx, hc⟩)
    (fun q t hs => (he.seenNew q t hs).imp id Or.inr) (fun q p hd => ?_) he.todoNew
  refine (he.blanksNew q p hd).imp id fun ⟨x, hx, h1, h2, h3⟩ => ?_
  exact ⟨x.tape, (he.todoNew x hx).elim (h.todoGood x) id, h2, h3,
    Or.inr ⟨x, hx, by rw [Config.core, h1]⟩⟩

theorem MarkInv.reach {seg : Nat} {K : Nat → Prop} {E : Core → Prop} {c c' : Configs}
    (h : MarkInv seg E c) (hf : ReachFrame seg K c c') : MarkInv seg E c' :=
  ⟨fun q t hs => by rw [hf.todo]; rw [hf.seen] at hs; exact h.mSeen q t hs,
    fun q p hd => by rw [hf.todo]; rw [hf.blanks] at hd; exact h.mBlank q p hd,
    fun x hx => by rw [hf.todo] at hx; exact h.todoGood x hx⟩

theorem edgeBranch_ext (ap : AnalyzedProg) (seg : Nat) (config : Config) (cmid cs2 : Configs)
    (hgood : Good seg config.tape) (h : edgeBranch ap config cmid = .ok (.cont cs2)) :
    Ext seg cmid cs2 ∧ ∀ Z, EdgeSucc ap config.core Z → Marked cs2 Z := by
  obtain ⟨diffs, dirs, side, c3, hbr, hsd, hin, rfl⟩ := edgeBranch_cont h
  obtain ⟨e3, e4⟩ := foldl_markStep_ext rfl hgood diffs c3
  have hin' : Ext seg cmid c3 ∧ ∀ nt, Tape.stepIn config.tape (!side) = some nt →
      ∀ s ∈ Dirs.get dirs (!side), Marked c3 (s, nt) := by
    rcases hin with ⟨hsi, rfl⟩ | ⟨nt, hsi, rfl⟩
    · exact ⟨Ext.refl _ _, fun nt h' => by rw [hsi] at h'; cases h'⟩
    · obtain ⟨hg', hb'⟩ := Tape.stepIn_good hgood hsi
      obtain ⟨e1, e2⟩ := foldl_markStep_ext hb'.symm hg' (Dirs.get dirs (!side)) cmid
      exact ⟨e1, fun nt' h' => by cases hsi.symm.trans h'; exact e2⟩
  refine ⟨hin'.1.trans e3, ?_⟩
  rintro Z ⟨diffs', dirs', hd', hz⟩
  rw [Config.core, hbr, Option.some.injEq, Prod.mk.injEq] at hd'
  obtain ⟨rfl, rfl⟩ := hd'
  rcases hz with ⟨hz1, hz2⟩ | ⟨side', hs', hz1, hz2⟩
  · have hZ : Z = (Z.1, config.tape) := Prod.ext rfl hz2
    rw [hZ]
    exact e4 Z.1 hz1
  · rw [Config.core, hsd, Option.some.injEq] at hs'
    subst hs'
    exact (hin'.2 Z.2 hz2 Z.1 hz1).grow e3.grow

theorem edgeStep_spec3 (ap : AnalyzedProg) (goal : Term) (hg : goal ≠ .blank) (seg : Nat)
    (K : Nat → Prop) (config : Config) (cfm cs2 : Configs) (hseg : cfm.seg = seg)
    (hgood : Good seg config.tape)
    (h : edgeStep ap goal config cfm = .ok (.cont cs2)) :
    ∃ cmid, ReachFrame seg K cfm cmid ∧ Ext seg cmid cs2 ∧
      ((∀ q r, dictGet cfm.reached q = some r → r.length < seg) →
        ∀ q r, dictGet cs2.reached q = some r → r.length < seg) ∧
      (GoalEdge ap goal config.core → Recorded cs2 config.core) ∧
      (∀ Z, EdgeSucc ap config.core Z → Marked cs2 Z) := by
  rw [edgeStep_eq] at h
  cases hgt : goalTapeOf ap goal config with
  | error e => rw [hgt] at h; cases h
  | ok gt =>
    rw [hgt] at h
    dsimp only at h
    cases gt with
    | false =>
      rw [if_neg Bool.false_ne_true, if_neg Bool.false_ne_true] at h
      obtain ⟨e1, e2⟩ := edgeBranch_ext ap seg config cfm cs2 hgood h
      refine ⟨cfm, ReachFrame.refl _ _ _, e1, fun hl q r hr => hl q r (e1.reached ▸ hr), ?_, e2⟩
      intro hge
      have : goalTapeOf ap goal config = .ok true := hge.2
      rw [hgt] at this
      cases this
    | true =>
      rw [if_pos rfl] at h
      obtain ⟨cr1, cr2, cr3, _⟩ := checkReached_spec hg seg K cfm config hseg
      cases hhit : (Configs.checkReached cfm config goal).1 with
      | true => rw [hhit, if_pos rfl] at h; cases h
      | false =>
        rw [hhit, if_neg Bool.false_ne_true] at h
        obtain ⟨e1, e2⟩ := edgeBranch_ext ap seg config _ cs2 hgood h
        exact ⟨_, cr1, e1, fun hl q r hr => cr3 hhit hl q r (e1.reached ▸ hr),
          fun _ => e1.grow.recd _ cr2, e2⟩

/-- explored set after one more root has been processed -/
def EPlus (prog : Prog) (E : Core → Prop) (X : Core) : Core → Prop := fun Z => E Z ∨ Orbit prog X Z

/-- The bookkeeping goes from `cs1` to `cs2` by what `run_to_edge` did (`P`, `hc`), then a
    `check_reached` (`e1`), then the marking at the edge (`e2`). -/
theorem SInv.add_root {ap : AnalyzedProg} {goal : Term} {seg : Nat} {K : Nat → Prop}
    {E : Core → Prop} {X : Config} {cs1 cs2 : Configs} {out : RunOut}
    (hinv : SInv ap goal seg K E (Configs.addTodo cs1 X))
    (P : RunPost3 ap.prog goal seg K X.core cs1 out)
    (hc : RunClosed ap.prog goal seg X.core out)
    {cmid : Configs} (e1 : ReachFrame seg K out.configs cmid) (e2 : Ext seg cmid cs2)
    (hrl : ∀ q r, dictGet cs2.reached q = some r → r.length < seg)
    (hedge : out.result = none →
      (GoalEdge ap goal out.config.core → Recorded cs2 out.config.core) ∧
      ∀ Z, EdgeSucc ap out.config.core Z → Marked cs2 Z)
    (hhalt : out.result = some (.found .halt) → GoalIn ap.prog goal out.config.core →
      Recorded cs2 out.config.core) :
    SInv ap goal seg K (EPlus ap.prog E X.core) cs2 := by
  have hXgood : Good seg X.tape := hinv.mark.todoGood X (by simp [Configs.addTodo])
  have hg01 : Grow (Configs.addTodo cs1 X) cs1 := ⟨fun _ _ h => h, fun _ _ h => h, fun _ h => h⟩
  have hgrow : Grow out.configs cs2 := e1.grow.trans e2.grow
  have hg02 : Grow (Configs.addTodo cs1 X) cs2 := hg01.trans (P.frame.grow.trans hgrow)
  -- a point of the orbit with the head outside is the end of the walk, with result `none`
  have hterm : ∀ Z, Orbit ap.prog X.core Z → Z.2.scan = none →
      Z = out.config.core ∧ out.result = none := by
    intro Z hZ hs
    obtain ⟨h1, h2⟩ := hc.term Z hZ (cstep_none_of_scan hs)
    refine ⟨h1, ?_⟩
    rcases h2 with h2 | h2
    · exact h2
    · obtain ⟨s, hs', _⟩ := hc.haltAt h2
      rw [h1] at hs
      simp only [Config.core] at hs
      rw [hs] at hs'; cases hs'
  have hm : MarkInv seg (EPlus ap.prog E X.core) out.configs := by
    refine hinv.mark.mono (fun Z hZ => ?_) (fun q t hs => Or.inl (P.frame.seen ▸ hs))
      (fun q pos hd => (P.frame.blanksNew q pos hd).imp id fun ⟨Z, hZ, h1, h2, h3⟩ => ?_)
      (fun c hc' => Or.inl (List.mem_cons_of_mem _ (P.frame.todo ▸ hc')))
    · -- the root moves from the stack into the explored set
      rcases hZ with hZ | ⟨c, hc', hcc⟩
      · exact Or.inl (Or.inl hZ)
      · rcases List.mem_cons.1 hc' with rfl | hc'
        · exact Or.inl (Or.inr (hcc ▸ Orbit.refl _ _))
        · exact Or.inr ⟨c, P.frame.todo ▸ hc', hcc⟩
    · exact ⟨Z.2, hZ.good hXgood, h2, h3, Or.inl (Or.inr (by rw [← h1]; exact hZ))⟩
  refine ⟨e2.segEq.trans (e1.segEq.trans (P.frame.segEq.trans hinv.segEq)), ⟨?_, ?_, ?_, ?_, ?_⟩,
    (hm.reach e1).ext e2, hrl,
    fun q hq => by rw [e2.reached]; exact e1.keys (P.frame.keys hinv.keys) q hq⟩
  · rintro Z (hZ | hZ)
    · exact hinv.clos.eGood Z hZ
    · exact hZ.good hXgood
  · rintro Z Y (hZ | hZ) hs
    · exact Or.inl (hinv.clos.eStep Z Y hZ hs)
    · exact Or.inr (hZ.step hs)
  · rintro Z W (hZ | hZ) hs he
    · exact (hinv.clos.eEdge Z W hZ hs he).grow hg02
    · obtain ⟨h1, h2⟩ := hterm Z hZ hs
      rw [h1] at he
      exact (hedge h2).2 W he
  · rintro Z (hZ | hZ) hgi
    · exact hg02.recd Z (hinv.clos.eGoalIn Z hZ hgi)
    · rcases hc.goalIn Z hZ hgi with h | ⟨h1, h2⟩
      · exact hgrow.recd Z h
      · rw [h2] at hgi ⊢
        exact hhalt h1 hgi
  · rintro Z (hZ | hZ) hge
    · exact hg02.recd Z (hinv.clos.eGoalEdge Z hZ hge)
    · obtain ⟨h1, h2⟩ := hterm Z hZ hge.1
      rw [h1] at hge ⊢
      exact (hedge h2).1 hge

theorem resultStep_cont {goal : Term} {r : SearchResult} {cfg : Config} {cfm cs2 : Configs}
    (h : resultStep goal r cfg cfm = .ok (.cont cs2)) :
    (cs2 = cfm ∧ (∀ t, r = .found t → t = .halt ∧ goal ≠ .halt) ∧
      (r = .repeat ∨ r = .found .halt → cfg.init = false)) ∨
    (r = .found goal ∧ (goal ≠ .blank → cfg.init = false) ∧
      (Configs.checkReached cfm cfg goal).1 = false ∧
      cs2 = (Configs.checkReached cfm cfg goal).2) := by
  have same : (.ok (.cont cfm) : Except Err StepOut) = .ok (.cont cs2) → cs2 = cfm := by
    intro e; injection e with e; injection e with e; exact e.symm
  -- the three branches that end in `check_reached`
  have hit : ∀ p : Bool × Configs, (match p with
        | (hit, configs) => (if hit = true then (.ok (.done .reached) : Except Err StepOut)
            else .ok (.cont configs))) = .ok (.cont cs2) → p.1 = false ∧ cs2 = p.2 := by
    rintro ⟨b, c⟩ e
    cases b
    · injection e with e; injection e with e; exact ⟨rfl, e.symm⟩
    · cases e
  have hinit : ∀ {x : Except Err StepOut} {y : Except Err StepOut},
      (if cfg.init = true then x else y) = .ok (.cont cs2) → x ≠ .ok (.cont cs2) →
      cfg.init = false ∧ y = .ok (.cont cs2) := by
    intro x y e hx
    cases hi : cfg.init
    · rw [hi] at e; exact ⟨rfl, e⟩
    · rw [hi, if_pos rfl] at e; exact absurd e hx
  unfold resultStep at h
  cases r with
  | limit => exact Or.inl ⟨same h, nofun, nofun⟩
  | reached => exact Or.inl ⟨same h, nofun, nofun⟩
  | «repeat» =>
    obtain ⟨hi, h⟩ := hinit h (by intro e; injection e with e; cases e)
    exact Or.inl ⟨same h, nofun, fun _ => hi⟩
  | found t =>
    cases t with
    | halt =>
      obtain ⟨hi, h⟩ := hinit h (by intro e; injection e with e; cases e)
      cases goal with
      | halt => exact Or.inr ⟨rfl, fun _ => hi, hit _ h⟩
      | blank => exact Or.inl ⟨same h, fun _ e => by cases e; exact ⟨rfl, nofun⟩, fun _ => hi⟩
      | spinout => exact Or.inl ⟨same h, fun _ e => by cases e; exact ⟨rfl, nofun⟩, fun _ => hi⟩
    | blank =>
      cases goal with
      | blank => exact Or.inr ⟨rfl, fun e => absurd rfl e, hit _ h⟩
      | halt => cases h
      | spinout => cases h
    | spinout =>
      obtain ⟨hi, h⟩ := hinit h (by intro e; injection e with e; cases e)
      cases goal with
      | spinout => exact Or.inr ⟨rfl, fun _ => hi, hit _ h⟩
      | halt => cases h
      | blank => cases h

theorem searchStep_inv (ap : AnalyzedProg) (goal : Term) (hg : goal ≠ .blank) (seg : Nat)
    (K : Nat → Prop) (E : Core → Prop) (rf : Nat) (X : Config) (cs1 cs2 : Configs)
    (hinv : SInv ap goal seg K E (Configs.addTodo cs1 X))
    (h : searchStep ap goal rf X cs1 = .ok (.cont cs2)) :
    SInv ap goal seg K (EPlus ap.prog E X.core) cs2 := by
  have hXgood : Good seg X.tape := hinv.mark.todoGood X (by simp [Configs.addTodo])
  unfold searchStep at h
  cases hrt : runToEdge ap.prog goal rf X cs1 with
  | error e => rw [hrt] at h; cases h
  | ok out =>
    rw [hrt] at h
    have P := runToEdge_post3 ap.prog goal hg seg K rf X cs1 out hinv.segEq hXgood hinv.rLen hrt
    have hsegm : out.configs.seg = seg := P.frame.segEq.trans hinv.segEq
    obtain ⟨res, cfg, cfm⟩ := out
    cases res with
    | none =>
      have hc : RunClosed ap.prog goal seg X.core ⟨none, cfg, cfm⟩ := by
        rcases P.closed with h1 | ⟨h1, _⟩ | h1
        · cases h1
        · cases h1
        · exact h1
      obtain ⟨cmid, e1, e2, e3, e4, e5⟩ :=
        edgeStep_spec3 ap goal hg seg K cfg cfm cs2 hsegm P.good h
      exact hinv.add_root P hc e1 e2 (e3 hc.rLen) (fun _ => ⟨e4, e5⟩) nofun
    | some r =>
      rcases resultStep_cont h with ⟨rfl, hfound, hinit⟩ | ⟨rfl, hinit, hhit, rfl⟩
      · -- the bookkeeping is left as it is
        have hc : RunClosed ap.prog goal seg X.core ⟨some r, cfg, cs2⟩ := by
          rcases P.closed with h1 | ⟨h1, h2⟩ | h1
          · cases (hfound _ (Option.some.inj h1)).1
          · rw [hinit (Or.inl (Option.some.inj h1))] at h2; cases h2
          · exact h1
        refine hinv.add_root P hc (ReachFrame.refl _ _ _) (Ext.refl _ _) hc.rLen nofun
          (fun h1 hgi => ?_)
        -- a halting configuration is not a goal point for `spinout`
        obtain ⟨s, hs, hget⟩ := hc.haltAt h1
        cases goal with
        | halt => exact absurd rfl (hfound _ (Option.some.inj h1)).2
        | blank => exact absurd rfl hg
        | spinout =>
          obtain ⟨s', instr, hs', hg', -⟩ := hgi
          cases hs.symm.trans hs'
          cases hget.symm.trans hg'
      · -- the goal was met at a configuration that is not `init`
        have hi := hinit hg
        have hc : RunClosed ap.prog goal seg X.core ⟨some (.found goal), cfg, cfm⟩ := by
          rcases P.closed with h1 | ⟨h1, _⟩ | h1
          · rw [P.spinHit h1 hi] at hhit; cases hhit
          · cases h1
          · exact h1
        obtain ⟨cr1, cr2, cr3, _⟩ := checkReached_spec hg seg K cfm cfg hsegm
        exact hinv.add_root P hc cr1 (Ext.refl _ _) (cr3 hhit hc.rLen) nofun (fun _ _ => cr2)

theorem sinv_blanks_congr {ap : AnalyzedProg} {goal : Term} {seg : Nat} {K : Nat → Prop}
    {E : Core → Prop} {c c' : Configs} (h : SInv ap goal seg K E c)
    (h1 : c'.seg = c.seg) (h2 : c'.todo = c.todo) (h3 : c'.seen = c.seen)
    (h4 : c'.reached = c.reached) (h5 : ∀ q pos, DHas c'.blanks q pos ↔ DHas c.blanks q pos) :
    SInv ap goal seg K E c' := by
  have hg : Grow c c' := ⟨fun q t hs => by rw [h3]; exact hs, fun q p hd => (h5 q p).2 hd,
    fun Z hZ => by unfold Recorded at hZ ⊢; rw [h4]; exact hZ⟩
  refine ⟨h1.trans h.segEq, h.clos.grow hg, h.mark.mono (fun Z hZ => h2 ▸ hZ)
    (fun q t hs => Or.inl (h3 ▸ hs)) (fun q p hd => Or.inl ((h5 q p).1 hd))
    (fun x hx => Or.inl (h2 ▸ hx)), ?_, ?_⟩
  · intro q r hr; rw [h4] at hr; exact h.rLen q r hr
  · intro q hq; rw [h4]; exact h.keys q hq

theorem next_spec3 {ap : AnalyzedProg} {goal : Term} {seg : Nat} {K : Nat → Prop}
    {E : Core → Prop} {c c1 : Configs} {X : Config} (h : SInv ap goal seg K E c)
    (hn : Configs.next c = some (some X, c1)) : SInv ap goal seg K E (Configs.addTodo c1 X) := by
  rcases Configs.next_cases c with ⟨pos, -, -, he⟩ | ⟨-, he⟩ <;> rw [he] at hn
  · -- the new initial configuration
    cases hti : Tape.init c.seg pos with
    | none => rw [hti] at hn; cases hn
    | some t =>
      rw [hti] at hn
      cases hn
      rw [h.segEq] at hti
      obtain ⟨hwf, hb, hcells, hpos⟩ := Tape.init_spec hti
      have hgood : Good seg t := ⟨hwf, hcells⟩
      have hg : Grow c (Configs.addTodo (afterInit c pos) ⟨0, t, true⟩) :=
        ⟨fun _ _ hs => hs, fun q p hd => (afterInit_dHas ..).2 (Or.inl hd), fun _ hZ => hZ⟩
      refine ⟨h.segEq, h.clos.grow hg, h.mark.mono
        (fun Z hZ => hZ.imp id fun ⟨x, hx, hc⟩ => ⟨x, List.mem_cons_of_mem _ hx, hc⟩)
        (fun q t' hs => Or.inl hs) (fun q p hd => ((afterInit_dHas ..).1 hd).imp id ?_)
        (fun x hx => (List.mem_cons.1 hx).elim (fun e => Or.inr (e ▸ hgood)) Or.inl),
        h.rLen, h.keys⟩
      rintro ⟨rfl, rfl⟩
      exact ⟨t, hgood, hb, hpos, Or.inr ⟨⟨0, t, true⟩, List.mem_cons_self, rfl⟩⟩
  · cases htd : c.todo with
    | nil => rw [htd] at hn; cases hn
    | cons x rest =>
      rw [htd] at hn
      cases hn
      exact sinv_blanks_congr h rfl htd.symm rfl rfl (fun q p => dHas_dictEnsure _ _ _ _)

theorem searchLoop_closed (ap : AnalyzedProg) (goal : Term) (hg : goal ≠ .blank) (seg : Nat)
    (K : Nat → Prop) (rf fuel : Nat) (E : Core → Prop) (cs : Configs)
    (hinv : SInv ap goal seg K E cs) (h : searchLoop ap goal rf fuel cs = .ok none) :
    ∃ E' F, SInv ap goal seg K E' F ∧ F.todo = [] ∧ ∀ pos, pos < seg → DHas F.blanks 0 pos := by
  refine searchLoop_induct ap goal rf (fun cs => ∃ E, SInv ap goal seg K E cs)
    (fun r => r.elim (∃ E' F, SInv ap goal seg K E' F ∧ F.todo = [] ∧
      ∀ pos, pos < seg → DHas F.blanks 0 pos) fun _ => True)
    (fun cs c1 ⟨E, hinv⟩ hn => ?_)
    (fun cs X c1 ⟨E, hinv⟩ hn => StepOut.Sat.of_cont fun cs2 hs =>
      ⟨_, searchStep_inv ap goal hg seg K E rf X c1 cs2 (next_spec3 hinv hn) hs⟩)
    fuel cs none ⟨E, hinv⟩ h
  rcases Configs.next_cases cs with ⟨pos, -, -, he⟩ | ⟨hall, he⟩ <;> rw [he] at hn
  · cases hti : Tape.init cs.seg pos <;> rw [hti] at hn <;> cases hn
  · cases htd : cs.todo with
    | cons x rest => rw [htd] at hn; cases hn
    | nil =>
      exact ⟨E, _, sinv_blanks_congr (c' := { cs with blanks := dictEnsure cs.blanks 0 })
        hinv rfl rfl rfl rfl (fun q p => dHas_dictEnsure _ _ _ _), htd,
        fun pos hpos => (dHas_dictEnsure ..).2 (hall pos (hinv.segEq ▸ hpos))⟩

end BB.Segment
