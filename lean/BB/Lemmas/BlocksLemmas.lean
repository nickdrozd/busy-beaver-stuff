/-
About the model of src/blocks.rs (BB/Model/Blocks.lean): `unroll_tape` replays the run that
`measure_blocks` made, so it meets no undefined slot; the subtractions of `compr_eff` never run into
0; the loop of `opt_block` carries the first minimiser so far.
-/
import BB.Model.Blocks

namespace BB.Blocks

open BB

theorem measIter_some {p : Prog} {m m' : Meas} (h : measIter p m = some m') :
    ∃ color shift next, p.get (m.state, m.tape.scan) = some (color, shift, next) ∧
      m'.tape = (m.tape.step shift color (m.state == next)).1 ∧ m'.state = next ∧
      m'.steps = m.steps + 1 ∧ (m.maxStep ≤ m.steps → m'.maxStep ≤ m'.steps) := by
  unfold measIter at h
  split at h
  · cases h
  next color shift next hg =>
    refine ⟨color, shift, next, hg, ?_⟩
    dsimp only at h
    split at h
    · cases h
    · cases h
      refine ⟨rfl, rfl, rfl, fun hle => ?_⟩
      show (if m.tape.blocks > m.maxBlocks then m.steps + 1 else m.maxStep) ≤ m.steps + 1
      split <;> omega

theorem measGo_steps {p : Prog} {n : Nat} {m m' : Meas} (h : measGo p n m = some m') :
    m'.steps = m.steps + n ∧ (m.maxStep ≤ m.steps → m'.maxStep ≤ m'.steps) := by
  induction n generalizing m with
  | zero => cases h; exact ⟨rfl, id⟩
  | succ n ih =>
    rw [measGo] at h
    split at h
    · cases h
    next m1 h1 =>
      obtain ⟨_, _, _, _, _, _, hs, hle⟩ := measIter_some h1
      obtain ⟨hs', hle'⟩ := ih h
      exact ⟨by omega, fun h0 => hle' (hle h0)⟩

theorem unrollGo_isSome_of_measGo {p : Prog} {n : Nat} {m m' : Meas}
    (h : measGo p n m = some m') {j : Nat} (hj : j ≤ n) :
    (unrollGo p j m.state m.tape).isSome = true := by
  induction j generalizing n m with
  | zero => rfl
  | succ j ih =>
    obtain ⟨n, rfl⟩ : ∃ k, n = k + 1 := ⟨n - 1, by omega⟩
    rw [measGo] at h
    split at h
    · cases h
    next m1 h1 =>
      obtain ⟨color, shift, next, hg, ht, hq, _, _⟩ := measIter_some h1
      simp only [unrollGo, hg]
      rw [← ht, ← hq]
      exact ih h (Nat.le_of_succ_le_succ hj)

theorem foldl_sub_le {α : Type} (c : α → Bool) (k : Nat) (l : List α) (init : Nat) :
    l.foldl (fun acc j => if c j then acc - k else acc) init ≤ init := by
  induction l generalizing init with
  | nil => exact Nat.le_refl _
  | cons a l ih =>
    refine Nat.le_trans (ih _) ?_
    dsimp only
    split <;> omega

theorem comprEff_le (tape : List Nat) (k : Nat) : comprEff tape k ≤ tape.length :=
  foldl_sub_le _ k _ _

theorem foldl_sub_add {α : Type} (c : α → Bool) (k : Nat) (l : List α) (init : Nat)
    (h : k * l.length ≤ init) :
    l.foldl (fun acc j => if c j then acc - k else acc) init + k * (l.filter c).length = init := by
  induction l generalizing init with
  | nil => rfl
  | cons a l ih =>
    rw [List.length_cons, Nat.mul_succ] at h
    rw [List.foldl_cons, List.filter_cons]
    cases c a
    · exact ih init (by omega)
    · rw [if_pos rfl, if_pos rfl, List.length_cons, Nat.mul_succ, ← Nat.add_assoc,
        ih (init - k) (by omega)]
      omega

theorem comprIters_mul_le (len k : Nat) (h2 : 2 * k ≤ len) : comprIters len k * k ≤ len := by
  unfold comprIters
  have := Nat.div_mul_le_self (len - 2 * k + k - 1) k
  omega

/-- `compr_eff` removes `k` cells for every aligned pair of equal neighbouring chunks
    (also for `k = 0`, where both sides are `tape.length`) -/
theorem comprEff_add_pairs (tape : List Nat) (k : Nat) (h2 : 2 * k ≤ tape.length) :
    comprEff tape k + k * ((List.range (comprIters tape.length k)).filter
        (fun j => chunk tape (j * k) k == chunk tape (j * k + k) k)).length = tape.length :=
  foldl_sub_add _ k _ _ (by
    rw [List.length_range, Nat.mul_comm]; exact comprIters_mul_le _ _ h2)

/-- `k0` is the first minimiser of the compression measure among the block sizes `1 .. lo-1` -/
def FirstMin (tape : List Nat) (lo k0 : Nat) : Prop :=
  1 ≤ k0 ∧ k0 < lo ∧ (∀ b, 1 ≤ b → b < lo → comprEff tape k0 ≤ comprEff tape b) ∧
    ∀ b, 1 ≤ b → b < k0 → comprEff tape k0 < comprEff tape b

theorem optGo_firstMin (tape : List Nat) (n lo k0 : Nat) (h : FirstMin tape lo k0) :
    FirstMin tape (lo + n) (optGo tape n lo (k0, comprEff tape k0)).1 := by
  induction n generalizing lo k0 with
  | zero => exact h
  | succ n ih =>
    obtain ⟨h1, h2, h3, h4⟩ := h
    rw [optGo, show lo + (n + 1) = lo + 1 + n by omega]
    split
    next hc =>
      refine ih (lo + 1) lo ⟨by omega, by omega, fun b hb1 hb2 => ?_, fun b hb1 hb2 => ?_⟩
      · by_cases hb : b = lo
        · rw [hb]; exact Nat.le_refl _
        · have := h3 b hb1 (by omega); omega
      · have := h3 b hb1 hb2; omega
    next hc =>
      refine ih (lo + 1) k0 ⟨h1, by omega, fun b hb1 hb2 => ?_, h4⟩
      by_cases hb : b = lo
      · rw [hb]; omega
      · exact h3 b hb1 (by omega)

end BB.Blocks
