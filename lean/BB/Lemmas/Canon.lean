/-
The run-length tape operations `Span.pull`, `Span.push`, `Tape.step` split into their cases, and
the two invariants they keep: canonical form, and (its weaker part) positive block counts.
-/
import BB.Model.Tape

namespace BB

/-- A span is canonical: no empty block, adjacent blocks differ in colour, and the far-end block
    is not blank. -/
def Span.Canon : Span → Prop
  | [] => True
  | [b] => 0 < b.count ∧ b.color ≠ 0
  | b :: c :: rest => 0 < b.count ∧ b.color ≠ c.color ∧ Span.Canon (c :: rest)

/-- `Span.Canon` as a test, run by the driver (`Span.canonB_iff`). -/
def Span.canonB : Span → Bool
  | [] => true
  | [b] => decide (0 < b.count) && (b.color != 0)
  | b :: c :: rest => decide (0 < b.count) && (b.color != c.color) && Span.canonB (c :: rest)

theorem Span.canonB_iff (s : Span) : Span.canonB s = true ↔ Span.Canon s := by
  induction s with
  | nil => simp [Span.canonB, Span.Canon]
  | cons b rest ih =>
    cases rest with
    | nil => simp [Span.canonB, Span.Canon]
    | cons c r =>
      simp only [Span.canonB, Span.Canon, Bool.and_eq_true, decide_eq_true_eq, bne_iff_ne, ne_eq]
      rw [ih, and_assoc]

def Tape.Canon (t : Tape) : Prop := Span.Canon t.lspan ∧ Span.Canon t.rspan

/-- the part of canonicity the refinement needs -/
def Span.Pos (s : Span) : Prop := ∀ b ∈ s, 0 < b.count

def Tape.Pos (t : Tape) : Prop := Span.Pos t.lspan ∧ Span.Pos t.rspan

theorem Span.canon_nil : Span.Canon [] := trivial

theorem Span.Canon.tail {b : Block} {s : Span} (h : Span.Canon (b :: s)) : Span.Canon s := by
  cases s with
  | nil => trivial
  | cons c rest => exact h.2.2

theorem Span.Canon.head_pos {b : Block} {s : Span} (h : Span.Canon (b :: s)) : 0 < b.count := by
  cases s <;> exact h.1

theorem Span.Canon.cons {b : Block} {s : Span} (hb : 0 < b.count)
    (hne : match s with | [] => b.color ≠ 0 | c :: _ => b.color ≠ c.color)
    (hs : Span.Canon s) : Span.Canon (b :: s) := by
  cases s with
  | nil => exact ⟨hb, hne⟩
  | cons c rest => exact ⟨hb, hne, hs⟩

theorem Span.Canon.set_head {b : Block} {s : Span} (h : Span.Canon (b :: s)) {n : Nat} (hn : 0 < n) :
    Span.Canon (⟨b.color, n⟩ :: s) := by
  cases s with
  | nil => exact ⟨hn, h.2⟩
  | cons c rest => exact ⟨hn, h.2.1, h.2.2⟩

theorem Span.pos_nil : Span.Pos [] := fun _ h => nomatch h

theorem Span.pos_cons {b : Block} {s : Span} : Span.Pos (b :: s) ↔ 0 < b.count ∧ Span.Pos s :=
  List.forall_mem_cons

theorem Span.Pos.head {b : Block} {s : Span} (h : Span.Pos (b :: s)) : 0 < b.count :=
  (Span.pos_cons.1 h).1

theorem Span.Pos.tail {b : Block} {s : Span} (h : Span.Pos (b :: s)) : Span.Pos s :=
  (Span.pos_cons.1 h).2

theorem Span.Pos.cons {b : Block} {s : Span} (hb : 0 < b.count) (h : Span.Pos s) :
    Span.Pos (b :: s) :=
  Span.pos_cons.2 ⟨hb, h⟩

theorem Span.Pos.set_head {b : Block} {s : Span} (h : Span.Pos (b :: s)) {n : Nat} (hn : 0 < n) :
    Span.Pos (⟨b.color, n⟩ :: s) :=
  .cons hn h.tail

theorem Span.Canon.pos : ∀ {s : Span}, Span.Canon s → Span.Pos s
  | [], _ => Span.pos_nil
  | _ :: _, h => .cons h.head_pos h.tail.pos

theorem Tape.Canon.pos {t : Tape} (h : t.Canon) : t.Pos := ⟨h.1.pos, h.2.pos⟩

/-- the first half of `Span.pull`: drop the first block when sweeping over it -/
def Span.pullSkip (s : Span) (scan : Nat) (skip : Bool) : Nat × Span :=
  match s with
  | b :: rest => if skip && b.color == scan then (1 + b.count, rest) else (1, s)
  | [] => (1, s)

/-- the second half of `Span.pull`: take one cell off the span -/
def Span.pullTail (s1 : Span) : Nat × Span :=
  match s1 with
  | [] => (0, [])
  | b :: rest =>
    if b.count > 1 then (b.color, ⟨b.color, b.count - 1⟩ :: rest) else (b.color, rest)

theorem Span.pull_eq (s : Span) (scan : Nat) (skip : Bool) :
    Span.pull s scan skip
      = ((Span.pullTail (Span.pullSkip s scan skip).2).1, (Span.pullSkip s scan skip).1,
         (Span.pullTail (Span.pullSkip s scan skip).2).2) := by
  unfold Span.pull Span.pullSkip Span.pullTail
  cases s with
  | nil => rfl
  | cons b rest =>
    by_cases h : (skip && b.color == scan) = true
    · simp only [h, if_true]
      cases rest with
      | nil => rfl
      | cons c r => by_cases hc : c.count > 1 <;> simp [hc]
    · simp only [h]
      by_cases hc : b.count > 1 <;> simp [hc]

theorem Span.pull_nil (scan : Nat) (skip : Bool) : Span.pull [] scan skip = (0, 1, []) := rfl

theorem Span.pull_stepped_pos (s : Span) (scan : Nat) (skip : Bool) :
    0 < (Span.pull s scan skip).2.1 := by
  rw [Span.pull_eq]
  cases s with
  | nil => exact Nat.one_pos
  | cons b rest =>
    simp only [Span.pullSkip]
    split
    · exact Nat.lt_of_lt_of_le Nat.one_pos (Nat.le_add_right 1 b.count)
    · exact Nat.one_pos

theorem Span.pullSkip_keeps {I : Span → Prop} (htail : ∀ {b s}, I (b :: s) → I s)
    {s : Span} (h : I s) (scan : Nat) (skip : Bool) : I (Span.pullSkip s scan skip).2 := by
  cases s with
  | nil => exact h
  | cons b rest =>
    simp only [Span.pullSkip]
    split
    · exact htail h
    · exact h

theorem Span.pullTail_keeps {I : Span → Prop} (htail : ∀ {b s}, I (b :: s) → I s)
    (hset : ∀ {b s}, I (b :: s) → ∀ {n}, 0 < n → I (⟨b.color, n⟩ :: s))
    {s : Span} (h : I s) : I (Span.pullTail s).2 := by
  cases s with
  | nil => exact h
  | cons b rest =>
    simp only [Span.pullTail]
    split
    · next hc => exact hset h (Nat.sub_pos_of_lt hc)
    · exact htail h

theorem Span.pull_keeps {I : Span → Prop} (htail : ∀ {b s}, I (b :: s) → I s)
    (hset : ∀ {b s}, I (b :: s) → ∀ {n}, 0 < n → I (⟨b.color, n⟩ :: s))
    {s : Span} (h : I s) (scan : Nat) (skip : Bool) : I (Span.pull s scan skip).2.2 := by
  rw [Span.pull_eq]
  exact Span.pullTail_keeps htail hset (Span.pullSkip_keeps htail h scan skip)

theorem Span.pull_canon {s : Span} (h : Span.Canon s) (scan : Nat) (skip : Bool) :
    Span.Canon (Span.pull s scan skip).2.2 :=
  Span.pull_keeps Span.Canon.tail Span.Canon.set_head h scan skip

theorem Span.pull_pos {s : Span} (h : Span.Pos s) (scan : Nat) (skip : Bool) :
    Span.Pos (Span.pull s scan skip).2.2 :=
  Span.pull_keeps Span.Pos.tail Span.Pos.set_head h scan skip

theorem Span.push_cases (s : Span) (pr k : Nat) :
    (pr = 0 ∧ s = [] ∧ Span.push s pr k = []) ∨
    (∃ b rest, s = b :: rest ∧ b.color = pr ∧ Span.push s pr k = ⟨pr, b.count + k⟩ :: rest) ∨
    ((match s with | [] => pr ≠ 0 | b :: _ => pr ≠ b.color) ∧ Span.push s pr k = ⟨pr, k⟩ :: s) := by
  cases s with
  | nil =>
    by_cases hp : pr = 0
    · exact .inl ⟨hp, rfl, by simp [Span.push, hp]⟩
    · exact .inr (.inr ⟨hp, by simp [Span.push, hp]⟩)
  | cons b rest =>
    by_cases hb : b.color = pr
    · exact .inr (.inl ⟨b, rest, rfl, hb, by simp [Span.push, hb]⟩)
    · exact .inr (.inr ⟨fun e => hb e.symm, by simp [Span.push, hb]⟩)

theorem Span.push_canon {s : Span} (h : Span.Canon s) (print : Nat) {stepped : Nat}
    (hk : 0 < stepped) : Span.Canon (Span.push s print stepped) := by
  rcases Span.push_cases s print stepped with ⟨-, -, e⟩ | ⟨b, rest, rfl, rfl, e⟩ | ⟨hne, e⟩
  · rw [e]; trivial
  · rw [e]; exact h.set_head (Nat.lt_of_lt_of_le hk (Nat.le_add_left _ _))
  · rw [e]; exact h.cons hk hne

theorem Span.push_pos {U : Span} (hU : Span.Pos U) (pr : Nat) {k : Nat} (hk : 0 < k) :
    Span.Pos (Span.push U pr k) := by
  rcases Span.push_cases U pr k with ⟨-, -, e⟩ | ⟨b, rest, rfl, -, e⟩ | ⟨-, e⟩
  · rw [e]; exact Span.pos_nil
  · rw [e]; exact .cons (Nat.lt_of_lt_of_le hk (Nat.le_add_left _ _)) hU.tail
  · rw [e]; exact .cons hk hU

theorem Span.push_eq_nil {U : Span} {pr k : Nat} (h : Span.push U pr k = []) : pr = 0 := by
  rcases Span.push_cases U pr k with ⟨hp, -, -⟩ | ⟨b, rest, -, -, e⟩ | ⟨-, e⟩
  · exact hp
  · rw [e] at h; cases h
  · rw [e] at h; cases h

theorem Tape.step_true (t : Tape) (c : Nat) (sk : Bool) :
    t.step true c sk =
      (⟨(Span.pull t.rspan t.scan sk).1, Span.push t.lspan c (Span.pull t.rspan t.scan sk).2.1,
        (Span.pull t.rspan t.scan sk).2.2⟩, (Span.pull t.rspan t.scan sk).2.1) := rfl

theorem Tape.step_false (t : Tape) (c : Nat) (sk : Bool) :
    t.step false c sk =
      (⟨(Span.pull t.lspan t.scan sk).1, (Span.pull t.lspan t.scan sk).2.2,
        Span.push t.rspan c (Span.pull t.lspan t.scan sk).2.1⟩,
       (Span.pull t.lspan t.scan sk).2.1) := rfl

theorem Tape.step_stepped_pos (t : Tape) (d : Bool) (c : Nat) (sk : Bool) : 0 < (t.step d c sk).2 := by
  cases d <;> exact Span.pull_stepped_pos _ _ _

theorem Tape.step_keeps {I : Span → Prop}
    (hpull : ∀ {s}, I s → ∀ scan skip, I (Span.pull s scan skip).2.2)
    (hpush : ∀ {s}, I s → ∀ pr {k}, 0 < k → I (Span.push s pr k))
    {t : Tape} (h : I t.lspan ∧ I t.rspan) (d : Bool) (c : Nat) (sk : Bool) :
    I (t.step d c sk).1.lspan ∧ I (t.step d c sk).1.rspan := by
  cases d
  · exact ⟨hpull h.1 _ _, hpush h.2 _ (Span.pull_stepped_pos _ _ _)⟩
  · exact ⟨hpush h.1 _ (Span.pull_stepped_pos _ _ _), hpull h.2 _ _⟩

/-- **C12, first half.** The sweep flag need not be consistent with the scanned block. -/
theorem Tape.canon_step {t : Tape} (h : t.Canon) (d : Bool) (c : Nat) (sk : Bool) :
    (t.step d c sk).1.Canon :=
  Tape.step_keeps Span.pull_canon Span.push_canon h d c sk

theorem Tape.step_pos {t : Tape} (h : t.Pos) (d : Bool) (c : Nat) (sk : Bool) :
    (t.step d c sk).1.Pos :=
  Tape.step_keeps Span.pull_pos Span.push_pos h d c sk

theorem Tape.step_blank_color {t : Tape} {d : Bool} {c : Nat} {sk : Bool}
    (h : (t.step d c sk).1.blank = true) : c = 0 := by
  simp only [Tape.blank, Bool.and_eq_true, List.isEmpty_iff] at h
  cases d
  · exact Span.push_eq_nil h.2
  · exact Span.push_eq_nil h.1.2

theorem Tape.canon_init (scan : Nat) : (Tape.init scan).Canon := ⟨trivial, trivial⟩

/-- A history: a list of (direction, colour, sweep flag) operations. -/
def Tape.runOps (t : Tape) : List (Bool × Nat × Bool) → Tape
  | [] => t
  | (d, c, sk) :: ops => Tape.runOps (t.step d c sk).1 ops

/-- **C12.** After any sequence of steps from a canonical tape (in particular the blank tape) the
    tape is canonical. -/
theorem Tape.canon_runOps {t : Tape} (h : t.Canon) (ops : List (Bool × Nat × Bool)) :
    (t.runOps ops).Canon := by
  induction ops generalizing t with
  | nil => exact h
  | cons o ops ih => exact ih (Tape.canon_step h o.1 o.2.1 o.2.2)

end BB
