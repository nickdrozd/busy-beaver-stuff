/-
`run_quick_machine`, second part: nothing is missed inside a sweep.  The blank record holds the
FIRST step at which the tape is blank in each state, it is complete up to the reported step, and
no spin-out configuration occurs before the reported step.
-/
import BB.Lemmas.RunQuick

namespace BB

/-- a blank tape in state `q` after exactly `m` steps (`BlankAfter` without `0 < m`) -/
def BlankIn (p : ProgF) (m q : Nat) : Prop := ∃ c, RunAt p m c ∧ c.state = q ∧ c.Blank

structure QInv2 (p : Prog) (s : QState) : Prop where
  first : ∀ q n, (q, n) ∈ s.blanks → ∀ m, 0 < m → m < n → ¬ BlankIn p.toF m q
  complete : ∀ m q, 0 < m → m ≤ s.steps → BlankIn p.toF m q → ∃ n, n ≤ m ∧ (q, n) ∈ s.blanks
  noSpin : ∀ m c, m < s.steps → RunAt p.toF m c → ¬ SpinOutCfg p.toF c

theorem QInv2.init (p : Prog) : QInv2 p QState.init where
  first := fun _ _ h => nomatch h
  complete := fun _ _ h0 h1 _ => absurd (Nat.lt_of_lt_of_le h0 h1) (Nat.lt_irrefl 0)
  noSpin := fun _ _ h => absurd h (Nat.not_lt_zero _)

structure QDone2 (p : Prog) (res : TermRes) (s' : QState) : Prop where
  first : ∀ q n, (q, n) ∈ s'.blanks → ∀ m, 0 < m → m < n → ¬ BlankIn p.toF m q
  complete : res ≠ .overflow →
    ∀ m q, 0 < m → m ≤ s'.steps → BlankIn p.toF m q → ∃ n, n ≤ m ∧ (q, n) ∈ s'.blanks
  noSpin : res ≠ .overflow → ∀ m c, m < s'.steps → RunAt p.toF m c → ¬ SpinOutCfg p.toF c

theorem QInv2.done {p : Prog} {s : QState} (inv2 : QInv2 p s) (res : TermRes) : QDone2 p res s :=
  ⟨inv2.first, fun _ => inv2.complete, fun _ => inv2.noSpin⟩

theorem QInv2.step_facts {p : Prog} {s : QState} (inv : QInv p s) (inv2 : QInv2 p s)
    {color : Nat} {shift : Bool} {next : Nat}
    (hget : p.get (s.state, s.tape.scan) = some (color, shift, next))
    (hedge : ¬ (s.state == next && s.tape.atEdge shift) = true) :
    (∀ m c, m < s.steps + (s.tape.step shift color (s.state == next)).2 →
      RunAt p.toF m c → ¬ SpinOutCfg p.toF c) ∧
    (∀ m q, 0 < m → m ≤ s.steps + (s.tape.step shift color (s.state == next)).2 →
      BlankIn p.toF m q →
      (∃ n, n ≤ m ∧ (q, n) ∈ s.blanks) ∨
      (m = s.steps + (s.tape.step shift color (s.state == next)).2 ∧ q = next ∧
        (color == 0 && (s.tape.step shift color (s.state == next)).1.blank) = true)) := by
  obtain ⟨c, hrun, hc⟩ := inv.run
  obtain ⟨-, ⟨c', hc', e'⟩, mid⟩ := Tape.cycle_refines (p := p.toF) inv.canon.pos hget hc
  refine ⟨Tape.cycle_noSpin inv.canon hget hrun hc hedge inv2.noSpin, ?_⟩
  intro m q hm0 hm hb
  by_cases hle : m ≤ s.steps
  · exact .inl (inv2.complete m q hm0 hle hb)
  · obtain ⟨j, rfl⟩ := Nat.exists_eq_add_of_lt (Nat.lt_of_not_le hle)
    obtain ⟨cb, hr, hs, hbl⟩ := hb
    rcases Nat.lt_or_eq_of_le hm with hlt | heq
    · -- strictly inside the step the tape is not blank
      obtain ⟨cj, hcj, -, -, hcn⟩ := mid (j + 1) (Nat.lt_of_add_lt_add_left hlt)
      cases RunAt.unique hr (stepN_add_of_eq (a := s.steps) hrun hcj)
      exact absurd hbl ((hcn inv.canon).2 (Nat.succ_pos j))
    · cases RunAt.unique hr (heq ▸ stepN_add_of_eq hrun hc')
      have hb' := (Tape.blank_iff (Tape.canon_step inv.canon _ _ _) next).2 (e'.blank hbl)
      refine .inr ⟨heq, hs.symm.trans e'.1, Bool.and_eq_true_iff.2 ⟨beq_iff_eq.2 ?_, hb'⟩⟩
      exact Tape.step_blank_color hb'

theorem quickIter_spec2 (p : Prog) (s : QState) (inv : QInv p s) (inv2 : QInv2 p s) :
    match quickIter p s with
    | .cont s' => QInv2 p s'
    | .done res _ _ s' => QDone2 p res s' := by
  cases hget : p.get (s.state, s.tape.scan) with
  | none =>
    rw [quickIter_none hget]
    exact inv2.done _
  | some i =>
    obtain ⟨color, shift, next⟩ := i
    by_cases hedge : (s.state == next && s.tape.atEdge shift) = true
    · rw [quickIter_some hget rfl, if_pos hedge]
      exact inv2.done _
    obtain ⟨hspin, hblank⟩ := QInv2.step_facts inv inv2 hget hedge
    have hblanks := inv.blanks
    generalize hr : s.tape.step shift color (s.state == next) = r at hspin hblank
    rw [quickIter_some hget hr, if_neg hedge]
    by_cases hov : s.steps + r.2 ≥ u64Max
    · rw [if_pos hov]
      exact ⟨inv2.first, fun h => absurd rfl h, fun h => absurd rfl h⟩
    rw [if_neg hov]
    by_cases hbl : (color == 0 && r.1.blank) = true
    · rw [if_pos hbl]
      by_cases hcont : s.blanks.contains next = true
      · rw [if_pos hcont]
        -- the state of the blank tape at the end has an earlier record
        refine ⟨inv2.first, fun _ m q hm0 hle hb => ?_, fun _ => hspin⟩
        rcases hblank m q hm0 hle hb with h | ⟨rfl, rfl, _⟩
        · exact h
        · obtain ⟨n, hn⟩ := Blanks.exists_of_contains hcont
          exact ⟨n, Nat.le_trans (hblanks q n hn).2 (Nat.le_add_right _ _), hn⟩
      · rw [if_neg hcont]
        have inv2' : QInv2 p ⟨r.1, next, s.steps + r.2,
            s.blanks.insert next (s.steps + r.2)⟩ := by
          refine ⟨fun q n hmem m hm0 hmn hb => ?_, fun m q hm0 hle hb => ?_, hspin⟩
          · cases Blanks.mem_insert hmem with
            | inl e =>
              -- an earlier blank tape in state `next` would have been recorded
              cases e
              rcases hblank m next hm0 (Nat.le_of_lt hmn) hb with ⟨n', _, hn'⟩ | ⟨rfl, _⟩
              · exact hcont (Blanks.contains_of_mem hn')
              · exact Nat.lt_irrefl _ hmn
            | inr hm' => exact inv2.first q n hm' m hm0 hmn hb
          · rcases hblank m q hm0 hle hb with ⟨n, hn, hmem⟩ | ⟨rfl, rfl, _⟩
            · exact ⟨n, hn, Blanks.mem_insert_of_mem hmem
                fun (e : q = next) => hcont (Blanks.contains_of_mem (e ▸ hmem))⟩
            · exact ⟨_, Nat.le_refl _, Blanks.mem_insert_self _ _ _⟩
        by_cases hz : (next == 0) = true
        · rw [if_pos hz]
          exact inv2'.done _
        · rw [if_neg hz]
          exact inv2'
    · rw [if_neg hbl]
      refine ⟨inv2.first, fun m q hm0 hle hb => ?_, hspin⟩
      rcases hblank m q hm0 hle hb with h | ⟨_, _, h⟩
      · exact h
      · exact absurd h hbl

theorem quickAfter_inv2 (p : Prog) (n : Nat) (s : QState) (h : quickAfter p n = some s) :
    QInv2 p s :=
  (quickAfter_induction (P := fun s => QInv p s ∧ QInv2 p s) ⟨QInv.init p, QInv2.init p⟩
    (fun s s' inv hi => by
      have h1 := quickIter_spec p s inv.1
      have h2 := quickIter_spec2 p s inv.1 inv.2
      rw [hi] at h1 h2
      exact ⟨h1, h2⟩) n s h).2

structure ResSpec2 (p : Prog) (r : MachineResult) : Prop where
  first : ∀ q n, (q, n) ∈ r.blanks → ∀ m, 0 < m → m < n → ¬ BlankIn p.toF m q
  complete : r.result ≠ .overflow →
    ∀ m q, 0 < m → m ≤ r.steps → BlankIn p.toF m q → ∃ n, n ≤ m ∧ (q, n) ∈ r.blanks
  noSpin : r.result ≠ .overflow → ∀ m c, m < r.steps → RunAt p.toF m c → ¬ SpinOutCfg p.toF c

theorem runQuick_spec2 (p : Prog) (lim : Nat) : ResSpec2 p (runQuick p lim) := by
  rw [runQuick]
  rcases quickLoop_cases p lim 0 QState.init rfl with
    ⟨s', h, e⟩ | ⟨c, s0, res, ls, setC, s', -, h, hi, e⟩
  · have inv2 := quickAfter_inv2 p _ s' h
    rw [e]
    exact ⟨inv2.first, fun _ => inv2.complete, fun _ => inv2.noSpin⟩
  · have d : QDone2 p res s' := by
      have := quickIter_spec2 p s0 (quickAfter_inv p c s0 h) (quickAfter_inv2 p c s0 h)
      rwa [hi] at this
    rw [e]
    exact ⟨d.first, d.complete, d.noSpin⟩

end BB
