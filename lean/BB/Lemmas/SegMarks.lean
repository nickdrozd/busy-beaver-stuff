/-
C05 — segment analysis.  Vocabulary of the refutation proof (goal points, what the search has
recorded and marked, successors at the edge) and the effect of the single bookkeeping operations:
`check_reached`, and the marking step of the two branching loops.
-/
import BB.Lemmas.SegVerdict

namespace BB.Segment

open BB

/-- well formed, with the `seg - 2` cells of the window -/
def Good (seg : Nat) (t : Tape) : Prop := t.WF ∧ Tape.cells t = seg - 2

/-- the position of `Z` has been recorded for its state (if the state has an entry at all) -/
def Recorded (cs : Configs) (Z : Core) : Prop :=
  ∀ r, dictGet cs.reached Z.1 = some r → Tape.pos Z.2 ∈ r

/-- goal point with the head inside the window -/
def GoalIn (prog : Prog) (goal : Term) (Z : Core) : Prop :=
  match goal with
  | .halt => ∃ s, Z.2.scan = some s ∧ prog.get (Z.1, s) = none
  | .spinout => ∃ s instr, Z.2.scan = some s ∧ prog.get (Z.1, s) = some instr ∧
      Config.spinout ⟨Z.1, Z.2, false⟩ instr = true
  | .blank => False

/-- goal point with the head outside the window -/
def GoalEdge (ap : AnalyzedProg) (goal : Term) (Z : Core) : Prop :=
  Z.2.scan = none ∧ goalTapeOf ap goal ⟨Z.1, Z.2, false⟩ = .ok true

/-- `Z` is in `seen` (non-blank tapes) or its position in `blanks` (blank tapes) -/
def Marked (cs : Configs) (Z : Core) : Prop :=
  if Tape.blank Z.2 = true then DHas cs.blanks Z.1 (Tape.pos Z.2) else SHas cs.seen Z.1 Z.2

/-- the successors that `branch_out` / `branch_in` give to a configuration at the edge -/
def EdgeSucc (ap : AnalyzedProg) (X Z : Core) : Prop :=
  ∃ diffs dirs, dictGet ap.branches X.1 = some (diffs, dirs) ∧
    ((Z.1 ∈ diffs ∧ Z.2 = X.2) ∨
     (∃ side, Tape.side X.2 = some side ∧ Z.1 ∈ Dirs.get dirs (!side) ∧
        Tape.stepIn X.2 (!side) = some Z.2))

/-- `cs'` is `cs` after some `check_reached` (goal ≠ blank): only `reached` changes, what was
    recorded stays recorded, and the states in `K` keep their entries -/
structure ReachFrame (seg : Nat) (K : Nat → Prop) (cs cs' : Configs) : Prop where
  todo : cs'.todo = cs.todo
  seen : cs'.seen = cs.seen
  blanks : cs'.blanks = cs.blanks
  segEq : cs'.seg = cs.seg
  mono : ∀ Z, Recorded cs Z → Recorded cs' Z
  keys : (∀ q, K q → (dictGet cs.reached q).isSome = true) →
    ∀ q, K q → (dictGet cs'.reached q).isSome = true

theorem ReachFrame.refl (seg : Nat) (K : Nat → Prop) (cs : Configs) : ReachFrame seg K cs cs :=
  ⟨rfl, rfl, rfl, rfl, fun _ h => h, fun h => h⟩

theorem checkReached_cases {goal : Term} (hg : goal ≠ .blank) (cs : Configs) (config : Config) :
    (dictGet cs.reached config.state = none ∧ Configs.checkReached cs config goal = (false, cs)) ∨
    ∃ r, dictGet cs.reached config.state = some r ∧
      Configs.checkReached cs config goal =
        ((setInsert r (Tape.pos config.tape)).length == cs.seg,
          { cs with reached :=
              dictSet cs.reached config.state (setInsert r (Tape.pos config.tape)) }) := by
  unfold Configs.checkReached
  rw [if_neg (by simpa using hg)]
  cases dictGet cs.reached config.state with
  | none => exact Or.inl ⟨rfl, rfl⟩
  | some r => exact Or.inr ⟨r, rfl, rfl⟩

theorem checkReached_spec {goal : Term} (hg : goal ≠ .blank) (seg : Nat) (K : Nat → Prop)
    (cs : Configs) (config : Config) (hseg : cs.seg = seg) :
    ReachFrame seg K cs (Configs.checkReached cs config goal).2 ∧
    Recorded (Configs.checkReached cs config goal).2 config.core ∧
    ((Configs.checkReached cs config goal).1 = false →
      (∀ q r, dictGet cs.reached q = some r → r.length < seg) →
      ∀ q r, dictGet (Configs.checkReached cs config goal).2.reached q = some r → r.length < seg) ∧
    ((Configs.checkReached cs config goal).1 = true →
      (Configs.checkReached (Configs.checkReached cs config goal).2 config goal).1 = true) := by
  rcases checkReached_cases hg cs config with ⟨hd, he⟩ | ⟨r0, hd, he⟩
  · rw [he]
    refine ⟨ReachFrame.refl _ _ _, fun r hr => ?_, fun _ h => h, fun h => by cases h⟩
    rw [show dictGet cs.reached config.core.1 = none from hd] at hr
    cases hr
  · -- the new entry of `config.state`; every entry is this one or an old one
    have hin : Tape.pos config.tape ∈ setInsert r0 (Tape.pos config.tape) :=
      mem_setInsert'.2 (Or.inl rfl)
    have hget : ∀ q r, dictGet (dictSet cs.reached config.state
          (setInsert r0 (Tape.pos config.tape))) q = some r →
        (q = config.state ∧ r = setInsert r0 (Tape.pos config.tape)) ∨
          dictGet cs.reached q = some r := by
      intro q r hr
      rw [dictGet_dictSet] at hr
      by_cases hq : q = config.state
      · rw [if_pos hq] at hr
        exact Or.inl ⟨hq, (Option.some.inj hr).symm⟩
      · rw [if_neg hq] at hr
        exact Or.inr hr
    have hagain := checkReached_cases hg (Configs.checkReached cs config goal).2 config
    rw [he] at hagain ⊢
    refine ⟨⟨rfl, rfl, rfl, rfl, ?_, ?_⟩, ?_, ?_, ?_⟩
    · intro Z hZ r hr
      rcases hget _ r hr with ⟨hq, rfl⟩ | hr
      · exact mem_setInsert'.2 (Or.inr (hZ r0 (hq ▸ hd)))
      · exact hZ r hr
    · intro hk q hq
      show (dictGet (dictSet _ _ _) q).isSome = true
      rw [dictGet_dictSet]
      by_cases hq' : q = config.state
      · rw [if_pos hq']; rfl
      · rw [if_neg hq']; exact hk q hq
    · intro r hr
      exact Option.some.inj ((dictGet_dictSet_self _ _ _).symm.trans hr) ▸ hin
    · intro hhit hlen q r hr
      rcases hget q r hr with ⟨_, rfl⟩ | hr
      · exact Nat.lt_of_le_of_ne (Nat.le_trans (length_setInsert_le _ _) (hlen _ _ hd))
          (hseg ▸ ne_of_beq_false hhit)
      · exact hlen q r hr
    · intro hhit
      rcases hagain with ⟨hd', _⟩ | ⟨r1, hd', he'⟩
      · cases (dictGet_dictSet_self _ _ _).symm.trans hd'
      · cases (dictGet_dictSet_self _ _ _).symm.trans hd'
        rw [he', setInsert_of_mem hin]
        exact hhit

/-- `c'` is `c` after some `check_seen` + `add_todo`: marks only grow, every new mark has its
    configuration on the stack, `reached` is untouched -/
structure Ext (seg : Nat) (c c' : Configs) : Prop where
  segEq : c'.seg = c.seg
  reached : c'.reached = c.reached
  seenMono : ∀ q t, SHas c.seen q t → SHas c'.seen q t
  blanksMono : ∀ q pos, DHas c.blanks q pos → DHas c'.blanks q pos
  todoMono : ∀ x ∈ c.todo, x ∈ c'.todo
  seenNew : ∀ q t, SHas c'.seen q t → SHas c.seen q t ∨ ∃ x ∈ c'.todo, x.core = (q, t)
  blanksNew : ∀ q pos, DHas c'.blanks q pos → DHas c.blanks q pos ∨
    ∃ x ∈ c'.todo, x.state = q ∧ Tape.blank x.tape = true ∧ Tape.pos x.tape = pos
  todoNew : ∀ x ∈ c'.todo, x ∈ c.todo ∨ Good seg x.tape

theorem Ext.refl (seg : Nat) (c : Configs) : Ext seg c c :=
  ⟨rfl, rfl, fun _ _ h => h, fun _ _ h => h, fun _ h => h, fun _ _ h => Or.inl h,
    fun _ _ h => Or.inl h, fun _ h => Or.inl h⟩

theorem Ext.trans {seg : Nat} {a b c : Configs} (h1 : Ext seg a b) (h2 : Ext seg b c) :
    Ext seg a c := by
  refine ⟨h2.segEq.trans h1.segEq, h2.reached.trans h1.reached,
    fun q t h => h2.seenMono q t (h1.seenMono q t h),
    fun q p h => h2.blanksMono q p (h1.blanksMono q p h),
    fun x h => h2.todoMono x (h1.todoMono x h), ?_, ?_, ?_⟩
  · intro q t h
    rcases h2.seenNew q t h with h | h
    · rcases h1.seenNew q t h with h | ⟨x, hx, hc⟩
      · exact Or.inl h
      · exact Or.inr ⟨x, h2.todoMono x hx, hc⟩
    · exact Or.inr h
  · intro q p h
    rcases h2.blanksNew q p h with h | h
    · rcases h1.blanksNew q p h with h | ⟨x, hx, hc⟩
      · exact Or.inl h
      · exact Or.inr ⟨x, h2.todoMono x hx, hc⟩
    · exact Or.inr h
  · intro x hx
    rcases h2.todoNew x hx with h | h
    · exact h1.todoNew x h
    · exact Or.inr h

/-- what `Ext`, `ReachFrame` and `RunFrame` have in common: marks and records are kept -/
structure Grow (c c' : Configs) : Prop where
  seen : ∀ q t, SHas c.seen q t → SHas c'.seen q t
  blanks : ∀ q pos, DHas c.blanks q pos → DHas c'.blanks q pos
  recd : ∀ Z, Recorded c Z → Recorded c' Z

theorem Grow.refl (c : Configs) : Grow c c := ⟨fun _ _ h => h, fun _ _ h => h, fun _ h => h⟩

theorem Grow.trans {a b c : Configs} (h1 : Grow a b) (h2 : Grow b c) : Grow a c :=
  ⟨fun q t h => h2.seen q t (h1.seen q t h), fun q p h => h2.blanks q p (h1.blanks q p h),
    fun Z h => h2.recd Z (h1.recd Z h)⟩

theorem Ext.grow {seg : Nat} {c c' : Configs} (h : Ext seg c c') : Grow c c' :=
  ⟨h.seenMono, h.blanksMono, fun Z hZ => by unfold Recorded at hZ ⊢; rw [h.reached]; exact hZ⟩

theorem ReachFrame.grow {seg : Nat} {K : Nat → Prop} {c c' : Configs} (h : ReachFrame seg K c c') :
    Grow c c' :=
  ⟨fun q t hs => by rw [h.seen]; exact hs, fun q p hd => by rw [h.blanks]; exact hd, h.mono⟩

theorem Marked.grow {c c' : Configs} (h : Grow c c') {Z : Core} (hm : Marked c Z) : Marked c' Z := by
  unfold Marked at hm ⊢
  split
  · next hb => rw [if_pos hb] at hm; exact h.blanks _ _ hm
  · next hb => rw [if_neg hb] at hm; exact h.seen _ _ hm

theorem markStep_ext {seg : Nat} {tape : Tape} {blank : Bool} (hb : blank = Tape.blank tape)
    (hgood : Good seg tape) (c : Configs) (state : Nat) :
    Ext seg c (markStep tape blank c state) ∧ Marked (markStep tape blank c state) (state, tape) := by
  unfold markStep Marked
  rcases checkSeen_cases c state tape blank with ⟨he, hm⟩ | ⟨hbl, he⟩ | ⟨hbl, he⟩
  · rw [he, ← hb]
    exact ⟨Ext.refl _ _, hm⟩
  · rw [he, ← hb, hbl, if_pos rfl]
    refine ⟨⟨rfl, rfl, fun _ _ h => h, fun q p h => (dHas_dictSetInsert ..).2 (Or.inl h),
      fun x hx => List.mem_cons_of_mem _ hx, fun _ _ h => Or.inl h, ?_, ?_⟩,
      (dHas_dictSetInsert ..).2 (Or.inr ⟨rfl, rfl⟩)⟩
    · intro q p h
      rcases (dHas_dictSetInsert ..).1 h with h | ⟨rfl, rfl⟩
      · exact Or.inl h
      · exact Or.inr ⟨_, List.mem_cons_self, rfl, hbl ▸ hb.symm, rfl⟩
    · intro x hx
      rcases List.mem_cons.1 hx with rfl | hx
      · exact Or.inr hgood
      · exact Or.inl hx
  · rw [he, ← hb, hbl, if_neg Bool.false_ne_true]
    refine ⟨⟨rfl, rfl, fun q t h => (sHas_insert ..).2 (Or.inl h), fun _ _ h => h,
      fun x hx => List.mem_cons_of_mem _ hx, ?_, fun _ _ h => Or.inl h, ?_⟩,
      (sHas_insert ..).2 (Or.inr ⟨rfl, rfl⟩)⟩
    · intro q t h
      rcases (sHas_insert ..).1 h with h | ⟨rfl, rfl⟩
      · exact Or.inl h
      · exact Or.inr ⟨_, List.mem_cons_self, rfl⟩
    · intro x hx
      rcases List.mem_cons.1 hx with rfl | hx
      · exact Or.inr hgood
      · exact Or.inl hx

theorem foldl_markStep_ext {seg : Nat} {tape : Tape} {blank : Bool} (hb : blank = Tape.blank tape)
    (hgood : Good seg tape) (l : List Nat) (c : Configs) :
    Ext seg c (l.foldl (markStep tape blank) c) ∧
      ∀ s ∈ l, Marked (l.foldl (markStep tape blank) c) (s, tape) := by
  induction l generalizing c with
  | nil => exact ⟨Ext.refl _ _, fun _ h => by cases h⟩
  | cons state rest ih =>
    obtain ⟨h1, h2⟩ := markStep_ext hb hgood c state
    obtain ⟨ih1, ih2⟩ := ih (markStep tape blank c state)
    refine ⟨h1.trans ih1, fun s hs => ?_⟩
    rcases List.mem_cons.1 hs with rfl | hs
    · exact h2.grow ih1.grow
    · exact ih2 s hs

end BB.Segment
