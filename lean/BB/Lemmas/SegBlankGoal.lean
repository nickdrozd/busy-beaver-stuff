/-
C05 — segment analysis: for the goal `blank` the search never ends with an empty stack, so
`segCantBlank` never answers `refuted`.

The initial positions are tried in order.  While the earlier ones are processed the last one
(`seg - 1`) stays out of `blanks[0]` (`BInv`): a run from an initial configuration keeps `init`, so
it records blank tapes only for states other than 0, and only the initial position 0 branches
from a blank edge tape, into positions 0 and 1.  When position `seg - 1` is finally tried, all
`seg` positions are in the union of the `blanks` sets and `check_reached_blank` answers `reached`.
-/
import BB.Lemmas.SegRefuted

namespace BB.Segment

open BB

/-- every position in any entry is below `n`; stated on the list itself, which is what `unionSize`
    folds over -/
def RawBound (n : Nat) (d : List (Nat × List Nat)) : Prop := ∀ kv ∈ d, ∀ pos ∈ kv.2, pos < n

theorem rawBound_insert {n : Nat} {d : List (Nat × List Nat)} (h : RawBound n d) (k : Nat)
    {x : Nat} (hx : x < n) : RawBound n (dictSetInsert d k x) := by
  intro kv hkv pos hpos
  rw [dictSetInsert_eq] at hkv
  rcases mem_dictSet hkv with h' | rfl
  · exact h kv h' pos hpos
  · rcases mem_setInsert'.1 hpos with rfl | hpos
    · exact hx
    · cases hg : dictGet d k with
      | none => rw [hg] at hpos; cases hpos
      | some s => rw [hg] at hpos; exact h (k, s) (dictGet_mem hg) pos hpos

theorem rawBound_ensure {n : Nat} {d : List (Nat × List Nat)} (h : RawBound n d) (k : Nat) :
    RawBound n (dictEnsure d k) := by
  intro kv hkv pos hpos
  unfold dictEnsure at hkv
  cases hg : dictGet d k with
  | none =>
    rw [hg] at hkv
    rcases mem_dictSet hkv with h' | rfl
    · exact h kv h' pos hpos
    · cases hpos
  | some s =>
    rw [hg] at hkv
    exact h kv hkv pos hpos

theorem fold_setInsert_spec (s acc : List Nat) (h : acc.Nodup) :
    (s.foldl setInsert acc).Nodup ∧ ∀ y, y ∈ s.foldl setInsert acc ↔ y ∈ acc ∨ y ∈ s := by
  induction s generalizing acc with
  | nil => exact ⟨h, fun y => by simp⟩
  | cons x xs ih =>
    rw [List.foldl_cons]
    obtain ⟨h1, h2⟩ := ih (setInsert acc x) (nodup_setInsert h x)
    refine ⟨h1, fun y => ?_⟩
    rw [h2, mem_setInsert', List.mem_cons, or_comm (a := y = x), or_assoc]

theorem unionSize_eq {n : Nat} {d : List (Nat × List Nat)} (hb : RawBound n d) {k : Nat}
    (hall : ∀ j, j < n → DHas d k j) : unionSize d = n := by
  unfold unionSize
  -- the union is built from the concatenation of all entries
  rw [← List.foldl_flatMap (f := fun kv : Nat × List Nat => kv.2)]
  obtain ⟨h1, h2⟩ := fold_setInsert_spec (d.flatMap (·.2)) [] List.nodup_nil
  apply Nat.le_antisymm
  · have := h1.length_le_of_subset (l₂ := List.range n) (fun x hx => by
      obtain ⟨kv, hkv, hy⟩ := List.mem_flatMap.1 (((h2 x).1 hx).resolve_left (fun h => nomatch h))
      exact List.mem_range.2 (hb kv hkv x hy))
    rwa [List.length_range] at this
  · have := List.nodup_range.length_le_of_subset (l₁ := List.range n) (fun o ho => by
      obtain ⟨s, hs, hos⟩ := hall o (List.mem_range.1 ho)
      exact (h2 o).2 (Or.inr (List.mem_flatMap.2 ⟨(k, s), dictGet_mem hs, hos⟩)))
    rwa [List.length_range] at this

theorem Tape.step_blank_print {t t' : Tape} {sh : Bool} {pr : Nat} {skip : Bool}
    (h : Tape.step t sh pr skip = some t') (hb : Tape.blank t' = true) : pr = 0 := by
  have hp : ∀ U k, Span.blank (Span.push U pr k) = true → pr = 0 := fun U k hbl => by
    obtain ⟨n, rest, e⟩ := Span.push_head U pr k
    rw [e] at hbl
    exact beq_iff_eq.1 (Bool.and_eq_true_iff.1 hbl).1
  unfold Tape.step at h
  cases hs : t.scan with
  | none => rw [hs] at h; cases h
  | some s =>
    rw [hs] at h
    unfold Tape.blank at hb
    rw [Bool.and_eq_true, Bool.and_eq_true] at hb
    cases sh with
    | true => cases h; exact hp _ _ hb.1.2
    | false => cases h; exact hp _ _ hb.2

/-- how the bookkeeping may change (goal `blank`): new positions in `blanks` satisfy `P` and are
    below `seg`, new configurations on the stack are good -/
structure BFrame (seg : Nat) (P : Nat → Nat → Prop) (c c' : Configs) : Prop where
  segEq : c'.seg = c.seg
  raw : RawBound seg c.blanks → RawBound seg c'.blanks
  dnew : ∀ q pos, DHas c'.blanks q pos → DHas c.blanks q pos ∨ P q pos
  todoNew : ∀ x ∈ c'.todo, x ∈ c.todo ∨ Good seg x.tape

theorem BFrame.refl (seg : Nat) (P : Nat → Nat → Prop) (c : Configs) : BFrame seg P c c :=
  ⟨rfl, fun h => h, fun _ _ h => Or.inl h, fun _ h => Or.inl h⟩

theorem BFrame.trans {seg : Nat} {P : Nat → Nat → Prop} {a b c : Configs}
    (h1 : BFrame seg P a b) (h2 : BFrame seg P b c) : BFrame seg P a c := by
  refine ⟨h2.segEq.trans h1.segEq, fun h => h2.raw (h1.raw h), ?_, ?_⟩
  · intro q pos h
    rcases h2.dnew q pos h with h | h
    · exact h1.dnew q pos h
    · exact Or.inr h
  · intro x hx
    rcases h2.todoNew x hx with h | h
    · exact h1.todoNew x h
    · exact Or.inr h

theorem BFrame.mono {seg : Nat} {P P' : Nat → Nat → Prop} {a b : Configs}
    (h : BFrame seg P a b) (hp : ∀ q pos, P q pos → P' q pos) : BFrame seg P' a b :=
  ⟨h.segEq, h.raw, fun q pos hd => (h.dnew q pos hd).imp id (hp q pos), h.todoNew⟩

theorem bframe_blanks {seg : Nat} (hseg : 4 ≤ seg) (c : Configs) (k : Nat) {t : Tape}
    (hg : Good seg t) :
    BFrame seg (fun q pos => q = k ∧ pos = Tape.pos t) c
      { c with blanks := dictSetInsert c.blanks k (Tape.pos t) } := by
  refine ⟨rfl, fun h => rawBound_insert h k (hg.pos_lt hseg), ?_, fun _ h => Or.inl h⟩
  intro q pos hd
  simp only at hd
  rw [dHas_dictSetInsert] at hd
  exact hd

theorem markStep_bframe {seg : Nat} (hseg : 4 ≤ seg) {tape : Tape} (blank : Bool)
    (hgood : Good seg tape) (c : Configs) (state : Nat) :
    BFrame seg (fun _ pos => blank = true ∧ pos = Tape.pos tape) c (markStep tape blank c state) := by
  have htodo : ∀ (c1 : Configs) (init : Bool), c1.todo = c.todo →
      ∀ x ∈ (Configs.addTodo c1 ⟨state, tape, init⟩).todo, x ∈ c.todo ∨ Good seg x.tape := by
    intro c1 init h1 x hx
    rcases List.mem_cons.1 hx with rfl | hx
    · exact Or.inr hgood
    · exact Or.inl (h1 ▸ hx)
  unfold markStep
  rcases checkSeen_cases c state tape blank with ⟨he, _⟩ | ⟨hbl, he⟩ | ⟨_, he⟩ <;> rw [he]
  · exact BFrame.refl _ _ _
  · exact ⟨rfl, fun h => rawBound_insert h state (hgood.pos_lt hseg),
      fun q pos hd => ((dHas_dictSetInsert ..).1 hd).imp id (fun h => ⟨hbl, h.2⟩), htodo _ _ rfl⟩
  · exact ⟨rfl, fun h => h, fun _ _ hd => Or.inl hd, htodo _ _ rfl⟩

theorem foldl_markStep_bframe {seg : Nat} (hseg : 4 ≤ seg) {tape : Tape} (blank : Bool)
    (hgood : Good seg tape) (l : List Nat) (c : Configs) :
    BFrame seg (fun _ pos => blank = true ∧ pos = Tape.pos tape) c
      (l.foldl (markStep tape blank) c) :=
  List.foldlRecOn l _ (BFrame.refl _ _ _) fun c' h state _ =>
    h.trans (markStep_bframe hseg blank hgood c' state)

theorem edgeBranch_bframe {seg : Nat} (hseg : 4 ≤ seg) (ap : AnalyzedProg) (config : Config)
    (cs cs2 : Configs) (hgood : Good seg config.tape)
    (h : edgeBranch ap config cs = .ok (.cont cs2)) :
    BFrame seg (fun _ pos => Tape.blank config.tape = true ∧ (pos = Tape.pos config.tape ∨
      ∃ sh nt, Tape.stepIn config.tape sh = some nt ∧ pos = Tape.pos nt)) cs cs2 := by
  obtain ⟨diffs, dirs, side, c3, -, -, hin, rfl⟩ := edgeBranch_cont h
  refine BFrame.trans ?_ ((foldl_markStep_bframe hseg _ hgood diffs c3).mono
    fun _ _ hp => ⟨hp.1, Or.inl hp.2⟩)
  rcases hin with ⟨-, rfl⟩ | ⟨nt, hsi, rfl⟩
  · exact BFrame.refl _ _ _
  · exact (foldl_markStep_bframe hseg _ (Tape.stepIn_good hgood hsi).1 _ cs).mono
      fun _ _ hp => ⟨hp.1, Or.inr ⟨!side, nt, hsi, hp.2⟩⟩

theorem checkReachedBlank_bframe {seg : Nat} (hseg : 4 ≤ seg) (c : Configs) (config : Config)
    (hgood : Good seg config.tape) :
    BFrame seg (fun q pos => q = config.state ∧ pos = Tape.pos config.tape) c
      (Configs.checkReachedBlank c config).2 := by
  unfold Configs.checkReachedBlank
  cases dictGet c.blanks config.state with
  | none => exact BFrame.refl _ _ _
  | some s => exact bframe_blanks hseg c config.state hgood

theorem checkReachedBlank_hit {seg : Nat} (hseg : 4 ≤ seg) (c : Configs) (config : Config)
    (hs : c.seg = seg) (hgood : Good seg config.tape) (hst : config.state = 0)
    (hraw : RawBound seg c.blanks)
    (hall : ∀ j, j < seg → DHas c.blanks 0 j) :
    (Configs.checkReachedBlank c config).1 = true := by
  unfold Configs.checkReachedBlank
  obtain ⟨s, hs0, _⟩ := hall 0 (by omega)
  rw [hst, hs0]
  simp only [beq_iff_eq]
  rw [hs]
  apply unionSize_eq (k := 0) (rawBound_insert hraw 0 (hgood.pos_lt hseg))
  intro j hj
  rw [dHas_dictSetInsert]
  exact Or.inl (hall j hj)

theorem spinCheck_init {goal : Term} {slf : Config} (instr : Instr) (cf : Configs)
    (hi : slf.init = true) : (spinCheck goal slf instr cf).2 = cf := by
  unfold spinCheck
  rw [hi, if_pos rfl]
  split <;> rfl

structure RunInvB (seg : Nat) (cs0 : Configs) (slf : Config) (cf : Configs) : Prop where
  init : slf.init = true
  good : Good seg slf.tape
  edge : slf.tape.scan = none → Tape.blank slf.tape = false
  frame : BFrame seg (fun q _ => q ≠ 0) cs0 cf

structure RunPostB (seg : Nat) (cs0 : Configs) (out : RunOut) : Prop where
  good : Good seg out.config.tape
  frame : BFrame seg (fun q _ => q ≠ 0) cs0 out.configs
  edge : out.result = none → Tape.blank out.config.tape = false
  blank : out.result = some (.found .blank) → out.config.state ≠ 0

theorem runBody_postB (prog : Prog) (seg : Nat) (hseg : 4 ≤ seg) (cs0 : Configs)
    (slf copy : Config) (step : Bool) (cf : Configs) (inv : RunInvB seg cs0 slf cf) :
    BodyOut.Sat (fun s _ _ cf' => RunInvB seg cs0 s cf') (RunPostB seg cs0)
      (runBody prog .blank slf copy step cf) := by
  have hexit : ∀ r, r ≠ none → r ≠ some (.found .blank) → RunPostB seg cs0 ⟨r, slf, cf⟩ :=
    fun r h1 h2 => ⟨inv.good, inv.frame, fun h => absurd h h1, fun h => absurd h h2⟩
  rcases runBody_cases prog .blank slf copy step cf with
    ⟨hsc, he⟩ | ⟨s, hsc, ⟨-, he⟩ | ⟨instr, hget, ⟨-, he⟩ | ⟨-, ⟨-, he⟩ | ⟨self1, hst, he⟩⟩⟩⟩ <;>
    rw [he]
  · exact ⟨inv.good, inv.frame, fun _ => inv.edge hsc, nofun⟩
  · exact hexit _ nofun nofun
  · rw [spinCheck_init instr cf inv.init]
    exact hexit _ nofun nofun
  · trivial
  · rw [spinCheck_init instr cf inv.init]
    have hgood1 : Good seg self1.tape :=
      cstep_good (X := slf.core) inv.good (cstep_of_step hsc hget hst)
    obtain ⟨hts, hstate1, hinit1⟩ := Config.step_core hst
    have hi1 : self1.init = true := hinit1.trans inv.init
    rcases blankCheck_cases .blank instr self1 cf with
      ⟨hne, hbe⟩ | ⟨-, -, -, hbe⟩ | ⟨hb, h0, hbe⟩ <;> rw [hbe]
    · -- nothing is recorded: the new tape is not blank
      have hedge : Tape.blank self1.tape = false := Bool.eq_false_iff.2 fun hb => by
        rw [hb, Bool.and_true] at hne
        exact ne_of_beq_false hne (Tape.step_blank_print hts hb)
      have hinv1 : RunInvB seg cs0 self1 cf :=
        ⟨hi1, hgood1, fun _ => hedge, inv.frame⟩
      exact runTail_sat (fun _ => hinv1)
        (fun _ _ _ _ => ⟨hgood1, inv.frame, nofun, nofun⟩) (fun _ _ _ => hinv1)
    · exact ⟨hgood1, inv.frame, nofun, nofun⟩
    · -- a blank tape in a state other than 0 (`init` is set)
      rw [hi1, Bool.and_true] at h0
      rw [h0, if_neg Bool.false_ne_true]
      show RunPostB seg cs0 ⟨some (.found .blank), self1, _⟩
      exact ⟨hgood1, inv.frame.trans ((bframe_blanks hseg cf instr.2.2 hgood1).mono
        (fun q _ hq => hq.1 ▸ ne_of_beq_false h0)), nofun,
        fun _ h => ne_of_beq_false h0 (hstate1.symm.trans h)⟩

theorem runToEdge_postB (prog : Prog) (seg : Nat) (hseg : 4 ≤ seg) (fuel : Nat) (slf : Config)
    (cs0 : Configs) (out : RunOut) (hi : slf.init = true) (hgood : Good seg slf.tape)
    {s : Nat} (hs : slf.tape.scan = some s)
    (h : runToEdge prog .blank fuel slf cs0 = .ok out) : RunPostB seg cs0 out :=
  have hin : slf.tape.scan ≠ none := fun h' => nomatch hs.symm.trans h'
  runToEdge_induct prog .blank (fun s _ _ cf => RunInvB seg cs0 s cf) (RunPostB seg cs0)
    (fun s c st cf inv => runBody_postB prog seg hseg cs0 s c st cf inv)
    (fun h' => absurd h' hin) ⟨hi, hgood, fun h' => absurd h' hin, BFrame.refl _ _ _⟩ h

/-- invariant of the search for the goal `blank` while the initial positions are being tried -/
structure BInv (seg : Nat) (cs : Configs) : Prop where
  segEq : cs.seg = seg
  noLast : ¬ DHas cs.blanks 0 (seg - 1)
  raw : RawBound seg cs.blanks
  todoGood : ∀ c ∈ cs.todo, Good seg c.tape

theorem binv_of_frame {seg : Nat} {P : Nat → Nat → Prop} {cs : Configs} {pos : Nat} {cs2 : Configs}
    (h : BInv seg cs) (hpos : pos < seg) (hne : pos ≠ seg - 1)
    (hf : BFrame seg P (afterInit cs pos) cs2) (hP : ∀ q p, P q p → ¬ (q = 0 ∧ p = seg - 1)) :
    BInv seg cs2 := by
  refine ⟨hf.segEq.trans h.segEq, ?_, hf.raw (rawBound_insert (rawBound_ensure h.raw 0) 0 hpos), ?_⟩
  · intro hd
    rcases hf.dnew 0 (seg - 1) hd with hd | hp
    · rw [afterInit_dHas] at hd
      rcases hd with hd | ⟨_, hd⟩
      · exact h.noLast hd
      · exact hne hd.symm
    · exact hP 0 (seg - 1) hp ⟨rfl, rfl⟩
  · intro x hx
    rcases hf.todoNew x hx with hx | hx
    · exact h.todoGood x hx
    · exact hx

theorem searchStep_blank_edge (ap : AnalyzedProg) (rf : Nat) (c : Config) (cs : Configs)
    (hsc : c.tape.scan = none) (hb : Tape.blank c.tape = true) :
    searchStep ap .blank rf c cs =
      if (Configs.checkReachedBlank cs c).1 = true then .ok (.done .reached)
      else edgeBranch ap c (Configs.checkReachedBlank cs c).2 := by
  have hrt : runToEdge ap.prog .blank rf c cs = .ok ⟨none, c, cs⟩ := by
    simp only [runToEdge, hsc]
  have hgt : goalTapeOf ap .blank c = .ok true := by simp only [goalTapeOf, hb]
  simp only [searchStep, hrt, edgeStep_eq, hgt, if_true]
  rfl

theorem searchStep_binv (ap : AnalyzedProg) (rf : Nat) {seg : Nat} (hseg : 4 ≤ seg) {cs : Configs}
    (h : BInv seg cs) {pos : Nat} {t : Tape} (hpos : pos < seg) (hti : Tape.init seg pos = some t)
    (hmin : ∀ j, j < pos → DHas cs.blanks 0 j) :
    StepOut.Sat (BInv seg) (fun _ => True)
      (searchStep ap .blank rf ⟨0, t, true⟩ (afterInit cs pos)) := by
  obtain ⟨hwf, hblank, hcells, hpt⟩ := Tape.init_spec hti
  have hgood : Good seg t := ⟨hwf, hcells⟩
  have hs1 : seg = seg - 1 + 1 := (Nat.sub_add_cancel (Nat.le_trans (by decide) hseg)).symm
  have hs2 : 2 ≤ seg - 1 := Nat.le_sub_of_add_le (Nat.le_trans (by decide) hseg)
  have hraw1 : RawBound seg (afterInit cs pos).blanks :=
    rawBound_insert (rawBound_ensure h.raw 0) 0 hpos
  rw [← hpt] at hmin hraw1 hpos ⊢
  rcases hgood.pos_cases hseg with ⟨hsc, hp⟩ | ⟨hsc, hp⟩ | ⟨s, hsc, -, hp⟩
  · -- position 0: the successors stay there or step onto a cell of the window
    rw [searchStep_blank_edge ap rf ⟨0, t, true⟩ (afterInit cs (Tape.pos t)) hsc hblank]
    by_cases hhit : (Configs.checkReachedBlank (afterInit cs (Tape.pos t)) ⟨0, t, true⟩).1 = true
    · rw [if_pos hhit]; trivial
    · rw [if_neg hhit]
      have f1 := checkReachedBlank_bframe hseg (afterInit cs (Tape.pos t)) ⟨0, t, true⟩ hgood
      refine StepOut.Sat.of_cont fun cs2 heb => ?_
      have f2 := edgeBranch_bframe hseg ap ⟨0, t, true⟩ _ cs2 hgood heb
      have h0 : Tape.pos t < seg - 1 := hp ▸ Nat.lt_of_lt_of_le (by decide) hs2
      refine binv_of_frame (P := fun _ p => p < seg - 1) h hpos (Nat.ne_of_lt h0)
        ((f1.mono ?_).trans (f2.mono ?_)) (fun q p hp hqp => Nat.lt_irrefl _ (hqp.2 ▸ hp))
      · rintro q p ⟨-, rfl⟩
        exact h0
      · rintro q p ⟨-, rfl | ⟨sh, nt, hsi, rfl⟩⟩
        · exact h0
        · exact stepIn_pos_lt hseg hgood hsi
  · -- the last position: all positions are now in `blanks[0]`
    rw [searchStep_blank_edge ap rf ⟨0, t, true⟩ (afterInit cs (Tape.pos t)) hsc hblank, if_pos]
    · trivial
    · refine checkReachedBlank_hit hseg _ ⟨0, t, true⟩ h.segEq hgood rfl hraw1 (fun j hj => ?_)
      rw [afterInit_dHas]
      rcases Nat.lt_or_ge j (Tape.pos t) with hlt | hge
      · exact Or.inl (hmin j hlt)
      · rw [hs1, ← hp] at hj
        exact Or.inr ⟨rfl, Nat.le_antisymm (Nat.le_of_lt_succ hj) hge⟩
  · -- an inner position: the run keeps `init`, so it records blank tapes only for states ≠ 0
    have hfin : ∀ cs2, BFrame seg (fun q _ => q ≠ 0) (afterInit cs (Tape.pos t)) cs2 →
        BInv seg cs2 := fun cs2 hf =>
      binv_of_frame h hpos (Nat.ne_of_lt hp) hf (fun q p hq hqp => hq hqp.1)
    unfold searchStep
    cases hrt : runToEdge ap.prog .blank rf ⟨0, t, true⟩ (afterInit cs (Tape.pos t)) with
    | error e => trivial
    | ok out =>
      have P := runToEdge_postB ap.prog seg hseg rf ⟨0, t, true⟩ _ out rfl hgood hsc hrt
      obtain ⟨res, cfg, cfm⟩ := out
      cases res with
      | some r =>
        refine StepOut.Sat.of_cont (x := resultStep .blank r cfg cfm) fun cs2 hrs => ?_
        rcases resultStep_cont hrs with ⟨rfl, -, -⟩ | ⟨rfl, -, -, rfl⟩
        · exact hfin _ P.frame
        · exact hfin _ (P.frame.trans ((checkReachedBlank_bframe hseg cfm cfg P.good).mono
            fun q p hp => hp.1 ▸ P.blank rfl))
      | none =>
        have hnb : Tape.blank cfg.tape = false := P.edge rfl
        have hgt : goalTapeOf ap .blank cfg = .ok false := by simp only [goalTapeOf, hnb]
        simp only [edgeStep_eq, hgt, Bool.false_eq_true, if_false]
        refine StepOut.Sat.of_cont fun cs2 heb => ?_
        exact hfin _ (P.frame.trans ((edgeBranch_bframe hseg ap cfg cfm cs2 P.good heb).mono
          fun q p hp => absurd (hnb ▸ hp.1) Bool.false_ne_true))

/-- position `seg - 1` has not been tried, so the next configuration is an initial one -/
theorem BInv.next {seg : Nat} {cs c1 : Configs} {oc : Option Config} (hinv : BInv seg cs)
    (hseg : 4 ≤ seg) (hn : Configs.next cs = some (oc, c1)) :
    ∃ pos t, pos < seg ∧ Tape.init seg pos = some t ∧ (∀ j, j < pos → DHas cs.blanks 0 j) ∧
      oc = some ⟨0, t, true⟩ ∧ c1 = afterInit cs pos := by
  rcases Configs.next_cases cs with ⟨pos, hpos, hmin, he⟩ | ⟨hall, -⟩
  · rw [he, hinv.segEq] at hn
    cases hti : Tape.init seg pos with
    | none => rw [hti] at hn; cases hn
    | some t =>
      rw [hti] at hn
      cases hn
      exact ⟨pos, t, hinv.segEq ▸ hpos, hti, hmin, rfl, rfl⟩
  · exact absurd (hall _ (by rw [hinv.segEq]; omega)) hinv.noLast

theorem searchLoop_blank_ne_none (ap : AnalyzedProg) (rf : Nat) {seg : Nat} (hseg : 4 ≤ seg)
    (fuel : Nat) (cs : Configs) (hinv : BInv seg cs) :
    searchLoop ap .blank rf fuel cs ≠ .ok none := fun h =>
  searchLoop_induct ap .blank rf (BInv seg) (fun r => r.elim False fun _ => True)
    (fun cs c1 hinv hn => by
      obtain ⟨_, _, _, _, _, hoc, _⟩ := hinv.next hseg hn
      cases hoc)
    (fun cs X c1 hinv hn => by
      obtain ⟨pos, t, hpos, hti, hmin, hoc, rfl⟩ := hinv.next hseg hn
      cases hoc
      exact searchStep_binv ap rf hseg hinv hpos hti hmin)
    fuel cs none hinv h

theorem allSegmentsReached_blank_ne_none (ap : AnalyzedProg) {seg : Nat} (hseg : 4 ≤ seg) :
    allSegmentsReached ap seg .blank ≠ .ok none := by
  unfold allSegmentsReached
  apply searchLoop_blank_ne_none ap _ hseg
  refine ⟨rfl, ?_, ?_, ?_⟩
  · rintro ⟨s, hs, _⟩
    simp [Configs.new, dictGet] at hs
  · intro kv hkv
    simp [Configs.new] at hkv
  · intro c hc
    simp [Configs.new] at hc

/-- **`segCantBlank` never answers `refuted`** — for any program, table size and limit. -/
theorem blank_never_refuted (prog : Prog) (params : Nat × Nat) (segs k : Nat) :
    segmentCantReach prog params segs .blank ≠ .ok (.refuted k) := by
  intro h
  rcases segmentCantReach_refuted h with ⟨hg, -⟩ | ⟨seg, hseg, hnone⟩
  · exact hg rfl
  · exact allSegmentsReached_blank_ne_none _ hseg hnone

end BB.Segment
