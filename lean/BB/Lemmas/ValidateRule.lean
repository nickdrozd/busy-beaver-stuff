/-
C03, the part about `applyRule` (BB/Model/Rules.lean): the vocabulary of C11 (`AllPositive`,
`SameShape`) read in that of C01 (`Tape.Pos`, `Tape.Canon`).
-/
import BB.Lemmas.Canon
import BB.Lemmas.RuleApply

namespace BB

open BB.RuleArith

theorem Tape.pos_iff_allPositive (t : Tape) : t.Pos ↔ AllPositive t := Iff.rfl

theorem Span.Canon.of_colors {s s' : Span} (h : Span.Canon s)
    (hc : s'.map (·.color) = s.map (·.color)) (hp : Span.Pos s') : Span.Canon s' :=
  match s, s', h, hc, hp with
  | [], [], _, _, _ => trivial
  | [], _ :: _, _, hc, _ => nomatch hc
  | _ :: _, [], _, hc, _ => nomatch hc
  | [a], [b], h, hc, hp => ⟨hp.head, (show b.color = a.color from (List.cons.inj hc).1) ▸ h.2⟩
  | [_], _ :: _ :: _, _, hc, _ => nomatch (List.cons.inj hc).2
  | _ :: _ :: _, [_], _, hc, _ => nomatch (List.cons.inj hc).2
  | a :: a2 :: _, b :: b2 :: _, h, hc, hp =>
    have h2 := (List.cons.inj hc).2
    have e1 : b.color = a.color := (List.cons.inj hc).1
    have e2 : b2.color = a2.color := (List.cons.inj h2).1
    ⟨hp.head, e1 ▸ e2 ▸ h.2.1, of_colors h.2.2 h2 hp.tail⟩

theorem Tape.Canon.of_sameShape {t t' : Tape} (hc : t.Canon) (hs : SameShape t t') (hp : t'.Pos) :
    t'.Canon :=
  ⟨hc.1.of_colors (hs.colors false) hp.1, hc.2.of_colors (hs.colors true) hp.2⟩

end BB
