/-
Symbolic validation of rule applications and of "infinite rule" verdicts (C02 / C03).
Import-free (core Lean + model files only).

`checkApp` (Validate.lean) re-validates a reported rule application by running the plain
simulator from the tape before to the tape after: its cost grows with the number of times the rule
was applied.  Here the rule itself is validated once, for ALL block counts, by running the plain
simulator on a tape whose block counts are LINEAR FORMS `c + Σ kᵢ·xᵢ` in variables `xᵢ ≥ 0`
(`symStep`): every decision the run-length simulator takes (sweep or not, decrement or remove a
block, merge or insert) must be determined by the colours and by the constant parts of the forms -
otherwise the symbolic run gives up (`unknown`).  If one period of the symbolic run leads from the
symbolic tape `S(x)` back to the same state on `S(x) + δ` (`symPeriod`), then by induction the real
machine runs from `S(x)` to `S(x) + t·δ` for every `t` for which the intermediate values stay in
range - a rule application of any size (`validateApp`) - and if no `δᵢ` is negative the machine
never halts (`validateInf`).  Soundness against the L0 machine: BB/Lemmas/Sym*.lean, property
theorems in BB/Props/C02.lean / C03.lean.
-/
import BB.Model.Validate

namespace BB.Sym

/-- a linear form `c + Σ ks[i] * x_i` with natural coefficients -/
structure Form where
  c : Nat
  ks : List Nat
deriving Repr, DecidableEq, Inhabited

/-- a valuation of the variables (missing entries are 0) -/
abbrev Val := List Nat

def dot : List Nat → Val → Nat
  | [], _ => 0
  | _, [] => 0
  | k :: ks, x :: xs => k * x + dot ks xs

def Form.eval (f : Form) (v : Val) : Nat := f.c + dot f.ks v

def addKs : List Nat → List Nat → List Nat
  | [], b => b
  | a, [] => a
  | a :: as, b :: bs => (a + b) :: addKs as bs

def Form.add (f g : Form) : Form := ⟨f.c + g.c, addKs f.ks g.ks⟩
def Form.const (n : Nat) : Form := ⟨n, []⟩
def Form.succ (f : Form) : Form := ⟨f.c + 1, f.ks⟩
def Form.isConst (f : Form) : Bool := f.ks.all (· == 0)
/-- the `i`-th variable plus a constant -/
def Form.var (c i : Nat) : Form := ⟨c, List.replicate i 0 ++ [1]⟩
/-- normal form of the coefficient list: trailing zeros dropped -/
def trimKs (ks : List Nat) : List Nat := (ks.reverse.dropWhile (· == 0)).reverse
def Form.eqv (f g : Form) : Bool := f.c == g.c && trimKs f.ks == trimKs g.ks

structure SBlock where
  color : Nat
  count : Form
deriving Repr, DecidableEq, Inhabited

abbrev SSpan := List SBlock

structure STape where
  scan : Nat
  lspan : SSpan
  rspan : SSpan
deriving Repr, DecidableEq, Inhabited

def SSpan.inst (s : SSpan) (v : Val) : Span := s.map fun b => ⟨b.color, b.count.eval v⟩
def STape.inst (t : STape) (v : Val) : Tape := ⟨t.scan, SSpan.inst t.lspan v, SSpan.inst t.rspan v⟩

/-- every block count is at least 1 under every valuation: constant part ≥ 1 -/
def SSpan.posB (s : SSpan) : Bool := s.all fun b => b.count.c ≥ 1
def STape.posB (t : STape) : Bool := SSpan.posB t.lspan && SSpan.posB t.rspan

/-- `Span.pull` on a symbolic span: `none` when a decision is not determined.
    Returns (next scan, cells stepped, remaining span). -/
def SSpan.pull (s : SSpan) (scan : Nat) (skip : Bool) : Option (Nat × Form × SSpan) :=
  let (stepped, s1) : Form × SSpan :=
    match s with
    | b :: rest => if skip && b.color == scan then (b.count.succ, rest) else (Form.const 1, s)
    | [] => (Form.const 1, s)
  match s1 with
  | [] => some (0, stepped, [])
  | b :: rest =>
    if b.count.c ≥ 2 then some (b.color, stepped, ⟨b.color, ⟨b.count.c - 1, b.count.ks⟩⟩ :: rest)
    else if b.count.c == 1 && b.count.isConst then some (b.color, stepped, rest)
    else none

/-- `Span.push` on a symbolic span (always determined: it depends on colours only) -/
def SSpan.push (s : SSpan) (print : Nat) (stepped : Form) : SSpan :=
  match s with
  | b :: rest =>
    if b.color == print then ⟨b.color, b.count.add stepped⟩ :: rest
    else ⟨print, stepped⟩ :: s
  | [] => if print == 0 then [] else [⟨print, stepped⟩]

def STape.step (t : STape) (shift : Bool) (color : Nat) (skip : Bool) : Option (STape × Form) :=
  if shift then
    match SSpan.pull t.rspan t.scan skip with
    | some (ns, stepped, pull') => some (⟨ns, SSpan.push t.lspan color stepped, pull'⟩, stepped)
    | none => none
  else
    match SSpan.pull t.lspan t.scan skip with
    | some (ns, stepped, pull') => some (⟨ns, pull', SSpan.push t.rspan color stepped⟩, stepped)
    | none => none

def STape.atEdge (t : STape) (shift : Bool) : Bool :=
  t.scan == 0 && (if shift then t.rspan else t.lspan).isEmpty

inductive SymStep where
  | undefined
  | spinout
  | unknown
  | next (state : Nat) (tape : STape) (stepped : Form)

/-- one plain simulator cycle on a symbolic tape -/
def symStep (p : Prog) (q : Nat) (t : STape) : SymStep :=
  match p.get (q, t.scan) with
  | none => .undefined
  | some (color, shift, next) =>
    let same := q == next
    if same && t.atEdge shift then .spinout
    else match t.step shift color same with
      | some (t', k) => .next next t' k
      | none => .unknown

/-- the tape `s` with the constant part of each block count shifted by the given differences
    (left span, right span; one `Int` per block); `none` if the shapes differ or a constant would
    drop below 1 -/
def shiftSpan : SSpan → List Int → Option SSpan
  | [], [] => some []
  | b :: bs, d :: ds =>
    let c' : Int := (b.count.c : Int) + d
    if c' < 1 then none
    else (shiftSpan bs ds).map fun r => ⟨b.color, ⟨c'.toNat, b.count.ks⟩⟩ :: r
  | _, _ => none

def STape.shift (t : STape) (dl dr : List Int) : Option STape :=
  match shiftSpan t.lspan dl, shiftSpan t.rspan dr with
  | some l, some r => some ⟨t.scan, l, r⟩
  | _, _ => none

def SSpan.eqv : SSpan → SSpan → Bool
  | [], [] => true
  | a :: as, b :: bs => a.color == b.color && a.count.eqv b.count && SSpan.eqv as bs
  | _, _ => false

def STape.eqv (a b : STape) : Bool :=
  a.scan == b.scan && SSpan.eqv a.lspan b.lspan && SSpan.eqv a.rspan b.rspan

/-- run symbolic cycles from `(cur, t)` until the machine stands in state `q` on `target`
    (compared up to trailing zero coefficients); returns the number of cycles and the total number
    of base steps as a form -/
def symPeriodLoop (p : Prog) (q : Nat) (target : STape) :
    Nat → Nat → Form → Nat → STape → Option (Nat × Form)
  | 0, _, _, _, _ => none
  | fuel + 1, cycles, steps, cur, t =>
    match symStep p cur t with
    | .next cur' t' k =>
      if cur' == q && t'.eqv target then some (cycles + 1, steps.add k)
      else symPeriodLoop p q target fuel (cycles + 1) (steps.add k) cur' t'
    | _ => none

/-- `symPeriod p q s dl dr budget`: one period of the rule `s(x) ↦ s(x) + (dl, dr)` in state `q`,
    validated for all `x ≥ 0`: at least one cycle, no undefined instruction, no spin-out, every
    decision determined.  Returns (cycles, steps form). -/
def symPeriod (p : Prog) (q : Nat) (s : STape) (dl dr : List Int) (budget : Nat) :
    Option (Nat × Form) :=
  if !s.posB then none
  else match s.shift dl dr with
    | none => none
    | some target => symPeriodLoop p q target budget 0 (Form.const 0) q s

/-! ### From a reported application to a symbolic rule

`before`, `after`, `times` as reported by the hook.  The per-block difference must be
`(after - before) / times` exactly; a block the rule changes becomes `c + xᵢ` with its own
variable; the constant `c` is the smallest count the block has at the START of any of the `times`
periods: `before` for an increasing block, `after + |δ|` (the count before the last period) for a
decreasing one. -/

/-- per-block differences `(after - before) / times`; `none` unless the colours agree and the
    division is exact -/
def spanDiffs (times : Nat) : Span → Span → Option (List Int)
  | [], [] => some []
  | a :: as, b :: bs =>
    if a.color != b.color then none
    else
      let d : Int := (b.count : Int) - (a.count : Int)
      if d % (times : Int) != 0 then none
      else (spanDiffs times as bs).map fun r => d / (times : Int) :: r
  | _, _ => none

/-- symbolic span for `before`/diffs, numbering variables from `i`; returns the span, the start
    valuation (value of each new variable at the first period) and the next free index -/
def symSpan (times : Nat) : Span → List Int → Nat → SSpan × Val × Nat
  | a :: as, d :: ds, i =>
    if d == 0 then
      let (r, v, j) := symSpan times as ds i
      (⟨a.color, Form.const a.count⟩ :: r, v, j)
    else
      -- smallest count at the start of a period
      let c : Nat := if d > 0 then a.count else a.count - (times - 1) * d.natAbs
      let (r, v, j) := symSpan times as ds (i + 1)
      (⟨a.color, Form.var c i⟩ :: r, (a.count - c) :: v, j)
  | _, _, i => ([], [], i)

/-- `Σ_{j<t} f(x + j·δ)` for a steps form `f`, start valuation `x`, per-variable differences `δ`:
    `t·f(x) + Σᵢ kᵢ·δᵢ·t(t-1)/2` (an `Int` because `δ` may be negative; the result is ≥ 0) -/
def totalSteps (f : Form) (x : Val) (ds : List Int) (t : Nat) : Int :=
  (t : Int) * (f.eval x : Int) +
    (List.zipWith (fun (k : Nat) (d : Int) => (k : Int) * d) f.ks ds).foldl (· + ·) 0 * ((t : Int) * ((t : Int) - 1) / 2)

/-- validate a reported application symbolically: `some steps` = the real machine runs from
    `(q, before)` to `(q, after)` in exactly `steps` base steps -/
def validateApp (p : Prog) (q : Nat) (before after : Tape) (times budget : Nat) : Option Nat :=
  if times == 0 || before.scan != after.scan then none
  else match spanDiffs times before.lspan after.lspan, spanDiffs times before.rspan after.rspan with
    | some dl, some dr =>
      let (sl, vl, i) := symSpan times before.lspan dl 0
      let (sr, vr, _) := symSpan times before.rspan dr i
      let s : STape := ⟨before.scan, sl, sr⟩
      let v : Val := vl ++ vr
      -- the symbolic tape really denotes `before` at the start valuation
      if s.inst v != before then none
      else match symPeriod p q s dl dr budget with
        | some (_, f) =>
          let ds := (dl ++ dr).filter (· != 0)
          let n := totalSteps f v ds times
          if n < 1 then none else some n.toNat
        | none => none
    | _, _ => none

/-! ### Infinite rules

From `(q, t)`: run the plain simulator until the first later cycle at which the machine is in state
`q` on a tape of the same shape (same scan, same block colours) whose counts are all `≥` those of
`t`; make the grown blocks variables and validate that period symbolically.  Then the machine runs
for ever: each period is at least one step, meets no undefined instruction, and leads to a tape of
the same symbolic family. -/

def sameShapeGrow : Span → Span → Option (List Int)
  | [], [] => some []
  | a :: as, b :: bs =>
    if a.color != b.color || b.count < a.count then none
    else (sameShapeGrow as bs).map fun r => ((b.count : Int) - (a.count : Int)) :: r
  | _, _ => none

/-- search for the period by plain simulation (at most `budget` cycles) -/
def findGrow (p : Prog) (q : Nat) (t0 : Tape) : Nat → Nat → Tape → Option (List Int × List Int)
  | 0, _, _ => none
  | fuel + 1, cur, t =>
    match plainStep p cur t with
    | .next cur' t' _ =>
      if cur' == q && t'.scan == t0.scan then
        match sameShapeGrow t0.lspan t'.lspan, sameShapeGrow t0.rspan t'.rspan with
        | some dl, some dr => some (dl, dr)
        | _, _ => findGrow p q t0 fuel cur' t'
      else findGrow p q t0 fuel cur' t'
    | _ => none

/-- `true` = from `(q, t)` the machine never halts (and never spins out) -/
def validateInf (p : Prog) (q : Nat) (t : Tape) (budget : Nat) : Bool :=
  match findGrow p q t budget q t with
  | none => false
  | some (dl, dr) =>
    let (sl, vl, i) := symSpan 1 t.lspan dl 0
    let (sr, vr, _) := symSpan 1 t.rspan dr i
    let s : STape := ⟨t.scan, sl, sr⟩
    if s.inst (vl ++ vr) != t then false
    else (symPeriod p q s dl dr budget).isSome

end BB.Sym
