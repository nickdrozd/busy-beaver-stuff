/-
GENERATED by /verif/tools/extract_num.py from tm/num.py — do not edit, it is rewritten on every check.
One theorem per literal special case of `Exp.__mod__` and per literal table entry of
`exp_mod_special_cases`; the name ends in the num.py line (`_L<line>`).  Every proof is an instance of
BB.PowMod.entry_of_ok / row_of_ok / reduce_of_ok (periodicity of `e ↦ b^e % m`, proved once by hand)
whose only premise is a closed Boolean evaluated by the kernel (`decide +kernel`): one finite check,
labelled as such (DESIGN §4).
-/
import BB.Lemmas.PowMod
import BB.Generated.NumTablesData

namespace BB.NumTables
open BB.PowMod

/-- num.py:879  `return 0` -/
theorem exp_mod_m1_L879 :
    ∀ b e : Nat, b ^ e % 1 = 0 :=
  pow_mod_one

/-- num.py:884  `return 0` -/
theorem exp_mod_mbase_L884 :
    ∀ b e : Nat, 0 < e → b ^ e % b = 0 :=
  pow_mod_self

/-- num.py:887  `return base % 2` -/
theorem exp_mod_m2_L887 :
    ∀ b e : Nat, 0 < e → b ^ e % 2 = b % 2 :=
  pow_mod_two

/-- num.py:899  `return 0` -/
theorem exp_mod_b2_m4_L899 :
    ∀ e : Nat, 1 < e → 2 ^ e % 4 = 0 :=
  fun e h => row_of_ok (by decide +kernel) e h (Nat.mod_one e)

/-- num.py:902  `return 4 if exp % 2 == 0 else 2` -/
theorem exp_mod_b2_m6_L902 :
    ∀ e : Nat, 1 < e → 2 ^ e % 6 = if e % 2 = 0 then 4 else 2 :=
  by
  intro e h
  split
  · next hc => exact row_of_ok (by decide +kernel) e h hc
  · next hc =>
    exact row_of_ok (p := 2) (r := 1) (by decide +kernel) e h (by omega)

/-- num.py:905  `return 4 if exp % 2 == 0 else 8` -/
theorem exp_mod_b2_m12_L905 :
    ∀ e : Nat, 1 < e → 2 ^ e % 12 = if e % 2 = 0 then 4 else 8 :=
  by
  intro e h
  split
  · next hc => exact row_of_ok (by decide +kernel) e h hc
  · next hc =>
    exact row_of_ok (p := 2) (r := 1) (by decide +kernel) e h (by omega)

/-- num.py:910  `return 8` -/
theorem exp_mod_b2_m30_case3_L910 :
    ∀ e : Nat, 1 < e → e % 4 = 3 → 2 ^ e % 30 = 8 :=
  row_of_ok (by decide +kernel)

/-- num.py:912  `return 16` -/
theorem exp_mod_b2_m30_case0_L912 :
    ∀ e : Nat, 1 < e → e % 4 = 0 → 2 ^ e % 30 = 16 :=
  row_of_ok (by decide +kernel)

/-- num.py:914  `return 2` -/
theorem exp_mod_b2_m30_case1_L914 :
    ∀ e : Nat, 1 < e → e % 4 = 1 → 2 ^ e % 30 = 2 :=
  row_of_ok (by decide +kernel)

/-- num.py:916  `return 4` -/
theorem exp_mod_b2_m30_case2_L916 :
    ∀ e : Nat, 1 < e → e % 4 = 2 → 2 ^ e % 30 = 4 :=
  row_of_ok (by decide +kernel)

/-- num.py:920  `return 3` -/
theorem exp_mod_b3_m6_L920 :
    ∀ e : Nat, 1 < e → 3 ^ e % 6 = 3 :=
  fun e h => row_of_ok (by decide +kernel) e h (Nat.mod_one e)

/-- num.py:923  `exp %= int(2 ** max(int(log_mod) - 2, 1))` -/
theorem exp_mod_b3_pow2_n2_L923 :
    ∀ e e' : Nat, e % 2 = e' % 2 → 3 ^ e % 4 = 3 ^ e' % 4 :=
  depends_only_of_ok (by decide +kernel)

/-- num.py:923  `exp %= int(2 ** max(int(log_mod) - 2, 1))` -/
theorem exp_mod_b3_pow2_n3_L923 :
    ∀ e e' : Nat, e % 2 = e' % 2 → 3 ^ e % 8 = 3 ^ e' % 8 :=
  depends_only_of_ok (by decide +kernel)

/-- num.py:923  `exp %= int(2 ** max(int(log_mod) - 2, 1))` -/
theorem exp_mod_b3_pow2_n4_L923 :
    ∀ e e' : Nat, e % 4 = e' % 4 → 3 ^ e % 16 = 3 ^ e' % 16 :=
  depends_only_of_ok (by decide +kernel)

/-- num.py:923  `exp %= int(2 ** max(int(log_mod) - 2, 1))` -/
theorem exp_mod_b3_pow2_n5_L923 :
    ∀ e e' : Nat, e % 8 = e' % 8 → 3 ^ e % 32 = 3 ^ e' % 32 :=
  depends_only_of_ok (by decide +kernel)

/-- num.py:923  `exp %= int(2 ** max(int(log_mod) - 2, 1))` -/
theorem exp_mod_b3_pow2_n6_L923 :
    ∀ e e' : Nat, e % 16 = e' % 16 → 3 ^ e % 64 = 3 ^ e' % 64 :=
  depends_only_of_ok (by decide +kernel)

/-- num.py:923  `exp %= int(2 ** max(int(log_mod) - 2, 1))` -/
theorem exp_mod_b3_pow2_n7_L923 :
    ∀ e e' : Nat, e % 32 = e' % 32 → 3 ^ e % 128 = 3 ^ e' % 128 :=
  depends_only_of_ok (by decide +kernel)

/-- num.py:923  `exp %= int(2 ** max(int(log_mod) - 2, 1))` -/
theorem exp_mod_b3_pow2_n8_L923 :
    ∀ e e' : Nat, e % 64 = e' % 64 → 3 ^ e % 256 = 3 ^ e' % 256 :=
  depends_only_of_ok (by decide +kernel)

/-- num.py:923  `exp %= int(2 ** max(int(log_mod) - 2, 1))` -/
theorem exp_mod_b3_pow2_n9_L923 :
    ∀ e e' : Nat, e % 128 = e' % 128 → 3 ^ e % 512 = 3 ^ e' % 512 :=
  depends_only_of_ok (by decide +kernel)

/-- num.py:923  `exp %= int(2 ** max(int(log_mod) - 2, 1))` -/
theorem exp_mod_b3_pow2_n10_L923 :
    ∀ e e' : Nat, e % 256 = e' % 256 → 3 ^ e % 1024 = 3 ^ e' % 1024 :=
  depends_only_of_ok (by decide +kernel)

/-- num.py:923  `exp %= int(2 ** max(int(log_mod) - 2, 1))` -/
theorem exp_mod_b3_pow2_n11_L923 :
    ∀ e e' : Nat, e % 512 = e' % 512 → 3 ^ e % 2048 = 3 ^ e' % 2048 :=
  depends_only_of_ok (by decide +kernel)

/-- num.py:923  `exp %= int(2 ** max(int(log_mod) - 2, 1))` -/
theorem exp_mod_b3_pow2_n12_L923 :
    ∀ e e' : Nat, e % 1024 = e' % 1024 → 3 ^ e % 4096 = 3 ^ e' % 4096 :=
  depends_only_of_ok (by decide +kernel)

/-- num.py:923  `exp %= int(2 ** max(int(log_mod) - 2, 1))` -/
theorem exp_mod_b3_pow2_n13_L923 :
    ∀ e e' : Nat, e % 2048 = e' % 2048 → 3 ^ e % 8192 = 3 ^ e' % 8192 :=
  depends_only_of_ok (by decide +kernel)

/-- num.py:923  `exp %= int(2 ** max(int(log_mod) - 2, 1))` -/
theorem exp_mod_b3_pow2_n14_L923 :
    ∀ e e' : Nat, e % 4096 = e' % 4096 → 3 ^ e % 16384 = 3 ^ e' % 16384 :=
  depends_only_of_ok (by decide +kernel)

/-- num.py:923  `exp %= int(2 ** max(int(log_mod) - 2, 1))` -/
theorem exp_mod_b3_pow2_n15_L923 :
    ∀ e e' : Nat, e % 8192 = e' % 8192 → 3 ^ e % 32768 = 3 ^ e' % 32768 :=
  depends_only_of_ok (by decide +kernel)

/-- num.py:923  `exp %= int(2 ** max(int(log_mod) - 2, 1))` -/
theorem exp_mod_b3_pow2_n16_L923 :
    ∀ e e' : Nat, e % 16384 = e' % 16384 → 3 ^ e % 65536 = 3 ^ e' % 65536 :=
  depends_only_of_ok (by decide +kernel)

/-- num.py:923  `exp %= int(2 ** max(int(log_mod) - 2, 1))` -/
theorem exp_mod_b3_pow2_n17_L923 :
    ∀ e e' : Nat, e % 32768 = e' % 32768 → 3 ^ e % 131072 = 3 ^ e' % 131072 :=
  depends_only_of_ok (by decide +kernel)

/-- num.py:923  `exp %= int(2 ** max(int(log_mod) - 2, 1))` -/
theorem exp_mod_b3_pow2_n18_L923 :
    ∀ e e' : Nat, e % 65536 = e' % 65536 → 3 ^ e % 262144 = 3 ^ e' % 262144 :=
  depends_only_of_ok (by decide +kernel)

/-- num.py:923  `exp %= int(2 ** max(int(log_mod) - 2, 1))` -/
theorem exp_mod_b3_pow2_n19_L923 :
    ∀ e e' : Nat, e % 131072 = e' % 131072 → 3 ^ e % 524288 = 3 ^ e' % 524288 :=
  depends_only_of_ok (by decide +kernel)

/-- num.py:923  `exp %= int(2 ** max(int(log_mod) - 2, 1))` -/
theorem exp_mod_b3_pow2_n20_L923 :
    ∀ e e' : Nat, e % 262144 = e' % 262144 → 3 ^ e % 1048576 = 3 ^ e' % 1048576 :=
  depends_only_of_ok (by decide +kernel)

/-- num.py:923  `exp %= int(2 ** max(int(log_mod) - 2, 1))` -/
theorem exp_mod_b3_pow2_n21_L923 :
    ∀ e e' : Nat, e % 524288 = e' % 524288 → 3 ^ e % 2097152 = 3 ^ e' % 2097152 :=
  depends_only_of_ok (by decide +kernel)

/-- num.py:923  `exp %= int(2 ** max(int(log_mod) - 2, 1))` -/
theorem exp_mod_b3_pow2_n22_L923 :
    ∀ e e' : Nat, e % 1048576 = e' % 1048576 → 3 ^ e % 4194304 = 3 ^ e' % 4194304 :=
  depends_only_of_ok (by decide +kernel)

/-- num.py:923  `exp %= int(2 ** max(int(log_mod) - 2, 1))` -/
theorem exp_mod_b3_pow2_n23_L923 :
    ∀ e e' : Nat, e % 2097152 = e' % 2097152 → 3 ^ e % 8388608 = 3 ^ e' % 8388608 :=
  depends_only_of_ok (by decide +kernel)

/-- num.py:927  `return 6` -/
theorem exp_mod_b6_m10_L927 :
    ∀ e : Nat, 1 < e → 6 ^ e % 10 = 6 :=
  fun e h => row_of_ok (by decide +kernel) e h (Nat.mod_one e)

/-- num.py:931  `return 1 if exp % 2 == 0 else 7` -/
theorem exp_mod_b7_m12_L931 :
    ∀ e : Nat, 1 < e → 7 ^ e % 12 = if e % 2 = 0 then 1 else 7 :=
  by
  intro e h
  split
  · next hc => exact row_of_ok (by decide +kernel) e h hc
  · next hc =>
    exact row_of_ok (p := 2) (r := 1) (by decide +kernel) e h (by omega)

/-- num.py:1359  `return period` -/
theorem find_period_sound_L1359 :
    ∀ b m p : Nat, 0 < p → b ^ p % m = 1 % m → ∀ e, b ^ e % m = b ^ (e % p) % m :=
  period_sound

/-- num.py:1374  `0: 28,` -/
theorem special_b2_m54_r0_L1374 :
    ∀ e : Nat, 1 < e → e % 18 = 0 → (2 : Nat) ^ e % 54 = 28 :=
  row_of_ok (by decide +kernel)

/-- num.py:1375  `1: 2,` -/
theorem special_b2_m54_r1_L1375 :
    ∀ e : Nat, 1 < e → e % 18 = 1 → (2 : Nat) ^ e % 54 = 2 :=
  row_of_ok (by decide +kernel)

/-- num.py:1376  `2: 4,` -/
theorem special_b2_m54_r2_L1376 :
    ∀ e : Nat, 1 < e → e % 18 = 2 → (2 : Nat) ^ e % 54 = 4 :=
  row_of_ok (by decide +kernel)

/-- num.py:1377  `3: 8,` -/
theorem special_b2_m54_r3_L1377 :
    ∀ e : Nat, 1 < e → e % 18 = 3 → (2 : Nat) ^ e % 54 = 8 :=
  row_of_ok (by decide +kernel)

/-- num.py:1378  `4: 16,` -/
theorem special_b2_m54_r4_L1378 :
    ∀ e : Nat, 1 < e → e % 18 = 4 → (2 : Nat) ^ e % 54 = 16 :=
  row_of_ok (by decide +kernel)

/-- num.py:1379  `5: 32,` -/
theorem special_b2_m54_r5_L1379 :
    ∀ e : Nat, 1 < e → e % 18 = 5 → (2 : Nat) ^ e % 54 = 32 :=
  row_of_ok (by decide +kernel)

/-- num.py:1380  `6: 10,` -/
theorem special_b2_m54_r6_L1380 :
    ∀ e : Nat, 1 < e → e % 18 = 6 → (2 : Nat) ^ e % 54 = 10 :=
  row_of_ok (by decide +kernel)

/-- num.py:1381  `7: 20,` -/
theorem special_b2_m54_r7_L1381 :
    ∀ e : Nat, 1 < e → e % 18 = 7 → (2 : Nat) ^ e % 54 = 20 :=
  row_of_ok (by decide +kernel)

/-- num.py:1382  `8: 40,` -/
theorem special_b2_m54_r8_L1382 :
    ∀ e : Nat, 1 < e → e % 18 = 8 → (2 : Nat) ^ e % 54 = 40 :=
  row_of_ok (by decide +kernel)

/-- num.py:1383  `9: 26,` -/
theorem special_b2_m54_r9_L1383 :
    ∀ e : Nat, 1 < e → e % 18 = 9 → (2 : Nat) ^ e % 54 = 26 :=
  row_of_ok (by decide +kernel)

/-- num.py:1384  `10: 52,` -/
theorem special_b2_m54_r10_L1384 :
    ∀ e : Nat, 1 < e → e % 18 = 10 → (2 : Nat) ^ e % 54 = 52 :=
  row_of_ok (by decide +kernel)

/-- num.py:1385  `11: 50,` -/
theorem special_b2_m54_r11_L1385 :
    ∀ e : Nat, 1 < e → e % 18 = 11 → (2 : Nat) ^ e % 54 = 50 :=
  row_of_ok (by decide +kernel)

/-- num.py:1386  `12: 46,` -/
theorem special_b2_m54_r12_L1386 :
    ∀ e : Nat, 1 < e → e % 18 = 12 → (2 : Nat) ^ e % 54 = 46 :=
  row_of_ok (by decide +kernel)

/-- num.py:1387  `13: 38,` -/
theorem special_b2_m54_r13_L1387 :
    ∀ e : Nat, 1 < e → e % 18 = 13 → (2 : Nat) ^ e % 54 = 38 :=
  row_of_ok (by decide +kernel)

/-- num.py:1388  `14: 22,` -/
theorem special_b2_m54_r14_L1388 :
    ∀ e : Nat, 1 < e → e % 18 = 14 → (2 : Nat) ^ e % 54 = 22 :=
  row_of_ok (by decide +kernel)

/-- num.py:1389  `15: 44,` -/
theorem special_b2_m54_r15_L1389 :
    ∀ e : Nat, 1 < e → e % 18 = 15 → (2 : Nat) ^ e % 54 = 44 :=
  row_of_ok (by decide +kernel)

/-- num.py:1390  `16: 34,` -/
theorem special_b2_m54_r16_L1390 :
    ∀ e : Nat, 1 < e → e % 18 = 16 → (2 : Nat) ^ e % 54 = 34 :=
  row_of_ok (by decide +kernel)

/-- num.py:1391  `17: 14,` -/
theorem special_b2_m54_r17_L1391 :
    ∀ e : Nat, 1 < e → e % 18 = 17 → (2 : Nat) ^ e % 54 = 14 :=
  row_of_ok (by decide +kernel)

/-- num.py:1395  `0: 82,` -/
theorem special_b2_m162_r0_L1395 :
    ∀ e : Nat, 1 < e → e % 54 = 0 → (2 : Nat) ^ e % 162 = 82 :=
  row_of_ok (by decide +kernel)

/-- num.py:1396  `1: 2,` -/
theorem special_b2_m162_r1_L1396 :
    ∀ e : Nat, 1 < e → e % 54 = 1 → (2 : Nat) ^ e % 162 = 2 :=
  row_of_ok (by decide +kernel)

/-- num.py:1397  `2: 4,` -/
theorem special_b2_m162_r2_L1397 :
    ∀ e : Nat, 1 < e → e % 54 = 2 → (2 : Nat) ^ e % 162 = 4 :=
  row_of_ok (by decide +kernel)

/-- num.py:1398  `3: 8,` -/
theorem special_b2_m162_r3_L1398 :
    ∀ e : Nat, 1 < e → e % 54 = 3 → (2 : Nat) ^ e % 162 = 8 :=
  row_of_ok (by decide +kernel)

/-- num.py:1399  `4: 16,` -/
theorem special_b2_m162_r4_L1399 :
    ∀ e : Nat, 1 < e → e % 54 = 4 → (2 : Nat) ^ e % 162 = 16 :=
  row_of_ok (by decide +kernel)

/-- num.py:1400  `5: 32,` -/
theorem special_b2_m162_r5_L1400 :
    ∀ e : Nat, 1 < e → e % 54 = 5 → (2 : Nat) ^ e % 162 = 32 :=
  row_of_ok (by decide +kernel)

/-- num.py:1401  `6: 64,` -/
theorem special_b2_m162_r6_L1401 :
    ∀ e : Nat, 1 < e → e % 54 = 6 → (2 : Nat) ^ e % 162 = 64 :=
  row_of_ok (by decide +kernel)

/-- num.py:1402  `7: 128,` -/
theorem special_b2_m162_r7_L1402 :
    ∀ e : Nat, 1 < e → e % 54 = 7 → (2 : Nat) ^ e % 162 = 128 :=
  row_of_ok (by decide +kernel)

/-- num.py:1403  `8: 94,` -/
theorem special_b2_m162_r8_L1403 :
    ∀ e : Nat, 1 < e → e % 54 = 8 → (2 : Nat) ^ e % 162 = 94 :=
  row_of_ok (by decide +kernel)

/-- num.py:1404  `9: 26,` -/
theorem special_b2_m162_r9_L1404 :
    ∀ e : Nat, 1 < e → e % 54 = 9 → (2 : Nat) ^ e % 162 = 26 :=
  row_of_ok (by decide +kernel)

/-- num.py:1405  `10: 52,` -/
theorem special_b2_m162_r10_L1405 :
    ∀ e : Nat, 1 < e → e % 54 = 10 → (2 : Nat) ^ e % 162 = 52 :=
  row_of_ok (by decide +kernel)

/-- num.py:1406  `11: 104,` -/
theorem special_b2_m162_r11_L1406 :
    ∀ e : Nat, 1 < e → e % 54 = 11 → (2 : Nat) ^ e % 162 = 104 :=
  row_of_ok (by decide +kernel)

/-- num.py:1407  `12: 46,` -/
theorem special_b2_m162_r12_L1407 :
    ∀ e : Nat, 1 < e → e % 54 = 12 → (2 : Nat) ^ e % 162 = 46 :=
  row_of_ok (by decide +kernel)

/-- num.py:1408  `13: 92,` -/
theorem special_b2_m162_r13_L1408 :
    ∀ e : Nat, 1 < e → e % 54 = 13 → (2 : Nat) ^ e % 162 = 92 :=
  row_of_ok (by decide +kernel)

/-- num.py:1409  `14: 22,` -/
theorem special_b2_m162_r14_L1409 :
    ∀ e : Nat, 1 < e → e % 54 = 14 → (2 : Nat) ^ e % 162 = 22 :=
  row_of_ok (by decide +kernel)

/-- num.py:1410  `15: 44,` -/
theorem special_b2_m162_r15_L1410 :
    ∀ e : Nat, 1 < e → e % 54 = 15 → (2 : Nat) ^ e % 162 = 44 :=
  row_of_ok (by decide +kernel)

/-- num.py:1411  `16: 88,` -/
theorem special_b2_m162_r16_L1411 :
    ∀ e : Nat, 1 < e → e % 54 = 16 → (2 : Nat) ^ e % 162 = 88 :=
  row_of_ok (by decide +kernel)

/-- num.py:1412  `17: 14,` -/
theorem special_b2_m162_r17_L1412 :
    ∀ e : Nat, 1 < e → e % 54 = 17 → (2 : Nat) ^ e % 162 = 14 :=
  row_of_ok (by decide +kernel)

/-- num.py:1413  `18: 28,` -/
theorem special_b2_m162_r18_L1413 :
    ∀ e : Nat, 1 < e → e % 54 = 18 → (2 : Nat) ^ e % 162 = 28 :=
  row_of_ok (by decide +kernel)

/-- num.py:1414  `19: 56,` -/
theorem special_b2_m162_r19_L1414 :
    ∀ e : Nat, 1 < e → e % 54 = 19 → (2 : Nat) ^ e % 162 = 56 :=
  row_of_ok (by decide +kernel)

/-- num.py:1415  `20: 112,` -/
theorem special_b2_m162_r20_L1415 :
    ∀ e : Nat, 1 < e → e % 54 = 20 → (2 : Nat) ^ e % 162 = 112 :=
  row_of_ok (by decide +kernel)

/-- num.py:1416  `21: 62,` -/
theorem special_b2_m162_r21_L1416 :
    ∀ e : Nat, 1 < e → e % 54 = 21 → (2 : Nat) ^ e % 162 = 62 :=
  row_of_ok (by decide +kernel)

/-- num.py:1417  `22: 124,` -/
theorem special_b2_m162_r22_L1417 :
    ∀ e : Nat, 1 < e → e % 54 = 22 → (2 : Nat) ^ e % 162 = 124 :=
  row_of_ok (by decide +kernel)

/-- num.py:1418  `23: 86,` -/
theorem special_b2_m162_r23_L1418 :
    ∀ e : Nat, 1 < e → e % 54 = 23 → (2 : Nat) ^ e % 162 = 86 :=
  row_of_ok (by decide +kernel)

/-- num.py:1419  `24: 10,` -/
theorem special_b2_m162_r24_L1419 :
    ∀ e : Nat, 1 < e → e % 54 = 24 → (2 : Nat) ^ e % 162 = 10 :=
  row_of_ok (by decide +kernel)

/-- num.py:1420  `25: 20,` -/
theorem special_b2_m162_r25_L1420 :
    ∀ e : Nat, 1 < e → e % 54 = 25 → (2 : Nat) ^ e % 162 = 20 :=
  row_of_ok (by decide +kernel)

/-- num.py:1421  `26: 40,` -/
theorem special_b2_m162_r26_L1421 :
    ∀ e : Nat, 1 < e → e % 54 = 26 → (2 : Nat) ^ e % 162 = 40 :=
  row_of_ok (by decide +kernel)

/-- num.py:1422  `27: 80,` -/
theorem special_b2_m162_r27_L1422 :
    ∀ e : Nat, 1 < e → e % 54 = 27 → (2 : Nat) ^ e % 162 = 80 :=
  row_of_ok (by decide +kernel)

/-- num.py:1423  `28: 160,` -/
theorem special_b2_m162_r28_L1423 :
    ∀ e : Nat, 1 < e → e % 54 = 28 → (2 : Nat) ^ e % 162 = 160 :=
  row_of_ok (by decide +kernel)

/-- num.py:1424  `29: 158,` -/
theorem special_b2_m162_r29_L1424 :
    ∀ e : Nat, 1 < e → e % 54 = 29 → (2 : Nat) ^ e % 162 = 158 :=
  row_of_ok (by decide +kernel)

/-- num.py:1425  `30: 154,` -/
theorem special_b2_m162_r30_L1425 :
    ∀ e : Nat, 1 < e → e % 54 = 30 → (2 : Nat) ^ e % 162 = 154 :=
  row_of_ok (by decide +kernel)

/-- num.py:1426  `31: 146,` -/
theorem special_b2_m162_r31_L1426 :
    ∀ e : Nat, 1 < e → e % 54 = 31 → (2 : Nat) ^ e % 162 = 146 :=
  row_of_ok (by decide +kernel)

/-- num.py:1427  `32: 130,` -/
theorem special_b2_m162_r32_L1427 :
    ∀ e : Nat, 1 < e → e % 54 = 32 → (2 : Nat) ^ e % 162 = 130 :=
  row_of_ok (by decide +kernel)

/-- num.py:1428  `33: 98,` -/
theorem special_b2_m162_r33_L1428 :
    ∀ e : Nat, 1 < e → e % 54 = 33 → (2 : Nat) ^ e % 162 = 98 :=
  row_of_ok (by decide +kernel)

/-- num.py:1429  `34: 34,` -/
theorem special_b2_m162_r34_L1429 :
    ∀ e : Nat, 1 < e → e % 54 = 34 → (2 : Nat) ^ e % 162 = 34 :=
  row_of_ok (by decide +kernel)

/-- num.py:1430  `35: 68,` -/
theorem special_b2_m162_r35_L1430 :
    ∀ e : Nat, 1 < e → e % 54 = 35 → (2 : Nat) ^ e % 162 = 68 :=
  row_of_ok (by decide +kernel)

/-- num.py:1431  `36: 136,` -/
theorem special_b2_m162_r36_L1431 :
    ∀ e : Nat, 1 < e → e % 54 = 36 → (2 : Nat) ^ e % 162 = 136 :=
  row_of_ok (by decide +kernel)

/-- num.py:1432  `37: 110,` -/
theorem special_b2_m162_r37_L1432 :
    ∀ e : Nat, 1 < e → e % 54 = 37 → (2 : Nat) ^ e % 162 = 110 :=
  row_of_ok (by decide +kernel)

/-- num.py:1433  `38: 58,` -/
theorem special_b2_m162_r38_L1433 :
    ∀ e : Nat, 1 < e → e % 54 = 38 → (2 : Nat) ^ e % 162 = 58 :=
  row_of_ok (by decide +kernel)

/-- num.py:1434  `39: 116,` -/
theorem special_b2_m162_r39_L1434 :
    ∀ e : Nat, 1 < e → e % 54 = 39 → (2 : Nat) ^ e % 162 = 116 :=
  row_of_ok (by decide +kernel)

/-- num.py:1435  `40: 70,` -/
theorem special_b2_m162_r40_L1435 :
    ∀ e : Nat, 1 < e → e % 54 = 40 → (2 : Nat) ^ e % 162 = 70 :=
  row_of_ok (by decide +kernel)

/-- num.py:1436  `41: 140,` -/
theorem special_b2_m162_r41_L1436 :
    ∀ e : Nat, 1 < e → e % 54 = 41 → (2 : Nat) ^ e % 162 = 140 :=
  row_of_ok (by decide +kernel)

/-- num.py:1437  `42: 118,` -/
theorem special_b2_m162_r42_L1437 :
    ∀ e : Nat, 1 < e → e % 54 = 42 → (2 : Nat) ^ e % 162 = 118 :=
  row_of_ok (by decide +kernel)

/-- num.py:1438  `43: 74,` -/
theorem special_b2_m162_r43_L1438 :
    ∀ e : Nat, 1 < e → e % 54 = 43 → (2 : Nat) ^ e % 162 = 74 :=
  row_of_ok (by decide +kernel)

/-- num.py:1439  `44: 148,` -/
theorem special_b2_m162_r44_L1439 :
    ∀ e : Nat, 1 < e → e % 54 = 44 → (2 : Nat) ^ e % 162 = 148 :=
  row_of_ok (by decide +kernel)

/-- num.py:1440  `45: 134,` -/
theorem special_b2_m162_r45_L1440 :
    ∀ e : Nat, 1 < e → e % 54 = 45 → (2 : Nat) ^ e % 162 = 134 :=
  row_of_ok (by decide +kernel)

/-- num.py:1441  `46: 106,` -/
theorem special_b2_m162_r46_L1441 :
    ∀ e : Nat, 1 < e → e % 54 = 46 → (2 : Nat) ^ e % 162 = 106 :=
  row_of_ok (by decide +kernel)

/-- num.py:1442  `47: 50,` -/
theorem special_b2_m162_r47_L1442 :
    ∀ e : Nat, 1 < e → e % 54 = 47 → (2 : Nat) ^ e % 162 = 50 :=
  row_of_ok (by decide +kernel)

/-- num.py:1443  `48: 100,` -/
theorem special_b2_m162_r48_L1443 :
    ∀ e : Nat, 1 < e → e % 54 = 48 → (2 : Nat) ^ e % 162 = 100 :=
  row_of_ok (by decide +kernel)

/-- num.py:1444  `49: 38,` -/
theorem special_b2_m162_r49_L1444 :
    ∀ e : Nat, 1 < e → e % 54 = 49 → (2 : Nat) ^ e % 162 = 38 :=
  row_of_ok (by decide +kernel)

/-- num.py:1445  `50: 76,` -/
theorem special_b2_m162_r50_L1445 :
    ∀ e : Nat, 1 < e → e % 54 = 50 → (2 : Nat) ^ e % 162 = 76 :=
  row_of_ok (by decide +kernel)

/-- num.py:1446  `51: 152,` -/
theorem special_b2_m162_r51_L1446 :
    ∀ e : Nat, 1 < e → e % 54 = 51 → (2 : Nat) ^ e % 162 = 152 :=
  row_of_ok (by decide +kernel)

/-- num.py:1447  `52: 142,` -/
theorem special_b2_m162_r52_L1447 :
    ∀ e : Nat, 1 < e → e % 54 = 52 → (2 : Nat) ^ e % 162 = 142 :=
  row_of_ok (by decide +kernel)

/-- num.py:1448  `53: 122,` -/
theorem special_b2_m162_r53_L1448 :
    ∀ e : Nat, 1 < e → e % 54 = 53 → (2 : Nat) ^ e % 162 = 122 :=
  row_of_ok (by decide +kernel)

/-- num.py:1452  `0: 244,` -/
theorem special_b2_m486_r0_L1452 :
    ∀ e : Nat, 1 < e → e % 162 = 0 → (2 : Nat) ^ e % 486 = 244 :=
  row_of_ok (by decide +kernel)

/-- num.py:1453  `1: 2,` -/
theorem special_b2_m486_r1_L1453 :
    ∀ e : Nat, 1 < e → e % 162 = 1 → (2 : Nat) ^ e % 486 = 2 :=
  row_of_ok (by decide +kernel)

/-- num.py:1454  `2: 4,` -/
theorem special_b2_m486_r2_L1454 :
    ∀ e : Nat, 1 < e → e % 162 = 2 → (2 : Nat) ^ e % 486 = 4 :=
  row_of_ok (by decide +kernel)

/-- num.py:1455  `3: 8,` -/
theorem special_b2_m486_r3_L1455 :
    ∀ e : Nat, 1 < e → e % 162 = 3 → (2 : Nat) ^ e % 486 = 8 :=
  row_of_ok (by decide +kernel)

/-- num.py:1456  `4: 16,` -/
theorem special_b2_m486_r4_L1456 :
    ∀ e : Nat, 1 < e → e % 162 = 4 → (2 : Nat) ^ e % 486 = 16 :=
  row_of_ok (by decide +kernel)

/-- num.py:1457  `5: 32,` -/
theorem special_b2_m486_r5_L1457 :
    ∀ e : Nat, 1 < e → e % 162 = 5 → (2 : Nat) ^ e % 486 = 32 :=
  row_of_ok (by decide +kernel)

/-- num.py:1458  `6: 64,` -/
theorem special_b2_m486_r6_L1458 :
    ∀ e : Nat, 1 < e → e % 162 = 6 → (2 : Nat) ^ e % 486 = 64 :=
  row_of_ok (by decide +kernel)

/-- num.py:1459  `7: 128,` -/
theorem special_b2_m486_r7_L1459 :
    ∀ e : Nat, 1 < e → e % 162 = 7 → (2 : Nat) ^ e % 486 = 128 :=
  row_of_ok (by decide +kernel)

/-- num.py:1460  `8: 256,` -/
theorem special_b2_m486_r8_L1460 :
    ∀ e : Nat, 1 < e → e % 162 = 8 → (2 : Nat) ^ e % 486 = 256 :=
  row_of_ok (by decide +kernel)

/-- num.py:1461  `9: 26,` -/
theorem special_b2_m486_r9_L1461 :
    ∀ e : Nat, 1 < e → e % 162 = 9 → (2 : Nat) ^ e % 486 = 26 :=
  row_of_ok (by decide +kernel)

/-- num.py:1462  `10: 52,` -/
theorem special_b2_m486_r10_L1462 :
    ∀ e : Nat, 1 < e → e % 162 = 10 → (2 : Nat) ^ e % 486 = 52 :=
  row_of_ok (by decide +kernel)

/-- num.py:1463  `11: 104,` -/
theorem special_b2_m486_r11_L1463 :
    ∀ e : Nat, 1 < e → e % 162 = 11 → (2 : Nat) ^ e % 486 = 104 :=
  row_of_ok (by decide +kernel)

/-- num.py:1464  `12: 208,` -/
theorem special_b2_m486_r12_L1464 :
    ∀ e : Nat, 1 < e → e % 162 = 12 → (2 : Nat) ^ e % 486 = 208 :=
  row_of_ok (by decide +kernel)

/-- num.py:1465  `13: 416,` -/
theorem special_b2_m486_r13_L1465 :
    ∀ e : Nat, 1 < e → e % 162 = 13 → (2 : Nat) ^ e % 486 = 416 :=
  row_of_ok (by decide +kernel)

/-- num.py:1466  `14: 346,` -/
theorem special_b2_m486_r14_L1466 :
    ∀ e : Nat, 1 < e → e % 162 = 14 → (2 : Nat) ^ e % 486 = 346 :=
  row_of_ok (by decide +kernel)

/-- num.py:1467  `15: 206,` -/
theorem special_b2_m486_r15_L1467 :
    ∀ e : Nat, 1 < e → e % 162 = 15 → (2 : Nat) ^ e % 486 = 206 :=
  row_of_ok (by decide +kernel)

/-- num.py:1468  `16: 412,` -/
theorem special_b2_m486_r16_L1468 :
    ∀ e : Nat, 1 < e → e % 162 = 16 → (2 : Nat) ^ e % 486 = 412 :=
  row_of_ok (by decide +kernel)

/-- num.py:1469  `17: 338,` -/
theorem special_b2_m486_r17_L1469 :
    ∀ e : Nat, 1 < e → e % 162 = 17 → (2 : Nat) ^ e % 486 = 338 :=
  row_of_ok (by decide +kernel)

/-- num.py:1470  `18: 190,` -/
theorem special_b2_m486_r18_L1470 :
    ∀ e : Nat, 1 < e → e % 162 = 18 → (2 : Nat) ^ e % 486 = 190 :=
  row_of_ok (by decide +kernel)

/-- num.py:1471  `19: 380,` -/
theorem special_b2_m486_r19_L1471 :
    ∀ e : Nat, 1 < e → e % 162 = 19 → (2 : Nat) ^ e % 486 = 380 :=
  row_of_ok (by decide +kernel)

/-- num.py:1472  `20: 274,` -/
theorem special_b2_m486_r20_L1472 :
    ∀ e : Nat, 1 < e → e % 162 = 20 → (2 : Nat) ^ e % 486 = 274 :=
  row_of_ok (by decide +kernel)

/-- num.py:1473  `21: 62,` -/
theorem special_b2_m486_r21_L1473 :
    ∀ e : Nat, 1 < e → e % 162 = 21 → (2 : Nat) ^ e % 486 = 62 :=
  row_of_ok (by decide +kernel)

/-- num.py:1474  `22: 124,` -/
theorem special_b2_m486_r22_L1474 :
    ∀ e : Nat, 1 < e → e % 162 = 22 → (2 : Nat) ^ e % 486 = 124 :=
  row_of_ok (by decide +kernel)

/-- num.py:1475  `23: 248,` -/
theorem special_b2_m486_r23_L1475 :
    ∀ e : Nat, 1 < e → e % 162 = 23 → (2 : Nat) ^ e % 486 = 248 :=
  row_of_ok (by decide +kernel)

/-- num.py:1476  `24: 10,` -/
theorem special_b2_m486_r24_L1476 :
    ∀ e : Nat, 1 < e → e % 162 = 24 → (2 : Nat) ^ e % 486 = 10 :=
  row_of_ok (by decide +kernel)

/-- num.py:1477  `25: 20,` -/
theorem special_b2_m486_r25_L1477 :
    ∀ e : Nat, 1 < e → e % 162 = 25 → (2 : Nat) ^ e % 486 = 20 :=
  row_of_ok (by decide +kernel)

/-- num.py:1478  `26: 40,` -/
theorem special_b2_m486_r26_L1478 :
    ∀ e : Nat, 1 < e → e % 162 = 26 → (2 : Nat) ^ e % 486 = 40 :=
  row_of_ok (by decide +kernel)

/-- num.py:1479  `27: 80,` -/
theorem special_b2_m486_r27_L1479 :
    ∀ e : Nat, 1 < e → e % 162 = 27 → (2 : Nat) ^ e % 486 = 80 :=
  row_of_ok (by decide +kernel)

/-- num.py:1480  `28: 160,` -/
theorem special_b2_m486_r28_L1480 :
    ∀ e : Nat, 1 < e → e % 162 = 28 → (2 : Nat) ^ e % 486 = 160 :=
  row_of_ok (by decide +kernel)

/-- num.py:1481  `29: 320,` -/
theorem special_b2_m486_r29_L1481 :
    ∀ e : Nat, 1 < e → e % 162 = 29 → (2 : Nat) ^ e % 486 = 320 :=
  row_of_ok (by decide +kernel)

/-- num.py:1482  `30: 154,` -/
theorem special_b2_m486_r30_L1482 :
    ∀ e : Nat, 1 < e → e % 162 = 30 → (2 : Nat) ^ e % 486 = 154 :=
  row_of_ok (by decide +kernel)

/-- num.py:1483  `31: 308,` -/
theorem special_b2_m486_r31_L1483 :
    ∀ e : Nat, 1 < e → e % 162 = 31 → (2 : Nat) ^ e % 486 = 308 :=
  row_of_ok (by decide +kernel)

/-- num.py:1484  `32: 130,` -/
theorem special_b2_m486_r32_L1484 :
    ∀ e : Nat, 1 < e → e % 162 = 32 → (2 : Nat) ^ e % 486 = 130 :=
  row_of_ok (by decide +kernel)

/-- num.py:1485  `33: 260,` -/
theorem special_b2_m486_r33_L1485 :
    ∀ e : Nat, 1 < e → e % 162 = 33 → (2 : Nat) ^ e % 486 = 260 :=
  row_of_ok (by decide +kernel)

/-- num.py:1486  `34: 34,` -/
theorem special_b2_m486_r34_L1486 :
    ∀ e : Nat, 1 < e → e % 162 = 34 → (2 : Nat) ^ e % 486 = 34 :=
  row_of_ok (by decide +kernel)

/-- num.py:1487  `35: 68,` -/
theorem special_b2_m486_r35_L1487 :
    ∀ e : Nat, 1 < e → e % 162 = 35 → (2 : Nat) ^ e % 486 = 68 :=
  row_of_ok (by decide +kernel)

/-- num.py:1488  `36: 136,` -/
theorem special_b2_m486_r36_L1488 :
    ∀ e : Nat, 1 < e → e % 162 = 36 → (2 : Nat) ^ e % 486 = 136 :=
  row_of_ok (by decide +kernel)

/-- num.py:1489  `37: 272,` -/
theorem special_b2_m486_r37_L1489 :
    ∀ e : Nat, 1 < e → e % 162 = 37 → (2 : Nat) ^ e % 486 = 272 :=
  row_of_ok (by decide +kernel)

/-- num.py:1490  `38: 58,` -/
theorem special_b2_m486_r38_L1490 :
    ∀ e : Nat, 1 < e → e % 162 = 38 → (2 : Nat) ^ e % 486 = 58 :=
  row_of_ok (by decide +kernel)

/-- num.py:1491  `39: 116,` -/
theorem special_b2_m486_r39_L1491 :
    ∀ e : Nat, 1 < e → e % 162 = 39 → (2 : Nat) ^ e % 486 = 116 :=
  row_of_ok (by decide +kernel)

/-- num.py:1492  `40: 232,` -/
theorem special_b2_m486_r40_L1492 :
    ∀ e : Nat, 1 < e → e % 162 = 40 → (2 : Nat) ^ e % 486 = 232 :=
  row_of_ok (by decide +kernel)

/-- num.py:1493  `41: 464,` -/
theorem special_b2_m486_r41_L1493 :
    ∀ e : Nat, 1 < e → e % 162 = 41 → (2 : Nat) ^ e % 486 = 464 :=
  row_of_ok (by decide +kernel)

/-- num.py:1494  `42: 442,` -/
theorem special_b2_m486_r42_L1494 :
    ∀ e : Nat, 1 < e → e % 162 = 42 → (2 : Nat) ^ e % 486 = 442 :=
  row_of_ok (by decide +kernel)

/-- num.py:1495  `43: 398,` -/
theorem special_b2_m486_r43_L1495 :
    ∀ e : Nat, 1 < e → e % 162 = 43 → (2 : Nat) ^ e % 486 = 398 :=
  row_of_ok (by decide +kernel)

/-- num.py:1496  `44: 310,` -/
theorem special_b2_m486_r44_L1496 :
    ∀ e : Nat, 1 < e → e % 162 = 44 → (2 : Nat) ^ e % 486 = 310 :=
  row_of_ok (by decide +kernel)

/-- num.py:1497  `45: 134,` -/
theorem special_b2_m486_r45_L1497 :
    ∀ e : Nat, 1 < e → e % 162 = 45 → (2 : Nat) ^ e % 486 = 134 :=
  row_of_ok (by decide +kernel)

/-- num.py:1498  `46: 268,` -/
theorem special_b2_m486_r46_L1498 :
    ∀ e : Nat, 1 < e → e % 162 = 46 → (2 : Nat) ^ e % 486 = 268 :=
  row_of_ok (by decide +kernel)

/-- num.py:1499  `47: 50,` -/
theorem special_b2_m486_r47_L1499 :
    ∀ e : Nat, 1 < e → e % 162 = 47 → (2 : Nat) ^ e % 486 = 50 :=
  row_of_ok (by decide +kernel)

/-- num.py:1500  `48: 100,` -/
theorem special_b2_m486_r48_L1500 :
    ∀ e : Nat, 1 < e → e % 162 = 48 → (2 : Nat) ^ e % 486 = 100 :=
  row_of_ok (by decide +kernel)

/-- num.py:1501  `49: 200,` -/
theorem special_b2_m486_r49_L1501 :
    ∀ e : Nat, 1 < e → e % 162 = 49 → (2 : Nat) ^ e % 486 = 200 :=
  row_of_ok (by decide +kernel)

/-- num.py:1502  `50: 400,` -/
theorem special_b2_m486_r50_L1502 :
    ∀ e : Nat, 1 < e → e % 162 = 50 → (2 : Nat) ^ e % 486 = 400 :=
  row_of_ok (by decide +kernel)

/-- num.py:1503  `51: 314,` -/
theorem special_b2_m486_r51_L1503 :
    ∀ e : Nat, 1 < e → e % 162 = 51 → (2 : Nat) ^ e % 486 = 314 :=
  row_of_ok (by decide +kernel)

/-- num.py:1504  `52: 142,` -/
theorem special_b2_m486_r52_L1504 :
    ∀ e : Nat, 1 < e → e % 162 = 52 → (2 : Nat) ^ e % 486 = 142 :=
  row_of_ok (by decide +kernel)

/-- num.py:1505  `53: 284,` -/
theorem special_b2_m486_r53_L1505 :
    ∀ e : Nat, 1 < e → e % 162 = 53 → (2 : Nat) ^ e % 486 = 284 :=
  row_of_ok (by decide +kernel)

/-- num.py:1506  `54: 82,` -/
theorem special_b2_m486_r54_L1506 :
    ∀ e : Nat, 1 < e → e % 162 = 54 → (2 : Nat) ^ e % 486 = 82 :=
  row_of_ok (by decide +kernel)

/-- num.py:1507  `55: 164,` -/
theorem special_b2_m486_r55_L1507 :
    ∀ e : Nat, 1 < e → e % 162 = 55 → (2 : Nat) ^ e % 486 = 164 :=
  row_of_ok (by decide +kernel)

/-- num.py:1508  `56: 328,` -/
theorem special_b2_m486_r56_L1508 :
    ∀ e : Nat, 1 < e → e % 162 = 56 → (2 : Nat) ^ e % 486 = 328 :=
  row_of_ok (by decide +kernel)

/-- num.py:1509  `57: 170,` -/
theorem special_b2_m486_r57_L1509 :
    ∀ e : Nat, 1 < e → e % 162 = 57 → (2 : Nat) ^ e % 486 = 170 :=
  row_of_ok (by decide +kernel)

/-- num.py:1510  `58: 340,` -/
theorem special_b2_m486_r58_L1510 :
    ∀ e : Nat, 1 < e → e % 162 = 58 → (2 : Nat) ^ e % 486 = 340 :=
  row_of_ok (by decide +kernel)

/-- num.py:1511  `59: 194,` -/
theorem special_b2_m486_r59_L1511 :
    ∀ e : Nat, 1 < e → e % 162 = 59 → (2 : Nat) ^ e % 486 = 194 :=
  row_of_ok (by decide +kernel)

/-- num.py:1512  `60: 388,` -/
theorem special_b2_m486_r60_L1512 :
    ∀ e : Nat, 1 < e → e % 162 = 60 → (2 : Nat) ^ e % 486 = 388 :=
  row_of_ok (by decide +kernel)

/-- num.py:1513  `61: 290,` -/
theorem special_b2_m486_r61_L1513 :
    ∀ e : Nat, 1 < e → e % 162 = 61 → (2 : Nat) ^ e % 486 = 290 :=
  row_of_ok (by decide +kernel)

/-- num.py:1514  `62: 94,` -/
theorem special_b2_m486_r62_L1514 :
    ∀ e : Nat, 1 < e → e % 162 = 62 → (2 : Nat) ^ e % 486 = 94 :=
  row_of_ok (by decide +kernel)

/-- num.py:1515  `63: 188,` -/
theorem special_b2_m486_r63_L1515 :
    ∀ e : Nat, 1 < e → e % 162 = 63 → (2 : Nat) ^ e % 486 = 188 :=
  row_of_ok (by decide +kernel)

/-- num.py:1516  `64: 376,` -/
theorem special_b2_m486_r64_L1516 :
    ∀ e : Nat, 1 < e → e % 162 = 64 → (2 : Nat) ^ e % 486 = 376 :=
  row_of_ok (by decide +kernel)

/-- num.py:1517  `65: 266,` -/
theorem special_b2_m486_r65_L1517 :
    ∀ e : Nat, 1 < e → e % 162 = 65 → (2 : Nat) ^ e % 486 = 266 :=
  row_of_ok (by decide +kernel)

/-- num.py:1518  `66: 46,` -/
theorem special_b2_m486_r66_L1518 :
    ∀ e : Nat, 1 < e → e % 162 = 66 → (2 : Nat) ^ e % 486 = 46 :=
  row_of_ok (by decide +kernel)

/-- num.py:1519  `67: 92,` -/
theorem special_b2_m486_r67_L1519 :
    ∀ e : Nat, 1 < e → e % 162 = 67 → (2 : Nat) ^ e % 486 = 92 :=
  row_of_ok (by decide +kernel)

/-- num.py:1520  `68: 184,` -/
theorem special_b2_m486_r68_L1520 :
    ∀ e : Nat, 1 < e → e % 162 = 68 → (2 : Nat) ^ e % 486 = 184 :=
  row_of_ok (by decide +kernel)

/-- num.py:1521  `69: 368,` -/
theorem special_b2_m486_r69_L1521 :
    ∀ e : Nat, 1 < e → e % 162 = 69 → (2 : Nat) ^ e % 486 = 368 :=
  row_of_ok (by decide +kernel)

/-- num.py:1522  `70: 250,` -/
theorem special_b2_m486_r70_L1522 :
    ∀ e : Nat, 1 < e → e % 162 = 70 → (2 : Nat) ^ e % 486 = 250 :=
  row_of_ok (by decide +kernel)

/-- num.py:1523  `71: 14,` -/
theorem special_b2_m486_r71_L1523 :
    ∀ e : Nat, 1 < e → e % 162 = 71 → (2 : Nat) ^ e % 486 = 14 :=
  row_of_ok (by decide +kernel)

/-- num.py:1524  `72: 28,` -/
theorem special_b2_m486_r72_L1524 :
    ∀ e : Nat, 1 < e → e % 162 = 72 → (2 : Nat) ^ e % 486 = 28 :=
  row_of_ok (by decide +kernel)

/-- num.py:1525  `73: 56,` -/
theorem special_b2_m486_r73_L1525 :
    ∀ e : Nat, 1 < e → e % 162 = 73 → (2 : Nat) ^ e % 486 = 56 :=
  row_of_ok (by decide +kernel)

/-- num.py:1526  `74: 112,` -/
theorem special_b2_m486_r74_L1526 :
    ∀ e : Nat, 1 < e → e % 162 = 74 → (2 : Nat) ^ e % 486 = 112 :=
  row_of_ok (by decide +kernel)

/-- num.py:1527  `75: 224,` -/
theorem special_b2_m486_r75_L1527 :
    ∀ e : Nat, 1 < e → e % 162 = 75 → (2 : Nat) ^ e % 486 = 224 :=
  row_of_ok (by decide +kernel)

/-- num.py:1528  `76: 448,` -/
theorem special_b2_m486_r76_L1528 :
    ∀ e : Nat, 1 < e → e % 162 = 76 → (2 : Nat) ^ e % 486 = 448 :=
  row_of_ok (by decide +kernel)

/-- num.py:1529  `77: 410,` -/
theorem special_b2_m486_r77_L1529 :
    ∀ e : Nat, 1 < e → e % 162 = 77 → (2 : Nat) ^ e % 486 = 410 :=
  row_of_ok (by decide +kernel)

/-- num.py:1530  `78: 334,` -/
theorem special_b2_m486_r78_L1530 :
    ∀ e : Nat, 1 < e → e % 162 = 78 → (2 : Nat) ^ e % 486 = 334 :=
  row_of_ok (by decide +kernel)

/-- num.py:1531  `79: 182,` -/
theorem special_b2_m486_r79_L1531 :
    ∀ e : Nat, 1 < e → e % 162 = 79 → (2 : Nat) ^ e % 486 = 182 :=
  row_of_ok (by decide +kernel)

/-- num.py:1532  `80: 364,` -/
theorem special_b2_m486_r80_L1532 :
    ∀ e : Nat, 1 < e → e % 162 = 80 → (2 : Nat) ^ e % 486 = 364 :=
  row_of_ok (by decide +kernel)

/-- num.py:1533  `81: 242,` -/
theorem special_b2_m486_r81_L1533 :
    ∀ e : Nat, 1 < e → e % 162 = 81 → (2 : Nat) ^ e % 486 = 242 :=
  row_of_ok (by decide +kernel)

/-- num.py:1534  `82: 484,` -/
theorem special_b2_m486_r82_L1534 :
    ∀ e : Nat, 1 < e → e % 162 = 82 → (2 : Nat) ^ e % 486 = 484 :=
  row_of_ok (by decide +kernel)

/-- num.py:1535  `83: 482,` -/
theorem special_b2_m486_r83_L1535 :
    ∀ e : Nat, 1 < e → e % 162 = 83 → (2 : Nat) ^ e % 486 = 482 :=
  row_of_ok (by decide +kernel)

/-- num.py:1536  `84: 478,` -/
theorem special_b2_m486_r84_L1536 :
    ∀ e : Nat, 1 < e → e % 162 = 84 → (2 : Nat) ^ e % 486 = 478 :=
  row_of_ok (by decide +kernel)

/-- num.py:1537  `85: 470,` -/
theorem special_b2_m486_r85_L1537 :
    ∀ e : Nat, 1 < e → e % 162 = 85 → (2 : Nat) ^ e % 486 = 470 :=
  row_of_ok (by decide +kernel)

/-- num.py:1538  `86: 454,` -/
theorem special_b2_m486_r86_L1538 :
    ∀ e : Nat, 1 < e → e % 162 = 86 → (2 : Nat) ^ e % 486 = 454 :=
  row_of_ok (by decide +kernel)

/-- num.py:1539  `87: 422,` -/
theorem special_b2_m486_r87_L1539 :
    ∀ e : Nat, 1 < e → e % 162 = 87 → (2 : Nat) ^ e % 486 = 422 :=
  row_of_ok (by decide +kernel)

/-- num.py:1540  `88: 358,` -/
theorem special_b2_m486_r88_L1540 :
    ∀ e : Nat, 1 < e → e % 162 = 88 → (2 : Nat) ^ e % 486 = 358 :=
  row_of_ok (by decide +kernel)

/-- num.py:1541  `89: 230,` -/
theorem special_b2_m486_r89_L1541 :
    ∀ e : Nat, 1 < e → e % 162 = 89 → (2 : Nat) ^ e % 486 = 230 :=
  row_of_ok (by decide +kernel)

/-- num.py:1542  `90: 460,` -/
theorem special_b2_m486_r90_L1542 :
    ∀ e : Nat, 1 < e → e % 162 = 90 → (2 : Nat) ^ e % 486 = 460 :=
  row_of_ok (by decide +kernel)

/-- num.py:1543  `91: 434,` -/
theorem special_b2_m486_r91_L1543 :
    ∀ e : Nat, 1 < e → e % 162 = 91 → (2 : Nat) ^ e % 486 = 434 :=
  row_of_ok (by decide +kernel)

/-- num.py:1544  `92: 382,` -/
theorem special_b2_m486_r92_L1544 :
    ∀ e : Nat, 1 < e → e % 162 = 92 → (2 : Nat) ^ e % 486 = 382 :=
  row_of_ok (by decide +kernel)

/-- num.py:1545  `93: 278,` -/
theorem special_b2_m486_r93_L1545 :
    ∀ e : Nat, 1 < e → e % 162 = 93 → (2 : Nat) ^ e % 486 = 278 :=
  row_of_ok (by decide +kernel)

/-- num.py:1546  `94: 70,` -/
theorem special_b2_m486_r94_L1546 :
    ∀ e : Nat, 1 < e → e % 162 = 94 → (2 : Nat) ^ e % 486 = 70 :=
  row_of_ok (by decide +kernel)

/-- num.py:1547  `95: 140,` -/
theorem special_b2_m486_r95_L1547 :
    ∀ e : Nat, 1 < e → e % 162 = 95 → (2 : Nat) ^ e % 486 = 140 :=
  row_of_ok (by decide +kernel)

/-- num.py:1548  `96: 280,` -/
theorem special_b2_m486_r96_L1548 :
    ∀ e : Nat, 1 < e → e % 162 = 96 → (2 : Nat) ^ e % 486 = 280 :=
  row_of_ok (by decide +kernel)

/-- num.py:1549  `97: 74,` -/
theorem special_b2_m486_r97_L1549 :
    ∀ e : Nat, 1 < e → e % 162 = 97 → (2 : Nat) ^ e % 486 = 74 :=
  row_of_ok (by decide +kernel)

/-- num.py:1550  `98: 148,` -/
theorem special_b2_m486_r98_L1550 :
    ∀ e : Nat, 1 < e → e % 162 = 98 → (2 : Nat) ^ e % 486 = 148 :=
  row_of_ok (by decide +kernel)

/-- num.py:1551  `99: 296,` -/
theorem special_b2_m486_r99_L1551 :
    ∀ e : Nat, 1 < e → e % 162 = 99 → (2 : Nat) ^ e % 486 = 296 :=
  row_of_ok (by decide +kernel)

/-- num.py:1552  `100: 106,` -/
theorem special_b2_m486_r100_L1552 :
    ∀ e : Nat, 1 < e → e % 162 = 100 → (2 : Nat) ^ e % 486 = 106 :=
  row_of_ok (by decide +kernel)

/-- num.py:1553  `101: 212,` -/
theorem special_b2_m486_r101_L1553 :
    ∀ e : Nat, 1 < e → e % 162 = 101 → (2 : Nat) ^ e % 486 = 212 :=
  row_of_ok (by decide +kernel)

/-- num.py:1554  `102: 424,` -/
theorem special_b2_m486_r102_L1554 :
    ∀ e : Nat, 1 < e → e % 162 = 102 → (2 : Nat) ^ e % 486 = 424 :=
  row_of_ok (by decide +kernel)

/-- num.py:1555  `103: 362,` -/
theorem special_b2_m486_r103_L1555 :
    ∀ e : Nat, 1 < e → e % 162 = 103 → (2 : Nat) ^ e % 486 = 362 :=
  row_of_ok (by decide +kernel)

/-- num.py:1556  `104: 238,` -/
theorem special_b2_m486_r104_L1556 :
    ∀ e : Nat, 1 < e → e % 162 = 104 → (2 : Nat) ^ e % 486 = 238 :=
  row_of_ok (by decide +kernel)

/-- num.py:1557  `105: 476,` -/
theorem special_b2_m486_r105_L1557 :
    ∀ e : Nat, 1 < e → e % 162 = 105 → (2 : Nat) ^ e % 486 = 476 :=
  row_of_ok (by decide +kernel)

/-- num.py:1558  `106: 466,` -/
theorem special_b2_m486_r106_L1558 :
    ∀ e : Nat, 1 < e → e % 162 = 106 → (2 : Nat) ^ e % 486 = 466 :=
  row_of_ok (by decide +kernel)

/-- num.py:1559  `107: 446,` -/
theorem special_b2_m486_r107_L1559 :
    ∀ e : Nat, 1 < e → e % 162 = 107 → (2 : Nat) ^ e % 486 = 446 :=
  row_of_ok (by decide +kernel)

/-- num.py:1560  `108: 406,` -/
theorem special_b2_m486_r108_L1560 :
    ∀ e : Nat, 1 < e → e % 162 = 108 → (2 : Nat) ^ e % 486 = 406 :=
  row_of_ok (by decide +kernel)

/-- num.py:1561  `109: 326,` -/
theorem special_b2_m486_r109_L1561 :
    ∀ e : Nat, 1 < e → e % 162 = 109 → (2 : Nat) ^ e % 486 = 326 :=
  row_of_ok (by decide +kernel)

/-- num.py:1562  `110: 166,` -/
theorem special_b2_m486_r110_L1562 :
    ∀ e : Nat, 1 < e → e % 162 = 110 → (2 : Nat) ^ e % 486 = 166 :=
  row_of_ok (by decide +kernel)

/-- num.py:1563  `111: 332,` -/
theorem special_b2_m486_r111_L1563 :
    ∀ e : Nat, 1 < e → e % 162 = 111 → (2 : Nat) ^ e % 486 = 332 :=
  row_of_ok (by decide +kernel)

/-- num.py:1564  `112: 178,` -/
theorem special_b2_m486_r112_L1564 :
    ∀ e : Nat, 1 < e → e % 162 = 112 → (2 : Nat) ^ e % 486 = 178 :=
  row_of_ok (by decide +kernel)

/-- num.py:1565  `113: 356,` -/
theorem special_b2_m486_r113_L1565 :
    ∀ e : Nat, 1 < e → e % 162 = 113 → (2 : Nat) ^ e % 486 = 356 :=
  row_of_ok (by decide +kernel)

/-- num.py:1566  `114: 226,` -/
theorem special_b2_m486_r114_L1566 :
    ∀ e : Nat, 1 < e → e % 162 = 114 → (2 : Nat) ^ e % 486 = 226 :=
  row_of_ok (by decide +kernel)

/-- num.py:1567  `115: 452,` -/
theorem special_b2_m486_r115_L1567 :
    ∀ e : Nat, 1 < e → e % 162 = 115 → (2 : Nat) ^ e % 486 = 452 :=
  row_of_ok (by decide +kernel)

/-- num.py:1568  `116: 418,` -/
theorem special_b2_m486_r116_L1568 :
    ∀ e : Nat, 1 < e → e % 162 = 116 → (2 : Nat) ^ e % 486 = 418 :=
  row_of_ok (by decide +kernel)

/-- num.py:1569  `117: 350,` -/
theorem special_b2_m486_r117_L1569 :
    ∀ e : Nat, 1 < e → e % 162 = 117 → (2 : Nat) ^ e % 486 = 350 :=
  row_of_ok (by decide +kernel)

/-- num.py:1570  `118: 214,` -/
theorem special_b2_m486_r118_L1570 :
    ∀ e : Nat, 1 < e → e % 162 = 118 → (2 : Nat) ^ e % 486 = 214 :=
  row_of_ok (by decide +kernel)

/-- num.py:1571  `119: 428,` -/
theorem special_b2_m486_r119_L1571 :
    ∀ e : Nat, 1 < e → e % 162 = 119 → (2 : Nat) ^ e % 486 = 428 :=
  row_of_ok (by decide +kernel)

/-- num.py:1572  `120: 370,` -/
theorem special_b2_m486_r120_L1572 :
    ∀ e : Nat, 1 < e → e % 162 = 120 → (2 : Nat) ^ e % 486 = 370 :=
  row_of_ok (by decide +kernel)

/-- num.py:1573  `121: 254,` -/
theorem special_b2_m486_r121_L1573 :
    ∀ e : Nat, 1 < e → e % 162 = 121 → (2 : Nat) ^ e % 486 = 254 :=
  row_of_ok (by decide +kernel)

/-- num.py:1574  `122: 22,` -/
theorem special_b2_m486_r122_L1574 :
    ∀ e : Nat, 1 < e → e % 162 = 122 → (2 : Nat) ^ e % 486 = 22 :=
  row_of_ok (by decide +kernel)

/-- num.py:1575  `123: 44,` -/
theorem special_b2_m486_r123_L1575 :
    ∀ e : Nat, 1 < e → e % 162 = 123 → (2 : Nat) ^ e % 486 = 44 :=
  row_of_ok (by decide +kernel)

/-- num.py:1576  `124: 88,` -/
theorem special_b2_m486_r124_L1576 :
    ∀ e : Nat, 1 < e → e % 162 = 124 → (2 : Nat) ^ e % 486 = 88 :=
  row_of_ok (by decide +kernel)

/-- num.py:1577  `125: 176,` -/
theorem special_b2_m486_r125_L1577 :
    ∀ e : Nat, 1 < e → e % 162 = 125 → (2 : Nat) ^ e % 486 = 176 :=
  row_of_ok (by decide +kernel)

/-- num.py:1578  `126: 352,` -/
theorem special_b2_m486_r126_L1578 :
    ∀ e : Nat, 1 < e → e % 162 = 126 → (2 : Nat) ^ e % 486 = 352 :=
  row_of_ok (by decide +kernel)

/-- num.py:1579  `127: 218,` -/
theorem special_b2_m486_r127_L1579 :
    ∀ e : Nat, 1 < e → e % 162 = 127 → (2 : Nat) ^ e % 486 = 218 :=
  row_of_ok (by decide +kernel)

/-- num.py:1580  `128: 436,` -/
theorem special_b2_m486_r128_L1580 :
    ∀ e : Nat, 1 < e → e % 162 = 128 → (2 : Nat) ^ e % 486 = 436 :=
  row_of_ok (by decide +kernel)

/-- num.py:1581  `129: 386,` -/
theorem special_b2_m486_r129_L1581 :
    ∀ e : Nat, 1 < e → e % 162 = 129 → (2 : Nat) ^ e % 486 = 386 :=
  row_of_ok (by decide +kernel)

/-- num.py:1582  `130: 286,` -/
theorem special_b2_m486_r130_L1582 :
    ∀ e : Nat, 1 < e → e % 162 = 130 → (2 : Nat) ^ e % 486 = 286 :=
  row_of_ok (by decide +kernel)

/-- num.py:1583  `131: 86,` -/
theorem special_b2_m486_r131_L1583 :
    ∀ e : Nat, 1 < e → e % 162 = 131 → (2 : Nat) ^ e % 486 = 86 :=
  row_of_ok (by decide +kernel)

/-- num.py:1584  `132: 172,` -/
theorem special_b2_m486_r132_L1584 :
    ∀ e : Nat, 1 < e → e % 162 = 132 → (2 : Nat) ^ e % 486 = 172 :=
  row_of_ok (by decide +kernel)

/-- num.py:1585  `133: 344,` -/
theorem special_b2_m486_r133_L1585 :
    ∀ e : Nat, 1 < e → e % 162 = 133 → (2 : Nat) ^ e % 486 = 344 :=
  row_of_ok (by decide +kernel)

/-- num.py:1586  `134: 202,` -/
theorem special_b2_m486_r134_L1586 :
    ∀ e : Nat, 1 < e → e % 162 = 134 → (2 : Nat) ^ e % 486 = 202 :=
  row_of_ok (by decide +kernel)

/-- num.py:1587  `135: 404,` -/
theorem special_b2_m486_r135_L1587 :
    ∀ e : Nat, 1 < e → e % 162 = 135 → (2 : Nat) ^ e % 486 = 404 :=
  row_of_ok (by decide +kernel)

/-- num.py:1588  `136: 322,` -/
theorem special_b2_m486_r136_L1588 :
    ∀ e : Nat, 1 < e → e % 162 = 136 → (2 : Nat) ^ e % 486 = 322 :=
  row_of_ok (by decide +kernel)

/-- num.py:1589  `137: 158,` -/
theorem special_b2_m486_r137_L1589 :
    ∀ e : Nat, 1 < e → e % 162 = 137 → (2 : Nat) ^ e % 486 = 158 :=
  row_of_ok (by decide +kernel)

/-- num.py:1590  `138: 316,` -/
theorem special_b2_m486_r138_L1590 :
    ∀ e : Nat, 1 < e → e % 162 = 138 → (2 : Nat) ^ e % 486 = 316 :=
  row_of_ok (by decide +kernel)

/-- num.py:1591  `139: 146,` -/
theorem special_b2_m486_r139_L1591 :
    ∀ e : Nat, 1 < e → e % 162 = 139 → (2 : Nat) ^ e % 486 = 146 :=
  row_of_ok (by decide +kernel)

/-- num.py:1592  `140: 292,` -/
theorem special_b2_m486_r140_L1592 :
    ∀ e : Nat, 1 < e → e % 162 = 140 → (2 : Nat) ^ e % 486 = 292 :=
  row_of_ok (by decide +kernel)

/-- num.py:1593  `141: 98,` -/
theorem special_b2_m486_r141_L1593 :
    ∀ e : Nat, 1 < e → e % 162 = 141 → (2 : Nat) ^ e % 486 = 98 :=
  row_of_ok (by decide +kernel)

/-- num.py:1594  `142: 196,` -/
theorem special_b2_m486_r142_L1594 :
    ∀ e : Nat, 1 < e → e % 162 = 142 → (2 : Nat) ^ e % 486 = 196 :=
  row_of_ok (by decide +kernel)

/-- num.py:1595  `143: 392,` -/
theorem special_b2_m486_r143_L1595 :
    ∀ e : Nat, 1 < e → e % 162 = 143 → (2 : Nat) ^ e % 486 = 392 :=
  row_of_ok (by decide +kernel)

/-- num.py:1596  `144: 298,` -/
theorem special_b2_m486_r144_L1596 :
    ∀ e : Nat, 1 < e → e % 162 = 144 → (2 : Nat) ^ e % 486 = 298 :=
  row_of_ok (by decide +kernel)

/-- num.py:1597  `145: 110,` -/
theorem special_b2_m486_r145_L1597 :
    ∀ e : Nat, 1 < e → e % 162 = 145 → (2 : Nat) ^ e % 486 = 110 :=
  row_of_ok (by decide +kernel)

/-- num.py:1598  `146: 220,` -/
theorem special_b2_m486_r146_L1598 :
    ∀ e : Nat, 1 < e → e % 162 = 146 → (2 : Nat) ^ e % 486 = 220 :=
  row_of_ok (by decide +kernel)

/-- num.py:1599  `147: 440,` -/
theorem special_b2_m486_r147_L1599 :
    ∀ e : Nat, 1 < e → e % 162 = 147 → (2 : Nat) ^ e % 486 = 440 :=
  row_of_ok (by decide +kernel)

/-- num.py:1600  `148: 394,` -/
theorem special_b2_m486_r148_L1600 :
    ∀ e : Nat, 1 < e → e % 162 = 148 → (2 : Nat) ^ e % 486 = 394 :=
  row_of_ok (by decide +kernel)

/-- num.py:1601  `149: 302,` -/
theorem special_b2_m486_r149_L1601 :
    ∀ e : Nat, 1 < e → e % 162 = 149 → (2 : Nat) ^ e % 486 = 302 :=
  row_of_ok (by decide +kernel)

/-- num.py:1602  `150: 118,` -/
theorem special_b2_m486_r150_L1602 :
    ∀ e : Nat, 1 < e → e % 162 = 150 → (2 : Nat) ^ e % 486 = 118 :=
  row_of_ok (by decide +kernel)

/-- num.py:1603  `151: 236,` -/
theorem special_b2_m486_r151_L1603 :
    ∀ e : Nat, 1 < e → e % 162 = 151 → (2 : Nat) ^ e % 486 = 236 :=
  row_of_ok (by decide +kernel)

/-- num.py:1604  `152: 472,` -/
theorem special_b2_m486_r152_L1604 :
    ∀ e : Nat, 1 < e → e % 162 = 152 → (2 : Nat) ^ e % 486 = 472 :=
  row_of_ok (by decide +kernel)

/-- num.py:1605  `153: 458,` -/
theorem special_b2_m486_r153_L1605 :
    ∀ e : Nat, 1 < e → e % 162 = 153 → (2 : Nat) ^ e % 486 = 458 :=
  row_of_ok (by decide +kernel)

/-- num.py:1606  `154: 430,` -/
theorem special_b2_m486_r154_L1606 :
    ∀ e : Nat, 1 < e → e % 162 = 154 → (2 : Nat) ^ e % 486 = 430 :=
  row_of_ok (by decide +kernel)

/-- num.py:1607  `155: 374,` -/
theorem special_b2_m486_r155_L1607 :
    ∀ e : Nat, 1 < e → e % 162 = 155 → (2 : Nat) ^ e % 486 = 374 :=
  row_of_ok (by decide +kernel)

/-- num.py:1608  `156: 262,` -/
theorem special_b2_m486_r156_L1608 :
    ∀ e : Nat, 1 < e → e % 162 = 156 → (2 : Nat) ^ e % 486 = 262 :=
  row_of_ok (by decide +kernel)

/-- num.py:1609  `157: 38,` -/
theorem special_b2_m486_r157_L1609 :
    ∀ e : Nat, 1 < e → e % 162 = 157 → (2 : Nat) ^ e % 486 = 38 :=
  row_of_ok (by decide +kernel)

/-- num.py:1610  `158: 76,` -/
theorem special_b2_m486_r158_L1610 :
    ∀ e : Nat, 1 < e → e % 162 = 158 → (2 : Nat) ^ e % 486 = 76 :=
  row_of_ok (by decide +kernel)

/-- num.py:1611  `159: 152,` -/
theorem special_b2_m486_r159_L1611 :
    ∀ e : Nat, 1 < e → e % 162 = 159 → (2 : Nat) ^ e % 486 = 152 :=
  row_of_ok (by decide +kernel)

/-- num.py:1612  `160: 304,` -/
theorem special_b2_m486_r160_L1612 :
    ∀ e : Nat, 1 < e → e % 162 = 160 → (2 : Nat) ^ e % 486 = 304 :=
  row_of_ok (by decide +kernel)

/-- num.py:1613  `161: 122,` -/
theorem special_b2_m486_r161_L1613 :
    ∀ e : Nat, 1 < e → e % 162 = 161 → (2 : Nat) ^ e % 486 = 122 :=
  row_of_ok (by decide +kernel)

/-- num.py:1617  `0: 730,` -/
theorem special_b2_m1458_r0_L1617 :
    ∀ e : Nat, 1 < e → e % 486 = 0 → (2 : Nat) ^ e % 1458 = 730 :=
  row_of_ok (by decide +kernel)

/-- num.py:1618  `1: 2,` -/
theorem special_b2_m1458_r1_L1618 :
    ∀ e : Nat, 1 < e → e % 486 = 1 → (2 : Nat) ^ e % 1458 = 2 :=
  row_of_ok (by decide +kernel)

/-- num.py:1619  `2: 4,` -/
theorem special_b2_m1458_r2_L1619 :
    ∀ e : Nat, 1 < e → e % 486 = 2 → (2 : Nat) ^ e % 1458 = 4 :=
  row_of_ok (by decide +kernel)

/-- num.py:1620  `3: 8,` -/
theorem special_b2_m1458_r3_L1620 :
    ∀ e : Nat, 1 < e → e % 486 = 3 → (2 : Nat) ^ e % 1458 = 8 :=
  row_of_ok (by decide +kernel)

/-- num.py:1621  `4: 16,` -/
theorem special_b2_m1458_r4_L1621 :
    ∀ e : Nat, 1 < e → e % 486 = 4 → (2 : Nat) ^ e % 1458 = 16 :=
  row_of_ok (by decide +kernel)

/-- num.py:1622  `5: 32,` -/
theorem special_b2_m1458_r5_L1622 :
    ∀ e : Nat, 1 < e → e % 486 = 5 → (2 : Nat) ^ e % 1458 = 32 :=
  row_of_ok (by decide +kernel)

/-- num.py:1623  `6: 64,` -/
theorem special_b2_m1458_r6_L1623 :
    ∀ e : Nat, 1 < e → e % 486 = 6 → (2 : Nat) ^ e % 1458 = 64 :=
  row_of_ok (by decide +kernel)

/-- num.py:1624  `7: 128,` -/
theorem special_b2_m1458_r7_L1624 :
    ∀ e : Nat, 1 < e → e % 486 = 7 → (2 : Nat) ^ e % 1458 = 128 :=
  row_of_ok (by decide +kernel)

/-- num.py:1625  `8: 256,` -/
theorem special_b2_m1458_r8_L1625 :
    ∀ e : Nat, 1 < e → e % 486 = 8 → (2 : Nat) ^ e % 1458 = 256 :=
  row_of_ok (by decide +kernel)

/-- num.py:1626  `9: 512,` -/
theorem special_b2_m1458_r9_L1626 :
    ∀ e : Nat, 1 < e → e % 486 = 9 → (2 : Nat) ^ e % 1458 = 512 :=
  row_of_ok (by decide +kernel)

/-- num.py:1627  `10: 1024,` -/
theorem special_b2_m1458_r10_L1627 :
    ∀ e : Nat, 1 < e → e % 486 = 10 → (2 : Nat) ^ e % 1458 = 1024 :=
  row_of_ok (by decide +kernel)

/-- num.py:1628  `11: 590,` -/
theorem special_b2_m1458_r11_L1628 :
    ∀ e : Nat, 1 < e → e % 486 = 11 → (2 : Nat) ^ e % 1458 = 590 :=
  row_of_ok (by decide +kernel)

/-- num.py:1629  `12: 1180,` -/
theorem special_b2_m1458_r12_L1629 :
    ∀ e : Nat, 1 < e → e % 486 = 12 → (2 : Nat) ^ e % 1458 = 1180 :=
  row_of_ok (by decide +kernel)

/-- num.py:1630  `13: 902,` -/
theorem special_b2_m1458_r13_L1630 :
    ∀ e : Nat, 1 < e → e % 486 = 13 → (2 : Nat) ^ e % 1458 = 902 :=
  row_of_ok (by decide +kernel)

/-- num.py:1631  `14: 346,` -/
theorem special_b2_m1458_r14_L1631 :
    ∀ e : Nat, 1 < e → e % 486 = 14 → (2 : Nat) ^ e % 1458 = 346 :=
  row_of_ok (by decide +kernel)

/-- num.py:1632  `15: 692,` -/
theorem special_b2_m1458_r15_L1632 :
    ∀ e : Nat, 1 < e → e % 486 = 15 → (2 : Nat) ^ e % 1458 = 692 :=
  row_of_ok (by decide +kernel)

/-- num.py:1633  `16: 1384,` -/
theorem special_b2_m1458_r16_L1633 :
    ∀ e : Nat, 1 < e → e % 486 = 16 → (2 : Nat) ^ e % 1458 = 1384 :=
  row_of_ok (by decide +kernel)

/-- num.py:1634  `17: 1310,` -/
theorem special_b2_m1458_r17_L1634 :
    ∀ e : Nat, 1 < e → e % 486 = 17 → (2 : Nat) ^ e % 1458 = 1310 :=
  row_of_ok (by decide +kernel)

/-- num.py:1635  `18: 1162,` -/
theorem special_b2_m1458_r18_L1635 :
    ∀ e : Nat, 1 < e → e % 486 = 18 → (2 : Nat) ^ e % 1458 = 1162 :=
  row_of_ok (by decide +kernel)

/-- num.py:1636  `19: 866,` -/
theorem special_b2_m1458_r19_L1636 :
    ∀ e : Nat, 1 < e → e % 486 = 19 → (2 : Nat) ^ e % 1458 = 866 :=
  row_of_ok (by decide +kernel)

/-- num.py:1637  `20: 274,` -/
theorem special_b2_m1458_r20_L1637 :
    ∀ e : Nat, 1 < e → e % 486 = 20 → (2 : Nat) ^ e % 1458 = 274 :=
  row_of_ok (by decide +kernel)

/-- num.py:1638  `21: 548,` -/
theorem special_b2_m1458_r21_L1638 :
    ∀ e : Nat, 1 < e → e % 486 = 21 → (2 : Nat) ^ e % 1458 = 548 :=
  row_of_ok (by decide +kernel)

/-- num.py:1639  `22: 1096,` -/
theorem special_b2_m1458_r22_L1639 :
    ∀ e : Nat, 1 < e → e % 486 = 22 → (2 : Nat) ^ e % 1458 = 1096 :=
  row_of_ok (by decide +kernel)

/-- num.py:1640  `23: 734,` -/
theorem special_b2_m1458_r23_L1640 :
    ∀ e : Nat, 1 < e → e % 486 = 23 → (2 : Nat) ^ e % 1458 = 734 :=
  row_of_ok (by decide +kernel)

/-- num.py:1641  `24: 10,` -/
theorem special_b2_m1458_r24_L1641 :
    ∀ e : Nat, 1 < e → e % 486 = 24 → (2 : Nat) ^ e % 1458 = 10 :=
  row_of_ok (by decide +kernel)

/-- num.py:1642  `25: 20,` -/
theorem special_b2_m1458_r25_L1642 :
    ∀ e : Nat, 1 < e → e % 486 = 25 → (2 : Nat) ^ e % 1458 = 20 :=
  row_of_ok (by decide +kernel)

/-- num.py:1643  `26: 40,` -/
theorem special_b2_m1458_r26_L1643 :
    ∀ e : Nat, 1 < e → e % 486 = 26 → (2 : Nat) ^ e % 1458 = 40 :=
  row_of_ok (by decide +kernel)

/-- num.py:1644  `27: 80,` -/
theorem special_b2_m1458_r27_L1644 :
    ∀ e : Nat, 1 < e → e % 486 = 27 → (2 : Nat) ^ e % 1458 = 80 :=
  row_of_ok (by decide +kernel)

/-- num.py:1645  `28: 160,` -/
theorem special_b2_m1458_r28_L1645 :
    ∀ e : Nat, 1 < e → e % 486 = 28 → (2 : Nat) ^ e % 1458 = 160 :=
  row_of_ok (by decide +kernel)

/-- num.py:1646  `29: 320,` -/
theorem special_b2_m1458_r29_L1646 :
    ∀ e : Nat, 1 < e → e % 486 = 29 → (2 : Nat) ^ e % 1458 = 320 :=
  row_of_ok (by decide +kernel)

/-- num.py:1647  `30: 640,` -/
theorem special_b2_m1458_r30_L1647 :
    ∀ e : Nat, 1 < e → e % 486 = 30 → (2 : Nat) ^ e % 1458 = 640 :=
  row_of_ok (by decide +kernel)

/-- num.py:1648  `31: 1280,` -/
theorem special_b2_m1458_r31_L1648 :
    ∀ e : Nat, 1 < e → e % 486 = 31 → (2 : Nat) ^ e % 1458 = 1280 :=
  row_of_ok (by decide +kernel)

/-- num.py:1649  `32: 1102,` -/
theorem special_b2_m1458_r32_L1649 :
    ∀ e : Nat, 1 < e → e % 486 = 32 → (2 : Nat) ^ e % 1458 = 1102 :=
  row_of_ok (by decide +kernel)

/-- num.py:1650  `33: 746,` -/
theorem special_b2_m1458_r33_L1650 :
    ∀ e : Nat, 1 < e → e % 486 = 33 → (2 : Nat) ^ e % 1458 = 746 :=
  row_of_ok (by decide +kernel)

/-- num.py:1651  `34: 34,` -/
theorem special_b2_m1458_r34_L1651 :
    ∀ e : Nat, 1 < e → e % 486 = 34 → (2 : Nat) ^ e % 1458 = 34 :=
  row_of_ok (by decide +kernel)

/-- num.py:1652  `35: 68,` -/
theorem special_b2_m1458_r35_L1652 :
    ∀ e : Nat, 1 < e → e % 486 = 35 → (2 : Nat) ^ e % 1458 = 68 :=
  row_of_ok (by decide +kernel)

/-- num.py:1653  `36: 136,` -/
theorem special_b2_m1458_r36_L1653 :
    ∀ e : Nat, 1 < e → e % 486 = 36 → (2 : Nat) ^ e % 1458 = 136 :=
  row_of_ok (by decide +kernel)

/-- num.py:1654  `37: 272,` -/
theorem special_b2_m1458_r37_L1654 :
    ∀ e : Nat, 1 < e → e % 486 = 37 → (2 : Nat) ^ e % 1458 = 272 :=
  row_of_ok (by decide +kernel)

/-- num.py:1655  `38: 544,` -/
theorem special_b2_m1458_r38_L1655 :
    ∀ e : Nat, 1 < e → e % 486 = 38 → (2 : Nat) ^ e % 1458 = 544 :=
  row_of_ok (by decide +kernel)

/-- num.py:1656  `39: 1088,` -/
theorem special_b2_m1458_r39_L1656 :
    ∀ e : Nat, 1 < e → e % 486 = 39 → (2 : Nat) ^ e % 1458 = 1088 :=
  row_of_ok (by decide +kernel)

/-- num.py:1657  `40: 718,` -/
theorem special_b2_m1458_r40_L1657 :
    ∀ e : Nat, 1 < e → e % 486 = 40 → (2 : Nat) ^ e % 1458 = 718 :=
  row_of_ok (by decide +kernel)

/-- num.py:1658  `41: 1436,` -/
theorem special_b2_m1458_r41_L1658 :
    ∀ e : Nat, 1 < e → e % 486 = 41 → (2 : Nat) ^ e % 1458 = 1436 :=
  row_of_ok (by decide +kernel)

/-- num.py:1659  `42: 1414,` -/
theorem special_b2_m1458_r42_L1659 :
    ∀ e : Nat, 1 < e → e % 486 = 42 → (2 : Nat) ^ e % 1458 = 1414 :=
  row_of_ok (by decide +kernel)

/-- num.py:1660  `43: 1370,` -/
theorem special_b2_m1458_r43_L1660 :
    ∀ e : Nat, 1 < e → e % 486 = 43 → (2 : Nat) ^ e % 1458 = 1370 :=
  row_of_ok (by decide +kernel)

/-- num.py:1661  `44: 1282,` -/
theorem special_b2_m1458_r44_L1661 :
    ∀ e : Nat, 1 < e → e % 486 = 44 → (2 : Nat) ^ e % 1458 = 1282 :=
  row_of_ok (by decide +kernel)

/-- num.py:1662  `45: 1106,` -/
theorem special_b2_m1458_r45_L1662 :
    ∀ e : Nat, 1 < e → e % 486 = 45 → (2 : Nat) ^ e % 1458 = 1106 :=
  row_of_ok (by decide +kernel)

/-- num.py:1663  `46: 754,` -/
theorem special_b2_m1458_r46_L1663 :
    ∀ e : Nat, 1 < e → e % 486 = 46 → (2 : Nat) ^ e % 1458 = 754 :=
  row_of_ok (by decide +kernel)

/-- num.py:1664  `47: 50,` -/
theorem special_b2_m1458_r47_L1664 :
    ∀ e : Nat, 1 < e → e % 486 = 47 → (2 : Nat) ^ e % 1458 = 50 :=
  row_of_ok (by decide +kernel)

/-- num.py:1665  `48: 100,` -/
theorem special_b2_m1458_r48_L1665 :
    ∀ e : Nat, 1 < e → e % 486 = 48 → (2 : Nat) ^ e % 1458 = 100 :=
  row_of_ok (by decide +kernel)

/-- num.py:1666  `49: 200,` -/
theorem special_b2_m1458_r49_L1666 :
    ∀ e : Nat, 1 < e → e % 486 = 49 → (2 : Nat) ^ e % 1458 = 200 :=
  row_of_ok (by decide +kernel)

/-- num.py:1667  `50: 400,` -/
theorem special_b2_m1458_r50_L1667 :
    ∀ e : Nat, 1 < e → e % 486 = 50 → (2 : Nat) ^ e % 1458 = 400 :=
  row_of_ok (by decide +kernel)

/-- num.py:1668  `51: 800,` -/
theorem special_b2_m1458_r51_L1668 :
    ∀ e : Nat, 1 < e → e % 486 = 51 → (2 : Nat) ^ e % 1458 = 800 :=
  row_of_ok (by decide +kernel)

/-- num.py:1669  `52: 142,` -/
theorem special_b2_m1458_r52_L1669 :
    ∀ e : Nat, 1 < e → e % 486 = 52 → (2 : Nat) ^ e % 1458 = 142 :=
  row_of_ok (by decide +kernel)

/-- num.py:1670  `53: 284,` -/
theorem special_b2_m1458_r53_L1670 :
    ∀ e : Nat, 1 < e → e % 486 = 53 → (2 : Nat) ^ e % 1458 = 284 :=
  row_of_ok (by decide +kernel)

/-- num.py:1671  `54: 568,` -/
theorem special_b2_m1458_r54_L1671 :
    ∀ e : Nat, 1 < e → e % 486 = 54 → (2 : Nat) ^ e % 1458 = 568 :=
  row_of_ok (by decide +kernel)

/-- num.py:1672  `55: 1136,` -/
theorem special_b2_m1458_r55_L1672 :
    ∀ e : Nat, 1 < e → e % 486 = 55 → (2 : Nat) ^ e % 1458 = 1136 :=
  row_of_ok (by decide +kernel)

/-- num.py:1673  `56: 814,` -/
theorem special_b2_m1458_r56_L1673 :
    ∀ e : Nat, 1 < e → e % 486 = 56 → (2 : Nat) ^ e % 1458 = 814 :=
  row_of_ok (by decide +kernel)

/-- num.py:1674  `57: 170,` -/
theorem special_b2_m1458_r57_L1674 :
    ∀ e : Nat, 1 < e → e % 486 = 57 → (2 : Nat) ^ e % 1458 = 170 :=
  row_of_ok (by decide +kernel)

/-- num.py:1675  `58: 340,` -/
theorem special_b2_m1458_r58_L1675 :
    ∀ e : Nat, 1 < e → e % 486 = 58 → (2 : Nat) ^ e % 1458 = 340 :=
  row_of_ok (by decide +kernel)

/-- num.py:1676  `59: 680,` -/
theorem special_b2_m1458_r59_L1676 :
    ∀ e : Nat, 1 < e → e % 486 = 59 → (2 : Nat) ^ e % 1458 = 680 :=
  row_of_ok (by decide +kernel)

/-- num.py:1677  `60: 1360,` -/
theorem special_b2_m1458_r60_L1677 :
    ∀ e : Nat, 1 < e → e % 486 = 60 → (2 : Nat) ^ e % 1458 = 1360 :=
  row_of_ok (by decide +kernel)

/-- num.py:1678  `61: 1262,` -/
theorem special_b2_m1458_r61_L1678 :
    ∀ e : Nat, 1 < e → e % 486 = 61 → (2 : Nat) ^ e % 1458 = 1262 :=
  row_of_ok (by decide +kernel)

/-- num.py:1679  `62: 1066,` -/
theorem special_b2_m1458_r62_L1679 :
    ∀ e : Nat, 1 < e → e % 486 = 62 → (2 : Nat) ^ e % 1458 = 1066 :=
  row_of_ok (by decide +kernel)

/-- num.py:1680  `63: 674,` -/
theorem special_b2_m1458_r63_L1680 :
    ∀ e : Nat, 1 < e → e % 486 = 63 → (2 : Nat) ^ e % 1458 = 674 :=
  row_of_ok (by decide +kernel)

/-- num.py:1681  `64: 1348,` -/
theorem special_b2_m1458_r64_L1681 :
    ∀ e : Nat, 1 < e → e % 486 = 64 → (2 : Nat) ^ e % 1458 = 1348 :=
  row_of_ok (by decide +kernel)

/-- num.py:1682  `65: 1238,` -/
theorem special_b2_m1458_r65_L1682 :
    ∀ e : Nat, 1 < e → e % 486 = 65 → (2 : Nat) ^ e % 1458 = 1238 :=
  row_of_ok (by decide +kernel)

/-- num.py:1683  `66: 1018,` -/
theorem special_b2_m1458_r66_L1683 :
    ∀ e : Nat, 1 < e → e % 486 = 66 → (2 : Nat) ^ e % 1458 = 1018 :=
  row_of_ok (by decide +kernel)

/-- num.py:1684  `67: 578,` -/
theorem special_b2_m1458_r67_L1684 :
    ∀ e : Nat, 1 < e → e % 486 = 67 → (2 : Nat) ^ e % 1458 = 578 :=
  row_of_ok (by decide +kernel)

/-- num.py:1685  `68: 1156,` -/
theorem special_b2_m1458_r68_L1685 :
    ∀ e : Nat, 1 < e → e % 486 = 68 → (2 : Nat) ^ e % 1458 = 1156 :=
  row_of_ok (by decide +kernel)

/-- num.py:1686  `69: 854,` -/
theorem special_b2_m1458_r69_L1686 :
    ∀ e : Nat, 1 < e → e % 486 = 69 → (2 : Nat) ^ e % 1458 = 854 :=
  row_of_ok (by decide +kernel)

/-- num.py:1687  `70: 250,` -/
theorem special_b2_m1458_r70_L1687 :
    ∀ e : Nat, 1 < e → e % 486 = 70 → (2 : Nat) ^ e % 1458 = 250 :=
  row_of_ok (by decide +kernel)

/-- num.py:1688  `71: 500,` -/
theorem special_b2_m1458_r71_L1688 :
    ∀ e : Nat, 1 < e → e % 486 = 71 → (2 : Nat) ^ e % 1458 = 500 :=
  row_of_ok (by decide +kernel)

/-- num.py:1689  `72: 1000,` -/
theorem special_b2_m1458_r72_L1689 :
    ∀ e : Nat, 1 < e → e % 486 = 72 → (2 : Nat) ^ e % 1458 = 1000 :=
  row_of_ok (by decide +kernel)

/-- num.py:1690  `73: 542,` -/
theorem special_b2_m1458_r73_L1690 :
    ∀ e : Nat, 1 < e → e % 486 = 73 → (2 : Nat) ^ e % 1458 = 542 :=
  row_of_ok (by decide +kernel)

/-- num.py:1691  `74: 1084,` -/
theorem special_b2_m1458_r74_L1691 :
    ∀ e : Nat, 1 < e → e % 486 = 74 → (2 : Nat) ^ e % 1458 = 1084 :=
  row_of_ok (by decide +kernel)

/-- num.py:1692  `75: 710,` -/
theorem special_b2_m1458_r75_L1692 :
    ∀ e : Nat, 1 < e → e % 486 = 75 → (2 : Nat) ^ e % 1458 = 710 :=
  row_of_ok (by decide +kernel)

/-- num.py:1693  `76: 1420,` -/
theorem special_b2_m1458_r76_L1693 :
    ∀ e : Nat, 1 < e → e % 486 = 76 → (2 : Nat) ^ e % 1458 = 1420 :=
  row_of_ok (by decide +kernel)

/-- num.py:1694  `77: 1382,` -/
theorem special_b2_m1458_r77_L1694 :
    ∀ e : Nat, 1 < e → e % 486 = 77 → (2 : Nat) ^ e % 1458 = 1382 :=
  row_of_ok (by decide +kernel)

/-- num.py:1695  `78: 1306,` -/
theorem special_b2_m1458_r78_L1695 :
    ∀ e : Nat, 1 < e → e % 486 = 78 → (2 : Nat) ^ e % 1458 = 1306 :=
  row_of_ok (by decide +kernel)

/-- num.py:1696  `79: 1154,` -/
theorem special_b2_m1458_r79_L1696 :
    ∀ e : Nat, 1 < e → e % 486 = 79 → (2 : Nat) ^ e % 1458 = 1154 :=
  row_of_ok (by decide +kernel)

/-- num.py:1697  `80: 850,` -/
theorem special_b2_m1458_r80_L1697 :
    ∀ e : Nat, 1 < e → e % 486 = 80 → (2 : Nat) ^ e % 1458 = 850 :=
  row_of_ok (by decide +kernel)

/-- num.py:1698  `81: 242,` -/
theorem special_b2_m1458_r81_L1698 :
    ∀ e : Nat, 1 < e → e % 486 = 81 → (2 : Nat) ^ e % 1458 = 242 :=
  row_of_ok (by decide +kernel)

/-- num.py:1699  `82: 484,` -/
theorem special_b2_m1458_r82_L1699 :
    ∀ e : Nat, 1 < e → e % 486 = 82 → (2 : Nat) ^ e % 1458 = 484 :=
  row_of_ok (by decide +kernel)

/-- num.py:1700  `83: 968,` -/
theorem special_b2_m1458_r83_L1700 :
    ∀ e : Nat, 1 < e → e % 486 = 83 → (2 : Nat) ^ e % 1458 = 968 :=
  row_of_ok (by decide +kernel)

/-- num.py:1701  `84: 478,` -/
theorem special_b2_m1458_r84_L1701 :
    ∀ e : Nat, 1 < e → e % 486 = 84 → (2 : Nat) ^ e % 1458 = 478 :=
  row_of_ok (by decide +kernel)

/-- num.py:1702  `85: 956,` -/
theorem special_b2_m1458_r85_L1702 :
    ∀ e : Nat, 1 < e → e % 486 = 85 → (2 : Nat) ^ e % 1458 = 956 :=
  row_of_ok (by decide +kernel)

/-- num.py:1703  `86: 454,` -/
theorem special_b2_m1458_r86_L1703 :
    ∀ e : Nat, 1 < e → e % 486 = 86 → (2 : Nat) ^ e % 1458 = 454 :=
  row_of_ok (by decide +kernel)

/-- num.py:1704  `87: 908,` -/
theorem special_b2_m1458_r87_L1704 :
    ∀ e : Nat, 1 < e → e % 486 = 87 → (2 : Nat) ^ e % 1458 = 908 :=
  row_of_ok (by decide +kernel)

/-- num.py:1705  `88: 358,` -/
theorem special_b2_m1458_r88_L1705 :
    ∀ e : Nat, 1 < e → e % 486 = 88 → (2 : Nat) ^ e % 1458 = 358 :=
  row_of_ok (by decide +kernel)

/-- num.py:1706  `89: 716,` -/
theorem special_b2_m1458_r89_L1706 :
    ∀ e : Nat, 1 < e → e % 486 = 89 → (2 : Nat) ^ e % 1458 = 716 :=
  row_of_ok (by decide +kernel)

/-- num.py:1707  `90: 1432,` -/
theorem special_b2_m1458_r90_L1707 :
    ∀ e : Nat, 1 < e → e % 486 = 90 → (2 : Nat) ^ e % 1458 = 1432 :=
  row_of_ok (by decide +kernel)

/-- num.py:1708  `91: 1406,` -/
theorem special_b2_m1458_r91_L1708 :
    ∀ e : Nat, 1 < e → e % 486 = 91 → (2 : Nat) ^ e % 1458 = 1406 :=
  row_of_ok (by decide +kernel)

/-- num.py:1709  `92: 1354,` -/
theorem special_b2_m1458_r92_L1709 :
    ∀ e : Nat, 1 < e → e % 486 = 92 → (2 : Nat) ^ e % 1458 = 1354 :=
  row_of_ok (by decide +kernel)

/-- num.py:1710  `93: 1250,` -/
theorem special_b2_m1458_r93_L1710 :
    ∀ e : Nat, 1 < e → e % 486 = 93 → (2 : Nat) ^ e % 1458 = 1250 :=
  row_of_ok (by decide +kernel)

/-- num.py:1711  `94: 1042,` -/
theorem special_b2_m1458_r94_L1711 :
    ∀ e : Nat, 1 < e → e % 486 = 94 → (2 : Nat) ^ e % 1458 = 1042 :=
  row_of_ok (by decide +kernel)

/-- num.py:1712  `95: 626,` -/
theorem special_b2_m1458_r95_L1712 :
    ∀ e : Nat, 1 < e → e % 486 = 95 → (2 : Nat) ^ e % 1458 = 626 :=
  row_of_ok (by decide +kernel)

/-- num.py:1713  `96: 1252,` -/
theorem special_b2_m1458_r96_L1713 :
    ∀ e : Nat, 1 < e → e % 486 = 96 → (2 : Nat) ^ e % 1458 = 1252 :=
  row_of_ok (by decide +kernel)

/-- num.py:1714  `97: 1046,` -/
theorem special_b2_m1458_r97_L1714 :
    ∀ e : Nat, 1 < e → e % 486 = 97 → (2 : Nat) ^ e % 1458 = 1046 :=
  row_of_ok (by decide +kernel)

/-- num.py:1715  `98: 634,` -/
theorem special_b2_m1458_r98_L1715 :
    ∀ e : Nat, 1 < e → e % 486 = 98 → (2 : Nat) ^ e % 1458 = 634 :=
  row_of_ok (by decide +kernel)

/-- num.py:1716  `99: 1268,` -/
theorem special_b2_m1458_r99_L1716 :
    ∀ e : Nat, 1 < e → e % 486 = 99 → (2 : Nat) ^ e % 1458 = 1268 :=
  row_of_ok (by decide +kernel)

/-- num.py:1717  `100: 1078,` -/
theorem special_b2_m1458_r100_L1717 :
    ∀ e : Nat, 1 < e → e % 486 = 100 → (2 : Nat) ^ e % 1458 = 1078 :=
  row_of_ok (by decide +kernel)

/-- num.py:1718  `101: 698,` -/
theorem special_b2_m1458_r101_L1718 :
    ∀ e : Nat, 1 < e → e % 486 = 101 → (2 : Nat) ^ e % 1458 = 698 :=
  row_of_ok (by decide +kernel)

/-- num.py:1719  `102: 1396,` -/
theorem special_b2_m1458_r102_L1719 :
    ∀ e : Nat, 1 < e → e % 486 = 102 → (2 : Nat) ^ e % 1458 = 1396 :=
  row_of_ok (by decide +kernel)

/-- num.py:1720  `103: 1334,` -/
theorem special_b2_m1458_r103_L1720 :
    ∀ e : Nat, 1 < e → e % 486 = 103 → (2 : Nat) ^ e % 1458 = 1334 :=
  row_of_ok (by decide +kernel)

/-- num.py:1721  `104: 1210,` -/
theorem special_b2_m1458_r104_L1721 :
    ∀ e : Nat, 1 < e → e % 486 = 104 → (2 : Nat) ^ e % 1458 = 1210 :=
  row_of_ok (by decide +kernel)

/-- num.py:1722  `105: 962,` -/
theorem special_b2_m1458_r105_L1722 :
    ∀ e : Nat, 1 < e → e % 486 = 105 → (2 : Nat) ^ e % 1458 = 962 :=
  row_of_ok (by decide +kernel)

/-- num.py:1723  `106: 466,` -/
theorem special_b2_m1458_r106_L1723 :
    ∀ e : Nat, 1 < e → e % 486 = 106 → (2 : Nat) ^ e % 1458 = 466 :=
  row_of_ok (by decide +kernel)

/-- num.py:1724  `107: 932,` -/
theorem special_b2_m1458_r107_L1724 :
    ∀ e : Nat, 1 < e → e % 486 = 107 → (2 : Nat) ^ e % 1458 = 932 :=
  row_of_ok (by decide +kernel)

/-- num.py:1725  `108: 406,` -/
theorem special_b2_m1458_r108_L1725 :
    ∀ e : Nat, 1 < e → e % 486 = 108 → (2 : Nat) ^ e % 1458 = 406 :=
  row_of_ok (by decide +kernel)

/-- num.py:1726  `109: 812,` -/
theorem special_b2_m1458_r109_L1726 :
    ∀ e : Nat, 1 < e → e % 486 = 109 → (2 : Nat) ^ e % 1458 = 812 :=
  row_of_ok (by decide +kernel)

/-- num.py:1727  `110: 166,` -/
theorem special_b2_m1458_r110_L1727 :
    ∀ e : Nat, 1 < e → e % 486 = 110 → (2 : Nat) ^ e % 1458 = 166 :=
  row_of_ok (by decide +kernel)

/-- num.py:1728  `111: 332,` -/
theorem special_b2_m1458_r111_L1728 :
    ∀ e : Nat, 1 < e → e % 486 = 111 → (2 : Nat) ^ e % 1458 = 332 :=
  row_of_ok (by decide +kernel)

/-- num.py:1729  `112: 664,` -/
theorem special_b2_m1458_r112_L1729 :
    ∀ e : Nat, 1 < e → e % 486 = 112 → (2 : Nat) ^ e % 1458 = 664 :=
  row_of_ok (by decide +kernel)

/-- num.py:1730  `113: 1328,` -/
theorem special_b2_m1458_r113_L1730 :
    ∀ e : Nat, 1 < e → e % 486 = 113 → (2 : Nat) ^ e % 1458 = 1328 :=
  row_of_ok (by decide +kernel)

/-- num.py:1731  `114: 1198,` -/
theorem special_b2_m1458_r114_L1731 :
    ∀ e : Nat, 1 < e → e % 486 = 114 → (2 : Nat) ^ e % 1458 = 1198 :=
  row_of_ok (by decide +kernel)

/-- num.py:1732  `115: 938,` -/
theorem special_b2_m1458_r115_L1732 :
    ∀ e : Nat, 1 < e → e % 486 = 115 → (2 : Nat) ^ e % 1458 = 938 :=
  row_of_ok (by decide +kernel)

/-- num.py:1733  `116: 418,` -/
theorem special_b2_m1458_r116_L1733 :
    ∀ e : Nat, 1 < e → e % 486 = 116 → (2 : Nat) ^ e % 1458 = 418 :=
  row_of_ok (by decide +kernel)

/-- num.py:1734  `117: 836,` -/
theorem special_b2_m1458_r117_L1734 :
    ∀ e : Nat, 1 < e → e % 486 = 117 → (2 : Nat) ^ e % 1458 = 836 :=
  row_of_ok (by decide +kernel)

/-- num.py:1735  `118: 214,` -/
theorem special_b2_m1458_r118_L1735 :
    ∀ e : Nat, 1 < e → e % 486 = 118 → (2 : Nat) ^ e % 1458 = 214 :=
  row_of_ok (by decide +kernel)

/-- num.py:1736  `119: 428,` -/
theorem special_b2_m1458_r119_L1736 :
    ∀ e : Nat, 1 < e → e % 486 = 119 → (2 : Nat) ^ e % 1458 = 428 :=
  row_of_ok (by decide +kernel)

/-- num.py:1737  `120: 856,` -/
theorem special_b2_m1458_r120_L1737 :
    ∀ e : Nat, 1 < e → e % 486 = 120 → (2 : Nat) ^ e % 1458 = 856 :=
  row_of_ok (by decide +kernel)

/-- num.py:1738  `121: 254,` -/
theorem special_b2_m1458_r121_L1738 :
    ∀ e : Nat, 1 < e → e % 486 = 121 → (2 : Nat) ^ e % 1458 = 254 :=
  row_of_ok (by decide +kernel)

/-- num.py:1739  `122: 508,` -/
theorem special_b2_m1458_r122_L1739 :
    ∀ e : Nat, 1 < e → e % 486 = 122 → (2 : Nat) ^ e % 1458 = 508 :=
  row_of_ok (by decide +kernel)

/-- num.py:1740  `123: 1016,` -/
theorem special_b2_m1458_r123_L1740 :
    ∀ e : Nat, 1 < e → e % 486 = 123 → (2 : Nat) ^ e % 1458 = 1016 :=
  row_of_ok (by decide +kernel)

/-- num.py:1741  `124: 574,` -/
theorem special_b2_m1458_r124_L1741 :
    ∀ e : Nat, 1 < e → e % 486 = 124 → (2 : Nat) ^ e % 1458 = 574 :=
  row_of_ok (by decide +kernel)

/-- num.py:1742  `125: 1148,` -/
theorem special_b2_m1458_r125_L1742 :
    ∀ e : Nat, 1 < e → e % 486 = 125 → (2 : Nat) ^ e % 1458 = 1148 :=
  row_of_ok (by decide +kernel)

/-- num.py:1743  `126: 838,` -/
theorem special_b2_m1458_r126_L1743 :
    ∀ e : Nat, 1 < e → e % 486 = 126 → (2 : Nat) ^ e % 1458 = 838 :=
  row_of_ok (by decide +kernel)

/-- num.py:1744  `127: 218,` -/
theorem special_b2_m1458_r127_L1744 :
    ∀ e : Nat, 1 < e → e % 486 = 127 → (2 : Nat) ^ e % 1458 = 218 :=
  row_of_ok (by decide +kernel)

/-- num.py:1745  `128: 436,` -/
theorem special_b2_m1458_r128_L1745 :
    ∀ e : Nat, 1 < e → e % 486 = 128 → (2 : Nat) ^ e % 1458 = 436 :=
  row_of_ok (by decide +kernel)

/-- num.py:1746  `129: 872,` -/
theorem special_b2_m1458_r129_L1746 :
    ∀ e : Nat, 1 < e → e % 486 = 129 → (2 : Nat) ^ e % 1458 = 872 :=
  row_of_ok (by decide +kernel)

/-- num.py:1747  `130: 286,` -/
theorem special_b2_m1458_r130_L1747 :
    ∀ e : Nat, 1 < e → e % 486 = 130 → (2 : Nat) ^ e % 1458 = 286 :=
  row_of_ok (by decide +kernel)

/-- num.py:1748  `131: 572,` -/
theorem special_b2_m1458_r131_L1748 :
    ∀ e : Nat, 1 < e → e % 486 = 131 → (2 : Nat) ^ e % 1458 = 572 :=
  row_of_ok (by decide +kernel)

/-- num.py:1749  `132: 1144,` -/
theorem special_b2_m1458_r132_L1749 :
    ∀ e : Nat, 1 < e → e % 486 = 132 → (2 : Nat) ^ e % 1458 = 1144 :=
  row_of_ok (by decide +kernel)

/-- num.py:1750  `133: 830,` -/
theorem special_b2_m1458_r133_L1750 :
    ∀ e : Nat, 1 < e → e % 486 = 133 → (2 : Nat) ^ e % 1458 = 830 :=
  row_of_ok (by decide +kernel)

/-- num.py:1751  `134: 202,` -/
theorem special_b2_m1458_r134_L1751 :
    ∀ e : Nat, 1 < e → e % 486 = 134 → (2 : Nat) ^ e % 1458 = 202 :=
  row_of_ok (by decide +kernel)

/-- num.py:1752  `135: 404,` -/
theorem special_b2_m1458_r135_L1752 :
    ∀ e : Nat, 1 < e → e % 486 = 135 → (2 : Nat) ^ e % 1458 = 404 :=
  row_of_ok (by decide +kernel)

/-- num.py:1753  `136: 808,` -/
theorem special_b2_m1458_r136_L1753 :
    ∀ e : Nat, 1 < e → e % 486 = 136 → (2 : Nat) ^ e % 1458 = 808 :=
  row_of_ok (by decide +kernel)

/-- num.py:1754  `137: 158,` -/
theorem special_b2_m1458_r137_L1754 :
    ∀ e : Nat, 1 < e → e % 486 = 137 → (2 : Nat) ^ e % 1458 = 158 :=
  row_of_ok (by decide +kernel)

/-- num.py:1755  `138: 316,` -/
theorem special_b2_m1458_r138_L1755 :
    ∀ e : Nat, 1 < e → e % 486 = 138 → (2 : Nat) ^ e % 1458 = 316 :=
  row_of_ok (by decide +kernel)

/-- num.py:1756  `139: 632,` -/
theorem special_b2_m1458_r139_L1756 :
    ∀ e : Nat, 1 < e → e % 486 = 139 → (2 : Nat) ^ e % 1458 = 632 :=
  row_of_ok (by decide +kernel)

/-- num.py:1757  `140: 1264,` -/
theorem special_b2_m1458_r140_L1757 :
    ∀ e : Nat, 1 < e → e % 486 = 140 → (2 : Nat) ^ e % 1458 = 1264 :=
  row_of_ok (by decide +kernel)

/-- num.py:1758  `141: 1070,` -/
theorem special_b2_m1458_r141_L1758 :
    ∀ e : Nat, 1 < e → e % 486 = 141 → (2 : Nat) ^ e % 1458 = 1070 :=
  row_of_ok (by decide +kernel)

/-- num.py:1759  `142: 682,` -/
theorem special_b2_m1458_r142_L1759 :
    ∀ e : Nat, 1 < e → e % 486 = 142 → (2 : Nat) ^ e % 1458 = 682 :=
  row_of_ok (by decide +kernel)

/-- num.py:1760  `143: 1364,` -/
theorem special_b2_m1458_r143_L1760 :
    ∀ e : Nat, 1 < e → e % 486 = 143 → (2 : Nat) ^ e % 1458 = 1364 :=
  row_of_ok (by decide +kernel)

/-- num.py:1761  `144: 1270,` -/
theorem special_b2_m1458_r144_L1761 :
    ∀ e : Nat, 1 < e → e % 486 = 144 → (2 : Nat) ^ e % 1458 = 1270 :=
  row_of_ok (by decide +kernel)

/-- num.py:1762  `145: 1082,` -/
theorem special_b2_m1458_r145_L1762 :
    ∀ e : Nat, 1 < e → e % 486 = 145 → (2 : Nat) ^ e % 1458 = 1082 :=
  row_of_ok (by decide +kernel)

/-- num.py:1763  `146: 706,` -/
theorem special_b2_m1458_r146_L1763 :
    ∀ e : Nat, 1 < e → e % 486 = 146 → (2 : Nat) ^ e % 1458 = 706 :=
  row_of_ok (by decide +kernel)

/-- num.py:1764  `147: 1412,` -/
theorem special_b2_m1458_r147_L1764 :
    ∀ e : Nat, 1 < e → e % 486 = 147 → (2 : Nat) ^ e % 1458 = 1412 :=
  row_of_ok (by decide +kernel)

/-- num.py:1765  `148: 1366,` -/
theorem special_b2_m1458_r148_L1765 :
    ∀ e : Nat, 1 < e → e % 486 = 148 → (2 : Nat) ^ e % 1458 = 1366 :=
  row_of_ok (by decide +kernel)

/-- num.py:1766  `149: 1274,` -/
theorem special_b2_m1458_r149_L1766 :
    ∀ e : Nat, 1 < e → e % 486 = 149 → (2 : Nat) ^ e % 1458 = 1274 :=
  row_of_ok (by decide +kernel)

/-- num.py:1767  `150: 1090,` -/
theorem special_b2_m1458_r150_L1767 :
    ∀ e : Nat, 1 < e → e % 486 = 150 → (2 : Nat) ^ e % 1458 = 1090 :=
  row_of_ok (by decide +kernel)

/-- num.py:1768  `151: 722,` -/
theorem special_b2_m1458_r151_L1768 :
    ∀ e : Nat, 1 < e → e % 486 = 151 → (2 : Nat) ^ e % 1458 = 722 :=
  row_of_ok (by decide +kernel)

/-- num.py:1769  `152: 1444,` -/
theorem special_b2_m1458_r152_L1769 :
    ∀ e : Nat, 1 < e → e % 486 = 152 → (2 : Nat) ^ e % 1458 = 1444 :=
  row_of_ok (by decide +kernel)

/-- num.py:1770  `153: 1430,` -/
theorem special_b2_m1458_r153_L1770 :
    ∀ e : Nat, 1 < e → e % 486 = 153 → (2 : Nat) ^ e % 1458 = 1430 :=
  row_of_ok (by decide +kernel)

/-- num.py:1771  `154: 1402,` -/
theorem special_b2_m1458_r154_L1771 :
    ∀ e : Nat, 1 < e → e % 486 = 154 → (2 : Nat) ^ e % 1458 = 1402 :=
  row_of_ok (by decide +kernel)

/-- num.py:1772  `155: 1346,` -/
theorem special_b2_m1458_r155_L1772 :
    ∀ e : Nat, 1 < e → e % 486 = 155 → (2 : Nat) ^ e % 1458 = 1346 :=
  row_of_ok (by decide +kernel)

/-- num.py:1773  `156: 1234,` -/
theorem special_b2_m1458_r156_L1773 :
    ∀ e : Nat, 1 < e → e % 486 = 156 → (2 : Nat) ^ e % 1458 = 1234 :=
  row_of_ok (by decide +kernel)

/-- num.py:1774  `157: 1010,` -/
theorem special_b2_m1458_r157_L1774 :
    ∀ e : Nat, 1 < e → e % 486 = 157 → (2 : Nat) ^ e % 1458 = 1010 :=
  row_of_ok (by decide +kernel)

/-- num.py:1775  `158: 562,` -/
theorem special_b2_m1458_r158_L1775 :
    ∀ e : Nat, 1 < e → e % 486 = 158 → (2 : Nat) ^ e % 1458 = 562 :=
  row_of_ok (by decide +kernel)

/-- num.py:1776  `159: 1124,` -/
theorem special_b2_m1458_r159_L1776 :
    ∀ e : Nat, 1 < e → e % 486 = 159 → (2 : Nat) ^ e % 1458 = 1124 :=
  row_of_ok (by decide +kernel)

/-- num.py:1777  `160: 790,` -/
theorem special_b2_m1458_r160_L1777 :
    ∀ e : Nat, 1 < e → e % 486 = 160 → (2 : Nat) ^ e % 1458 = 790 :=
  row_of_ok (by decide +kernel)

/-- num.py:1778  `161: 122,` -/
theorem special_b2_m1458_r161_L1778 :
    ∀ e : Nat, 1 < e → e % 486 = 161 → (2 : Nat) ^ e % 1458 = 122 :=
  row_of_ok (by decide +kernel)

/-- num.py:1779  `162: 244,` -/
theorem special_b2_m1458_r162_L1779 :
    ∀ e : Nat, 1 < e → e % 486 = 162 → (2 : Nat) ^ e % 1458 = 244 :=
  row_of_ok (by decide +kernel)

/-- num.py:1780  `163: 488,` -/
theorem special_b2_m1458_r163_L1780 :
    ∀ e : Nat, 1 < e → e % 486 = 163 → (2 : Nat) ^ e % 1458 = 488 :=
  row_of_ok (by decide +kernel)

/-- num.py:1781  `164: 976,` -/
theorem special_b2_m1458_r164_L1781 :
    ∀ e : Nat, 1 < e → e % 486 = 164 → (2 : Nat) ^ e % 1458 = 976 :=
  row_of_ok (by decide +kernel)

/-- num.py:1782  `165: 494,` -/
theorem special_b2_m1458_r165_L1782 :
    ∀ e : Nat, 1 < e → e % 486 = 165 → (2 : Nat) ^ e % 1458 = 494 :=
  row_of_ok (by decide +kernel)

/-- num.py:1783  `166: 988,` -/
theorem special_b2_m1458_r166_L1783 :
    ∀ e : Nat, 1 < e → e % 486 = 166 → (2 : Nat) ^ e % 1458 = 988 :=
  row_of_ok (by decide +kernel)

/-- num.py:1784  `167: 518,` -/
theorem special_b2_m1458_r167_L1784 :
    ∀ e : Nat, 1 < e → e % 486 = 167 → (2 : Nat) ^ e % 1458 = 518 :=
  row_of_ok (by decide +kernel)

/-- num.py:1785  `168: 1036,` -/
theorem special_b2_m1458_r168_L1785 :
    ∀ e : Nat, 1 < e → e % 486 = 168 → (2 : Nat) ^ e % 1458 = 1036 :=
  row_of_ok (by decide +kernel)

/-- num.py:1786  `169: 614,` -/
theorem special_b2_m1458_r169_L1786 :
    ∀ e : Nat, 1 < e → e % 486 = 169 → (2 : Nat) ^ e % 1458 = 614 :=
  row_of_ok (by decide +kernel)

/-- num.py:1787  `170: 1228,` -/
theorem special_b2_m1458_r170_L1787 :
    ∀ e : Nat, 1 < e → e % 486 = 170 → (2 : Nat) ^ e % 1458 = 1228 :=
  row_of_ok (by decide +kernel)

/-- num.py:1788  `171: 998,` -/
theorem special_b2_m1458_r171_L1788 :
    ∀ e : Nat, 1 < e → e % 486 = 171 → (2 : Nat) ^ e % 1458 = 998 :=
  row_of_ok (by decide +kernel)

/-- num.py:1789  `172: 538,` -/
theorem special_b2_m1458_r172_L1789 :
    ∀ e : Nat, 1 < e → e % 486 = 172 → (2 : Nat) ^ e % 1458 = 538 :=
  row_of_ok (by decide +kernel)

/-- num.py:1790  `173: 1076,` -/
theorem special_b2_m1458_r173_L1790 :
    ∀ e : Nat, 1 < e → e % 486 = 173 → (2 : Nat) ^ e % 1458 = 1076 :=
  row_of_ok (by decide +kernel)

/-- num.py:1791  `174: 694,` -/
theorem special_b2_m1458_r174_L1791 :
    ∀ e : Nat, 1 < e → e % 486 = 174 → (2 : Nat) ^ e % 1458 = 694 :=
  row_of_ok (by decide +kernel)

/-- num.py:1792  `175: 1388,` -/
theorem special_b2_m1458_r175_L1792 :
    ∀ e : Nat, 1 < e → e % 486 = 175 → (2 : Nat) ^ e % 1458 = 1388 :=
  row_of_ok (by decide +kernel)

/-- num.py:1793  `176: 1318,` -/
theorem special_b2_m1458_r176_L1793 :
    ∀ e : Nat, 1 < e → e % 486 = 176 → (2 : Nat) ^ e % 1458 = 1318 :=
  row_of_ok (by decide +kernel)

/-- num.py:1794  `177: 1178,` -/
theorem special_b2_m1458_r177_L1794 :
    ∀ e : Nat, 1 < e → e % 486 = 177 → (2 : Nat) ^ e % 1458 = 1178 :=
  row_of_ok (by decide +kernel)

/-- num.py:1795  `178: 898,` -/
theorem special_b2_m1458_r178_L1795 :
    ∀ e : Nat, 1 < e → e % 486 = 178 → (2 : Nat) ^ e % 1458 = 898 :=
  row_of_ok (by decide +kernel)

/-- num.py:1796  `179: 338,` -/
theorem special_b2_m1458_r179_L1796 :
    ∀ e : Nat, 1 < e → e % 486 = 179 → (2 : Nat) ^ e % 1458 = 338 :=
  row_of_ok (by decide +kernel)

/-- num.py:1797  `180: 676,` -/
theorem special_b2_m1458_r180_L1797 :
    ∀ e : Nat, 1 < e → e % 486 = 180 → (2 : Nat) ^ e % 1458 = 676 :=
  row_of_ok (by decide +kernel)

/-- num.py:1798  `181: 1352,` -/
theorem special_b2_m1458_r181_L1798 :
    ∀ e : Nat, 1 < e → e % 486 = 181 → (2 : Nat) ^ e % 1458 = 1352 :=
  row_of_ok (by decide +kernel)

/-- num.py:1799  `182: 1246,` -/
theorem special_b2_m1458_r182_L1799 :
    ∀ e : Nat, 1 < e → e % 486 = 182 → (2 : Nat) ^ e % 1458 = 1246 :=
  row_of_ok (by decide +kernel)

/-- num.py:1800  `183: 1034,` -/
theorem special_b2_m1458_r183_L1800 :
    ∀ e : Nat, 1 < e → e % 486 = 183 → (2 : Nat) ^ e % 1458 = 1034 :=
  row_of_ok (by decide +kernel)

/-- num.py:1801  `184: 610,` -/
theorem special_b2_m1458_r184_L1801 :
    ∀ e : Nat, 1 < e → e % 486 = 184 → (2 : Nat) ^ e % 1458 = 610 :=
  row_of_ok (by decide +kernel)

/-- num.py:1802  `185: 1220,` -/
theorem special_b2_m1458_r185_L1802 :
    ∀ e : Nat, 1 < e → e % 486 = 185 → (2 : Nat) ^ e % 1458 = 1220 :=
  row_of_ok (by decide +kernel)

/-- num.py:1803  `186: 982,` -/
theorem special_b2_m1458_r186_L1803 :
    ∀ e : Nat, 1 < e → e % 486 = 186 → (2 : Nat) ^ e % 1458 = 982 :=
  row_of_ok (by decide +kernel)

/-- num.py:1804  `187: 506,` -/
theorem special_b2_m1458_r187_L1804 :
    ∀ e : Nat, 1 < e → e % 486 = 187 → (2 : Nat) ^ e % 1458 = 506 :=
  row_of_ok (by decide +kernel)

/-- num.py:1805  `188: 1012,` -/
theorem special_b2_m1458_r188_L1805 :
    ∀ e : Nat, 1 < e → e % 486 = 188 → (2 : Nat) ^ e % 1458 = 1012 :=
  row_of_ok (by decide +kernel)

/-- num.py:1806  `189: 566,` -/
theorem special_b2_m1458_r189_L1806 :
    ∀ e : Nat, 1 < e → e % 486 = 189 → (2 : Nat) ^ e % 1458 = 566 :=
  row_of_ok (by decide +kernel)

/-- num.py:1807  `190: 1132,` -/
theorem special_b2_m1458_r190_L1807 :
    ∀ e : Nat, 1 < e → e % 486 = 190 → (2 : Nat) ^ e % 1458 = 1132 :=
  row_of_ok (by decide +kernel)

/-- num.py:1808  `191: 806,` -/
theorem special_b2_m1458_r191_L1808 :
    ∀ e : Nat, 1 < e → e % 486 = 191 → (2 : Nat) ^ e % 1458 = 806 :=
  row_of_ok (by decide +kernel)

/-- num.py:1809  `192: 154,` -/
theorem special_b2_m1458_r192_L1809 :
    ∀ e : Nat, 1 < e → e % 486 = 192 → (2 : Nat) ^ e % 1458 = 154 :=
  row_of_ok (by decide +kernel)

/-- num.py:1810  `193: 308,` -/
theorem special_b2_m1458_r193_L1810 :
    ∀ e : Nat, 1 < e → e % 486 = 193 → (2 : Nat) ^ e % 1458 = 308 :=
  row_of_ok (by decide +kernel)

/-- num.py:1811  `194: 616,` -/
theorem special_b2_m1458_r194_L1811 :
    ∀ e : Nat, 1 < e → e % 486 = 194 → (2 : Nat) ^ e % 1458 = 616 :=
  row_of_ok (by decide +kernel)

/-- num.py:1812  `195: 1232,` -/
theorem special_b2_m1458_r195_L1812 :
    ∀ e : Nat, 1 < e → e % 486 = 195 → (2 : Nat) ^ e % 1458 = 1232 :=
  row_of_ok (by decide +kernel)

/-- num.py:1813  `196: 1006,` -/
theorem special_b2_m1458_r196_L1813 :
    ∀ e : Nat, 1 < e → e % 486 = 196 → (2 : Nat) ^ e % 1458 = 1006 :=
  row_of_ok (by decide +kernel)

/-- num.py:1814  `197: 554,` -/
theorem special_b2_m1458_r197_L1814 :
    ∀ e : Nat, 1 < e → e % 486 = 197 → (2 : Nat) ^ e % 1458 = 554 :=
  row_of_ok (by decide +kernel)

/-- num.py:1815  `198: 1108,` -/
theorem special_b2_m1458_r198_L1815 :
    ∀ e : Nat, 1 < e → e % 486 = 198 → (2 : Nat) ^ e % 1458 = 1108 :=
  row_of_ok (by decide +kernel)

/-- num.py:1816  `199: 758,` -/
theorem special_b2_m1458_r199_L1816 :
    ∀ e : Nat, 1 < e → e % 486 = 199 → (2 : Nat) ^ e % 1458 = 758 :=
  row_of_ok (by decide +kernel)

/-- num.py:1817  `200: 58,` -/
theorem special_b2_m1458_r200_L1817 :
    ∀ e : Nat, 1 < e → e % 486 = 200 → (2 : Nat) ^ e % 1458 = 58 :=
  row_of_ok (by decide +kernel)

/-- num.py:1818  `201: 116,` -/
theorem special_b2_m1458_r201_L1818 :
    ∀ e : Nat, 1 < e → e % 486 = 201 → (2 : Nat) ^ e % 1458 = 116 :=
  row_of_ok (by decide +kernel)

/-- num.py:1819  `202: 232,` -/
theorem special_b2_m1458_r202_L1819 :
    ∀ e : Nat, 1 < e → e % 486 = 202 → (2 : Nat) ^ e % 1458 = 232 :=
  row_of_ok (by decide +kernel)

/-- num.py:1820  `203: 464,` -/
theorem special_b2_m1458_r203_L1820 :
    ∀ e : Nat, 1 < e → e % 486 = 203 → (2 : Nat) ^ e % 1458 = 464 :=
  row_of_ok (by decide +kernel)

/-- num.py:1821  `204: 928,` -/
theorem special_b2_m1458_r204_L1821 :
    ∀ e : Nat, 1 < e → e % 486 = 204 → (2 : Nat) ^ e % 1458 = 928 :=
  row_of_ok (by decide +kernel)

/-- num.py:1822  `205: 398,` -/
theorem special_b2_m1458_r205_L1822 :
    ∀ e : Nat, 1 < e → e % 486 = 205 → (2 : Nat) ^ e % 1458 = 398 :=
  row_of_ok (by decide +kernel)

/-- num.py:1823  `206: 796,` -/
theorem special_b2_m1458_r206_L1823 :
    ∀ e : Nat, 1 < e → e % 486 = 206 → (2 : Nat) ^ e % 1458 = 796 :=
  row_of_ok (by decide +kernel)

/-- num.py:1824  `207: 134,` -/
theorem special_b2_m1458_r207_L1824 :
    ∀ e : Nat, 1 < e → e % 486 = 207 → (2 : Nat) ^ e % 1458 = 134 :=
  row_of_ok (by decide +kernel)

/-- num.py:1825  `208: 268,` -/
theorem special_b2_m1458_r208_L1825 :
    ∀ e : Nat, 1 < e → e % 486 = 208 → (2 : Nat) ^ e % 1458 = 268 :=
  row_of_ok (by decide +kernel)

/-- num.py:1826  `209: 536,` -/
theorem special_b2_m1458_r209_L1826 :
    ∀ e : Nat, 1 < e → e % 486 = 209 → (2 : Nat) ^ e % 1458 = 536 :=
  row_of_ok (by decide +kernel)

/-- num.py:1827  `210: 1072,` -/
theorem special_b2_m1458_r210_L1827 :
    ∀ e : Nat, 1 < e → e % 486 = 210 → (2 : Nat) ^ e % 1458 = 1072 :=
  row_of_ok (by decide +kernel)

/-- num.py:1828  `211: 686,` -/
theorem special_b2_m1458_r211_L1828 :
    ∀ e : Nat, 1 < e → e % 486 = 211 → (2 : Nat) ^ e % 1458 = 686 :=
  row_of_ok (by decide +kernel)

/-- num.py:1829  `212: 1372,` -/
theorem special_b2_m1458_r212_L1829 :
    ∀ e : Nat, 1 < e → e % 486 = 212 → (2 : Nat) ^ e % 1458 = 1372 :=
  row_of_ok (by decide +kernel)

/-- num.py:1830  `213: 1286,` -/
theorem special_b2_m1458_r213_L1830 :
    ∀ e : Nat, 1 < e → e % 486 = 213 → (2 : Nat) ^ e % 1458 = 1286 :=
  row_of_ok (by decide +kernel)

/-- num.py:1831  `214: 1114,` -/
theorem special_b2_m1458_r214_L1831 :
    ∀ e : Nat, 1 < e → e % 486 = 214 → (2 : Nat) ^ e % 1458 = 1114 :=
  row_of_ok (by decide +kernel)

/-- num.py:1832  `215: 770,` -/
theorem special_b2_m1458_r215_L1832 :
    ∀ e : Nat, 1 < e → e % 486 = 215 → (2 : Nat) ^ e % 1458 = 770 :=
  row_of_ok (by decide +kernel)

/-- num.py:1833  `216: 82,` -/
theorem special_b2_m1458_r216_L1833 :
    ∀ e : Nat, 1 < e → e % 486 = 216 → (2 : Nat) ^ e % 1458 = 82 :=
  row_of_ok (by decide +kernel)

/-- num.py:1834  `217: 164,` -/
theorem special_b2_m1458_r217_L1834 :
    ∀ e : Nat, 1 < e → e % 486 = 217 → (2 : Nat) ^ e % 1458 = 164 :=
  row_of_ok (by decide +kernel)

/-- num.py:1835  `218: 328,` -/
theorem special_b2_m1458_r218_L1835 :
    ∀ e : Nat, 1 < e → e % 486 = 218 → (2 : Nat) ^ e % 1458 = 328 :=
  row_of_ok (by decide +kernel)

/-- num.py:1836  `219: 656,` -/
theorem special_b2_m1458_r219_L1836 :
    ∀ e : Nat, 1 < e → e % 486 = 219 → (2 : Nat) ^ e % 1458 = 656 :=
  row_of_ok (by decide +kernel)

/-- num.py:1837  `220: 1312,` -/
theorem special_b2_m1458_r220_L1837 :
    ∀ e : Nat, 1 < e → e % 486 = 220 → (2 : Nat) ^ e % 1458 = 1312 :=
  row_of_ok (by decide +kernel)

/-- num.py:1838  `221: 1166,` -/
theorem special_b2_m1458_r221_L1838 :
    ∀ e : Nat, 1 < e → e % 486 = 221 → (2 : Nat) ^ e % 1458 = 1166 :=
  row_of_ok (by decide +kernel)

/-- num.py:1839  `222: 874,` -/
theorem special_b2_m1458_r222_L1839 :
    ∀ e : Nat, 1 < e → e % 486 = 222 → (2 : Nat) ^ e % 1458 = 874 :=
  row_of_ok (by decide +kernel)

/-- num.py:1840  `223: 290,` -/
theorem special_b2_m1458_r223_L1840 :
    ∀ e : Nat, 1 < e → e % 486 = 223 → (2 : Nat) ^ e % 1458 = 290 :=
  row_of_ok (by decide +kernel)

/-- num.py:1841  `224: 580,` -/
theorem special_b2_m1458_r224_L1841 :
    ∀ e : Nat, 1 < e → e % 486 = 224 → (2 : Nat) ^ e % 1458 = 580 :=
  row_of_ok (by decide +kernel)

/-- num.py:1842  `225: 1160,` -/
theorem special_b2_m1458_r225_L1842 :
    ∀ e : Nat, 1 < e → e % 486 = 225 → (2 : Nat) ^ e % 1458 = 1160 :=
  row_of_ok (by decide +kernel)

/-- num.py:1843  `226: 862,` -/
theorem special_b2_m1458_r226_L1843 :
    ∀ e : Nat, 1 < e → e % 486 = 226 → (2 : Nat) ^ e % 1458 = 862 :=
  row_of_ok (by decide +kernel)

/-- num.py:1844  `227: 266,` -/
theorem special_b2_m1458_r227_L1844 :
    ∀ e : Nat, 1 < e → e % 486 = 227 → (2 : Nat) ^ e % 1458 = 266 :=
  row_of_ok (by decide +kernel)

/-- num.py:1845  `228: 532,` -/
theorem special_b2_m1458_r228_L1845 :
    ∀ e : Nat, 1 < e → e % 486 = 228 → (2 : Nat) ^ e % 1458 = 532 :=
  row_of_ok (by decide +kernel)

/-- num.py:1846  `229: 1064,` -/
theorem special_b2_m1458_r229_L1846 :
    ∀ e : Nat, 1 < e → e % 486 = 229 → (2 : Nat) ^ e % 1458 = 1064 :=
  row_of_ok (by decide +kernel)

/-- num.py:1847  `230: 670,` -/
theorem special_b2_m1458_r230_L1847 :
    ∀ e : Nat, 1 < e → e % 486 = 230 → (2 : Nat) ^ e % 1458 = 670 :=
  row_of_ok (by decide +kernel)

/-- num.py:1848  `231: 1340,` -/
theorem special_b2_m1458_r231_L1848 :
    ∀ e : Nat, 1 < e → e % 486 = 231 → (2 : Nat) ^ e % 1458 = 1340 :=
  row_of_ok (by decide +kernel)

/-- num.py:1849  `232: 1222,` -/
theorem special_b2_m1458_r232_L1849 :
    ∀ e : Nat, 1 < e → e % 486 = 232 → (2 : Nat) ^ e % 1458 = 1222 :=
  row_of_ok (by decide +kernel)

/-- num.py:1850  `233: 986,` -/
theorem special_b2_m1458_r233_L1850 :
    ∀ e : Nat, 1 < e → e % 486 = 233 → (2 : Nat) ^ e % 1458 = 986 :=
  row_of_ok (by decide +kernel)

/-- num.py:1851  `234: 514,` -/
theorem special_b2_m1458_r234_L1851 :
    ∀ e : Nat, 1 < e → e % 486 = 234 → (2 : Nat) ^ e % 1458 = 514 :=
  row_of_ok (by decide +kernel)

/-- num.py:1852  `235: 1028,` -/
theorem special_b2_m1458_r235_L1852 :
    ∀ e : Nat, 1 < e → e % 486 = 235 → (2 : Nat) ^ e % 1458 = 1028 :=
  row_of_ok (by decide +kernel)

/-- num.py:1853  `236: 598,` -/
theorem special_b2_m1458_r236_L1853 :
    ∀ e : Nat, 1 < e → e % 486 = 236 → (2 : Nat) ^ e % 1458 = 598 :=
  row_of_ok (by decide +kernel)

/-- num.py:1854  `237: 1196,` -/
theorem special_b2_m1458_r237_L1854 :
    ∀ e : Nat, 1 < e → e % 486 = 237 → (2 : Nat) ^ e % 1458 = 1196 :=
  row_of_ok (by decide +kernel)

/-- num.py:1855  `238: 934,` -/
theorem special_b2_m1458_r238_L1855 :
    ∀ e : Nat, 1 < e → e % 486 = 238 → (2 : Nat) ^ e % 1458 = 934 :=
  row_of_ok (by decide +kernel)

/-- num.py:1856  `239: 410,` -/
theorem special_b2_m1458_r239_L1856 :
    ∀ e : Nat, 1 < e → e % 486 = 239 → (2 : Nat) ^ e % 1458 = 410 :=
  row_of_ok (by decide +kernel)

/-- num.py:1857  `240: 820,` -/
theorem special_b2_m1458_r240_L1857 :
    ∀ e : Nat, 1 < e → e % 486 = 240 → (2 : Nat) ^ e % 1458 = 820 :=
  row_of_ok (by decide +kernel)

/-- num.py:1858  `241: 182,` -/
theorem special_b2_m1458_r241_L1858 :
    ∀ e : Nat, 1 < e → e % 486 = 241 → (2 : Nat) ^ e % 1458 = 182 :=
  row_of_ok (by decide +kernel)

/-- num.py:1859  `242: 364,` -/
theorem special_b2_m1458_r242_L1859 :
    ∀ e : Nat, 1 < e → e % 486 = 242 → (2 : Nat) ^ e % 1458 = 364 :=
  row_of_ok (by decide +kernel)

/-- num.py:1860  `243: 728,` -/
theorem special_b2_m1458_r243_L1860 :
    ∀ e : Nat, 1 < e → e % 486 = 243 → (2 : Nat) ^ e % 1458 = 728 :=
  row_of_ok (by decide +kernel)

/-- num.py:1861  `244: 1456,` -/
theorem special_b2_m1458_r244_L1861 :
    ∀ e : Nat, 1 < e → e % 486 = 244 → (2 : Nat) ^ e % 1458 = 1456 :=
  row_of_ok (by decide +kernel)

/-- num.py:1862  `245: 1454,` -/
theorem special_b2_m1458_r245_L1862 :
    ∀ e : Nat, 1 < e → e % 486 = 245 → (2 : Nat) ^ e % 1458 = 1454 :=
  row_of_ok (by decide +kernel)

/-- num.py:1863  `246: 1450,` -/
theorem special_b2_m1458_r246_L1863 :
    ∀ e : Nat, 1 < e → e % 486 = 246 → (2 : Nat) ^ e % 1458 = 1450 :=
  row_of_ok (by decide +kernel)

/-- num.py:1864  `247: 1442,` -/
theorem special_b2_m1458_r247_L1864 :
    ∀ e : Nat, 1 < e → e % 486 = 247 → (2 : Nat) ^ e % 1458 = 1442 :=
  row_of_ok (by decide +kernel)

/-- num.py:1865  `248: 1426,` -/
theorem special_b2_m1458_r248_L1865 :
    ∀ e : Nat, 1 < e → e % 486 = 248 → (2 : Nat) ^ e % 1458 = 1426 :=
  row_of_ok (by decide +kernel)

/-- num.py:1866  `249: 1394,` -/
theorem special_b2_m1458_r249_L1866 :
    ∀ e : Nat, 1 < e → e % 486 = 249 → (2 : Nat) ^ e % 1458 = 1394 :=
  row_of_ok (by decide +kernel)

/-- num.py:1867  `250: 1330,` -/
theorem special_b2_m1458_r250_L1867 :
    ∀ e : Nat, 1 < e → e % 486 = 250 → (2 : Nat) ^ e % 1458 = 1330 :=
  row_of_ok (by decide +kernel)

/-- num.py:1868  `251: 1202,` -/
theorem special_b2_m1458_r251_L1868 :
    ∀ e : Nat, 1 < e → e % 486 = 251 → (2 : Nat) ^ e % 1458 = 1202 :=
  row_of_ok (by decide +kernel)

/-- num.py:1869  `252: 946,` -/
theorem special_b2_m1458_r252_L1869 :
    ∀ e : Nat, 1 < e → e % 486 = 252 → (2 : Nat) ^ e % 1458 = 946 :=
  row_of_ok (by decide +kernel)

/-- num.py:1870  `253: 434,` -/
theorem special_b2_m1458_r253_L1870 :
    ∀ e : Nat, 1 < e → e % 486 = 253 → (2 : Nat) ^ e % 1458 = 434 :=
  row_of_ok (by decide +kernel)

/-- num.py:1871  `254: 868,` -/
theorem special_b2_m1458_r254_L1871 :
    ∀ e : Nat, 1 < e → e % 486 = 254 → (2 : Nat) ^ e % 1458 = 868 :=
  row_of_ok (by decide +kernel)

/-- num.py:1872  `255: 278,` -/
theorem special_b2_m1458_r255_L1872 :
    ∀ e : Nat, 1 < e → e % 486 = 255 → (2 : Nat) ^ e % 1458 = 278 :=
  row_of_ok (by decide +kernel)

/-- num.py:1873  `256: 556,` -/
theorem special_b2_m1458_r256_L1873 :
    ∀ e : Nat, 1 < e → e % 486 = 256 → (2 : Nat) ^ e % 1458 = 556 :=
  row_of_ok (by decide +kernel)

/-- num.py:1874  `257: 1112,` -/
theorem special_b2_m1458_r257_L1874 :
    ∀ e : Nat, 1 < e → e % 486 = 257 → (2 : Nat) ^ e % 1458 = 1112 :=
  row_of_ok (by decide +kernel)

/-- num.py:1875  `258: 766,` -/
theorem special_b2_m1458_r258_L1875 :
    ∀ e : Nat, 1 < e → e % 486 = 258 → (2 : Nat) ^ e % 1458 = 766 :=
  row_of_ok (by decide +kernel)

/-- num.py:1876  `259: 74,` -/
theorem special_b2_m1458_r259_L1876 :
    ∀ e : Nat, 1 < e → e % 486 = 259 → (2 : Nat) ^ e % 1458 = 74 :=
  row_of_ok (by decide +kernel)

/-- num.py:1877  `260: 148,` -/
theorem special_b2_m1458_r260_L1877 :
    ∀ e : Nat, 1 < e → e % 486 = 260 → (2 : Nat) ^ e % 1458 = 148 :=
  row_of_ok (by decide +kernel)

/-- num.py:1878  `261: 296,` -/
theorem special_b2_m1458_r261_L1878 :
    ∀ e : Nat, 1 < e → e % 486 = 261 → (2 : Nat) ^ e % 1458 = 296 :=
  row_of_ok (by decide +kernel)

/-- num.py:1879  `262: 592,` -/
theorem special_b2_m1458_r262_L1879 :
    ∀ e : Nat, 1 < e → e % 486 = 262 → (2 : Nat) ^ e % 1458 = 592 :=
  row_of_ok (by decide +kernel)

/-- num.py:1880  `263: 1184,` -/
theorem special_b2_m1458_r263_L1880 :
    ∀ e : Nat, 1 < e → e % 486 = 263 → (2 : Nat) ^ e % 1458 = 1184 :=
  row_of_ok (by decide +kernel)

/-- num.py:1881  `264: 910,` -/
theorem special_b2_m1458_r264_L1881 :
    ∀ e : Nat, 1 < e → e % 486 = 264 → (2 : Nat) ^ e % 1458 = 910 :=
  row_of_ok (by decide +kernel)

/-- num.py:1882  `265: 362,` -/
theorem special_b2_m1458_r265_L1882 :
    ∀ e : Nat, 1 < e → e % 486 = 265 → (2 : Nat) ^ e % 1458 = 362 :=
  row_of_ok (by decide +kernel)

/-- num.py:1883  `266: 724,` -/
theorem special_b2_m1458_r266_L1883 :
    ∀ e : Nat, 1 < e → e % 486 = 266 → (2 : Nat) ^ e % 1458 = 724 :=
  row_of_ok (by decide +kernel)

/-- num.py:1884  `267: 1448,` -/
theorem special_b2_m1458_r267_L1884 :
    ∀ e : Nat, 1 < e → e % 486 = 267 → (2 : Nat) ^ e % 1458 = 1448 :=
  row_of_ok (by decide +kernel)

/-- num.py:1885  `268: 1438,` -/
theorem special_b2_m1458_r268_L1885 :
    ∀ e : Nat, 1 < e → e % 486 = 268 → (2 : Nat) ^ e % 1458 = 1438 :=
  row_of_ok (by decide +kernel)

/-- num.py:1886  `269: 1418,` -/
theorem special_b2_m1458_r269_L1886 :
    ∀ e : Nat, 1 < e → e % 486 = 269 → (2 : Nat) ^ e % 1458 = 1418 :=
  row_of_ok (by decide +kernel)

/-- num.py:1887  `270: 1378,` -/
theorem special_b2_m1458_r270_L1887 :
    ∀ e : Nat, 1 < e → e % 486 = 270 → (2 : Nat) ^ e % 1458 = 1378 :=
  row_of_ok (by decide +kernel)

/-- num.py:1888  `271: 1298,` -/
theorem special_b2_m1458_r271_L1888 :
    ∀ e : Nat, 1 < e → e % 486 = 271 → (2 : Nat) ^ e % 1458 = 1298 :=
  row_of_ok (by decide +kernel)

/-- num.py:1889  `272: 1138,` -/
theorem special_b2_m1458_r272_L1889 :
    ∀ e : Nat, 1 < e → e % 486 = 272 → (2 : Nat) ^ e % 1458 = 1138 :=
  row_of_ok (by decide +kernel)

/-- num.py:1890  `273: 818,` -/
theorem special_b2_m1458_r273_L1890 :
    ∀ e : Nat, 1 < e → e % 486 = 273 → (2 : Nat) ^ e % 1458 = 818 :=
  row_of_ok (by decide +kernel)

/-- num.py:1891  `274: 178,` -/
theorem special_b2_m1458_r274_L1891 :
    ∀ e : Nat, 1 < e → e % 486 = 274 → (2 : Nat) ^ e % 1458 = 178 :=
  row_of_ok (by decide +kernel)

/-- num.py:1892  `275: 356,` -/
theorem special_b2_m1458_r275_L1892 :
    ∀ e : Nat, 1 < e → e % 486 = 275 → (2 : Nat) ^ e % 1458 = 356 :=
  row_of_ok (by decide +kernel)

/-- num.py:1893  `276: 712,` -/
theorem special_b2_m1458_r276_L1893 :
    ∀ e : Nat, 1 < e → e % 486 = 276 → (2 : Nat) ^ e % 1458 = 712 :=
  row_of_ok (by decide +kernel)

/-- num.py:1894  `277: 1424,` -/
theorem special_b2_m1458_r277_L1894 :
    ∀ e : Nat, 1 < e → e % 486 = 277 → (2 : Nat) ^ e % 1458 = 1424 :=
  row_of_ok (by decide +kernel)

/-- num.py:1895  `278: 1390,` -/
theorem special_b2_m1458_r278_L1895 :
    ∀ e : Nat, 1 < e → e % 486 = 278 → (2 : Nat) ^ e % 1458 = 1390 :=
  row_of_ok (by decide +kernel)

/-- num.py:1896  `279: 1322,` -/
theorem special_b2_m1458_r279_L1896 :
    ∀ e : Nat, 1 < e → e % 486 = 279 → (2 : Nat) ^ e % 1458 = 1322 :=
  row_of_ok (by decide +kernel)

/-- num.py:1897  `280: 1186,` -/
theorem special_b2_m1458_r280_L1897 :
    ∀ e : Nat, 1 < e → e % 486 = 280 → (2 : Nat) ^ e % 1458 = 1186 :=
  row_of_ok (by decide +kernel)

/-- num.py:1898  `281: 914,` -/
theorem special_b2_m1458_r281_L1898 :
    ∀ e : Nat, 1 < e → e % 486 = 281 → (2 : Nat) ^ e % 1458 = 914 :=
  row_of_ok (by decide +kernel)

/-- num.py:1899  `282: 370,` -/
theorem special_b2_m1458_r282_L1899 :
    ∀ e : Nat, 1 < e → e % 486 = 282 → (2 : Nat) ^ e % 1458 = 370 :=
  row_of_ok (by decide +kernel)

/-- num.py:1900  `283: 740,` -/
theorem special_b2_m1458_r283_L1900 :
    ∀ e : Nat, 1 < e → e % 486 = 283 → (2 : Nat) ^ e % 1458 = 740 :=
  row_of_ok (by decide +kernel)

/-- num.py:1901  `284: 22,` -/
theorem special_b2_m1458_r284_L1901 :
    ∀ e : Nat, 1 < e → e % 486 = 284 → (2 : Nat) ^ e % 1458 = 22 :=
  row_of_ok (by decide +kernel)

/-- num.py:1902  `285: 44,` -/
theorem special_b2_m1458_r285_L1902 :
    ∀ e : Nat, 1 < e → e % 486 = 285 → (2 : Nat) ^ e % 1458 = 44 :=
  row_of_ok (by decide +kernel)

/-- num.py:1903  `286: 88,` -/
theorem special_b2_m1458_r286_L1903 :
    ∀ e : Nat, 1 < e → e % 486 = 286 → (2 : Nat) ^ e % 1458 = 88 :=
  row_of_ok (by decide +kernel)

/-- num.py:1904  `287: 176,` -/
theorem special_b2_m1458_r287_L1904 :
    ∀ e : Nat, 1 < e → e % 486 = 287 → (2 : Nat) ^ e % 1458 = 176 :=
  row_of_ok (by decide +kernel)

/-- num.py:1905  `288: 352,` -/
theorem special_b2_m1458_r288_L1905 :
    ∀ e : Nat, 1 < e → e % 486 = 288 → (2 : Nat) ^ e % 1458 = 352 :=
  row_of_ok (by decide +kernel)

/-- num.py:1906  `289: 704,` -/
theorem special_b2_m1458_r289_L1906 :
    ∀ e : Nat, 1 < e → e % 486 = 289 → (2 : Nat) ^ e % 1458 = 704 :=
  row_of_ok (by decide +kernel)

/-- num.py:1907  `290: 1408,` -/
theorem special_b2_m1458_r290_L1907 :
    ∀ e : Nat, 1 < e → e % 486 = 290 → (2 : Nat) ^ e % 1458 = 1408 :=
  row_of_ok (by decide +kernel)

/-- num.py:1908  `291: 1358,` -/
theorem special_b2_m1458_r291_L1908 :
    ∀ e : Nat, 1 < e → e % 486 = 291 → (2 : Nat) ^ e % 1458 = 1358 :=
  row_of_ok (by decide +kernel)

/-- num.py:1909  `292: 1258,` -/
theorem special_b2_m1458_r292_L1909 :
    ∀ e : Nat, 1 < e → e % 486 = 292 → (2 : Nat) ^ e % 1458 = 1258 :=
  row_of_ok (by decide +kernel)

/-- num.py:1910  `293: 1058,` -/
theorem special_b2_m1458_r293_L1910 :
    ∀ e : Nat, 1 < e → e % 486 = 293 → (2 : Nat) ^ e % 1458 = 1058 :=
  row_of_ok (by decide +kernel)

/-- num.py:1911  `294: 658,` -/
theorem special_b2_m1458_r294_L1911 :
    ∀ e : Nat, 1 < e → e % 486 = 294 → (2 : Nat) ^ e % 1458 = 658 :=
  row_of_ok (by decide +kernel)

/-- num.py:1912  `295: 1316,` -/
theorem special_b2_m1458_r295_L1912 :
    ∀ e : Nat, 1 < e → e % 486 = 295 → (2 : Nat) ^ e % 1458 = 1316 :=
  row_of_ok (by decide +kernel)

/-- num.py:1913  `296: 1174,` -/
theorem special_b2_m1458_r296_L1913 :
    ∀ e : Nat, 1 < e → e % 486 = 296 → (2 : Nat) ^ e % 1458 = 1174 :=
  row_of_ok (by decide +kernel)

/-- num.py:1914  `297: 890,` -/
theorem special_b2_m1458_r297_L1914 :
    ∀ e : Nat, 1 < e → e % 486 = 297 → (2 : Nat) ^ e % 1458 = 890 :=
  row_of_ok (by decide +kernel)

/-- num.py:1915  `298: 322,` -/
theorem special_b2_m1458_r298_L1915 :
    ∀ e : Nat, 1 < e → e % 486 = 298 → (2 : Nat) ^ e % 1458 = 322 :=
  row_of_ok (by decide +kernel)

/-- num.py:1916  `299: 644,` -/
theorem special_b2_m1458_r299_L1916 :
    ∀ e : Nat, 1 < e → e % 486 = 299 → (2 : Nat) ^ e % 1458 = 644 :=
  row_of_ok (by decide +kernel)

/-- num.py:1917  `300: 1288,` -/
theorem special_b2_m1458_r300_L1917 :
    ∀ e : Nat, 1 < e → e % 486 = 300 → (2 : Nat) ^ e % 1458 = 1288 :=
  row_of_ok (by decide +kernel)

/-- num.py:1918  `301: 1118,` -/
theorem special_b2_m1458_r301_L1918 :
    ∀ e : Nat, 1 < e → e % 486 = 301 → (2 : Nat) ^ e % 1458 = 1118 :=
  row_of_ok (by decide +kernel)

/-- num.py:1919  `302: 778,` -/
theorem special_b2_m1458_r302_L1919 :
    ∀ e : Nat, 1 < e → e % 486 = 302 → (2 : Nat) ^ e % 1458 = 778 :=
  row_of_ok (by decide +kernel)

/-- num.py:1920  `303: 98,` -/
theorem special_b2_m1458_r303_L1920 :
    ∀ e : Nat, 1 < e → e % 486 = 303 → (2 : Nat) ^ e % 1458 = 98 :=
  row_of_ok (by decide +kernel)

/-- num.py:1921  `304: 196,` -/
theorem special_b2_m1458_r304_L1921 :
    ∀ e : Nat, 1 < e → e % 486 = 304 → (2 : Nat) ^ e % 1458 = 196 :=
  row_of_ok (by decide +kernel)

/-- num.py:1922  `305: 392,` -/
theorem special_b2_m1458_r305_L1922 :
    ∀ e : Nat, 1 < e → e % 486 = 305 → (2 : Nat) ^ e % 1458 = 392 :=
  row_of_ok (by decide +kernel)

/-- num.py:1923  `306: 784,` -/
theorem special_b2_m1458_r306_L1923 :
    ∀ e : Nat, 1 < e → e % 486 = 306 → (2 : Nat) ^ e % 1458 = 784 :=
  row_of_ok (by decide +kernel)

/-- num.py:1924  `307: 110,` -/
theorem special_b2_m1458_r307_L1924 :
    ∀ e : Nat, 1 < e → e % 486 = 307 → (2 : Nat) ^ e % 1458 = 110 :=
  row_of_ok (by decide +kernel)

/-- num.py:1925  `308: 220,` -/
theorem special_b2_m1458_r308_L1925 :
    ∀ e : Nat, 1 < e → e % 486 = 308 → (2 : Nat) ^ e % 1458 = 220 :=
  row_of_ok (by decide +kernel)

/-- num.py:1926  `309: 440,` -/
theorem special_b2_m1458_r309_L1926 :
    ∀ e : Nat, 1 < e → e % 486 = 309 → (2 : Nat) ^ e % 1458 = 440 :=
  row_of_ok (by decide +kernel)

/-- num.py:1927  `310: 880,` -/
theorem special_b2_m1458_r310_L1927 :
    ∀ e : Nat, 1 < e → e % 486 = 310 → (2 : Nat) ^ e % 1458 = 880 :=
  row_of_ok (by decide +kernel)

/-- num.py:1928  `311: 302,` -/
theorem special_b2_m1458_r311_L1928 :
    ∀ e : Nat, 1 < e → e % 486 = 311 → (2 : Nat) ^ e % 1458 = 302 :=
  row_of_ok (by decide +kernel)

/-- num.py:1929  `312: 604,` -/
theorem special_b2_m1458_r312_L1929 :
    ∀ e : Nat, 1 < e → e % 486 = 312 → (2 : Nat) ^ e % 1458 = 604 :=
  row_of_ok (by decide +kernel)

/-- num.py:1930  `313: 1208,` -/
theorem special_b2_m1458_r313_L1930 :
    ∀ e : Nat, 1 < e → e % 486 = 313 → (2 : Nat) ^ e % 1458 = 1208 :=
  row_of_ok (by decide +kernel)

/-- num.py:1931  `314: 958,` -/
theorem special_b2_m1458_r314_L1931 :
    ∀ e : Nat, 1 < e → e % 486 = 314 → (2 : Nat) ^ e % 1458 = 958 :=
  row_of_ok (by decide +kernel)

/-- num.py:1932  `315: 458,` -/
theorem special_b2_m1458_r315_L1932 :
    ∀ e : Nat, 1 < e → e % 486 = 315 → (2 : Nat) ^ e % 1458 = 458 :=
  row_of_ok (by decide +kernel)

/-- num.py:1933  `316: 916,` -/
theorem special_b2_m1458_r316_L1933 :
    ∀ e : Nat, 1 < e → e % 486 = 316 → (2 : Nat) ^ e % 1458 = 916 :=
  row_of_ok (by decide +kernel)

/-- num.py:1934  `317: 374,` -/
theorem special_b2_m1458_r317_L1934 :
    ∀ e : Nat, 1 < e → e % 486 = 317 → (2 : Nat) ^ e % 1458 = 374 :=
  row_of_ok (by decide +kernel)

/-- num.py:1935  `318: 748,` -/
theorem special_b2_m1458_r318_L1935 :
    ∀ e : Nat, 1 < e → e % 486 = 318 → (2 : Nat) ^ e % 1458 = 748 :=
  row_of_ok (by decide +kernel)

/-- num.py:1936  `319: 38,` -/
theorem special_b2_m1458_r319_L1936 :
    ∀ e : Nat, 1 < e → e % 486 = 319 → (2 : Nat) ^ e % 1458 = 38 :=
  row_of_ok (by decide +kernel)

/-- num.py:1937  `320: 76,` -/
theorem special_b2_m1458_r320_L1937 :
    ∀ e : Nat, 1 < e → e % 486 = 320 → (2 : Nat) ^ e % 1458 = 76 :=
  row_of_ok (by decide +kernel)

/-- num.py:1938  `321: 152,` -/
theorem special_b2_m1458_r321_L1938 :
    ∀ e : Nat, 1 < e → e % 486 = 321 → (2 : Nat) ^ e % 1458 = 152 :=
  row_of_ok (by decide +kernel)

/-- num.py:1939  `322: 304,` -/
theorem special_b2_m1458_r322_L1939 :
    ∀ e : Nat, 1 < e → e % 486 = 322 → (2 : Nat) ^ e % 1458 = 304 :=
  row_of_ok (by decide +kernel)

/-- num.py:1940  `323: 608,` -/
theorem special_b2_m1458_r323_L1940 :
    ∀ e : Nat, 1 < e → e % 486 = 323 → (2 : Nat) ^ e % 1458 = 608 :=
  row_of_ok (by decide +kernel)

/-- num.py:1941  `324: 1216,` -/
theorem special_b2_m1458_r324_L1941 :
    ∀ e : Nat, 1 < e → e % 486 = 324 → (2 : Nat) ^ e % 1458 = 1216 :=
  row_of_ok (by decide +kernel)

/-- num.py:1942  `325: 974,` -/
theorem special_b2_m1458_r325_L1942 :
    ∀ e : Nat, 1 < e → e % 486 = 325 → (2 : Nat) ^ e % 1458 = 974 :=
  row_of_ok (by decide +kernel)

/-- num.py:1943  `326: 490,` -/
theorem special_b2_m1458_r326_L1943 :
    ∀ e : Nat, 1 < e → e % 486 = 326 → (2 : Nat) ^ e % 1458 = 490 :=
  row_of_ok (by decide +kernel)

/-- num.py:1944  `327: 980,` -/
theorem special_b2_m1458_r327_L1944 :
    ∀ e : Nat, 1 < e → e % 486 = 327 → (2 : Nat) ^ e % 1458 = 980 :=
  row_of_ok (by decide +kernel)

/-- num.py:1945  `328: 502,` -/
theorem special_b2_m1458_r328_L1945 :
    ∀ e : Nat, 1 < e → e % 486 = 328 → (2 : Nat) ^ e % 1458 = 502 :=
  row_of_ok (by decide +kernel)

/-- num.py:1946  `329: 1004,` -/
theorem special_b2_m1458_r329_L1946 :
    ∀ e : Nat, 1 < e → e % 486 = 329 → (2 : Nat) ^ e % 1458 = 1004 :=
  row_of_ok (by decide +kernel)

/-- num.py:1947  `330: 550,` -/
theorem special_b2_m1458_r330_L1947 :
    ∀ e : Nat, 1 < e → e % 486 = 330 → (2 : Nat) ^ e % 1458 = 550 :=
  row_of_ok (by decide +kernel)

/-- num.py:1948  `331: 1100,` -/
theorem special_b2_m1458_r331_L1948 :
    ∀ e : Nat, 1 < e → e % 486 = 331 → (2 : Nat) ^ e % 1458 = 1100 :=
  row_of_ok (by decide +kernel)

/-- num.py:1949  `332: 742,` -/
theorem special_b2_m1458_r332_L1949 :
    ∀ e : Nat, 1 < e → e % 486 = 332 → (2 : Nat) ^ e % 1458 = 742 :=
  row_of_ok (by decide +kernel)

/-- num.py:1950  `333: 26,` -/
theorem special_b2_m1458_r333_L1950 :
    ∀ e : Nat, 1 < e → e % 486 = 333 → (2 : Nat) ^ e % 1458 = 26 :=
  row_of_ok (by decide +kernel)

/-- num.py:1951  `334: 52,` -/
theorem special_b2_m1458_r334_L1951 :
    ∀ e : Nat, 1 < e → e % 486 = 334 → (2 : Nat) ^ e % 1458 = 52 :=
  row_of_ok (by decide +kernel)

/-- num.py:1952  `335: 104,` -/
theorem special_b2_m1458_r335_L1952 :
    ∀ e : Nat, 1 < e → e % 486 = 335 → (2 : Nat) ^ e % 1458 = 104 :=
  row_of_ok (by decide +kernel)

/-- num.py:1953  `336: 208,` -/
theorem special_b2_m1458_r336_L1953 :
    ∀ e : Nat, 1 < e → e % 486 = 336 → (2 : Nat) ^ e % 1458 = 208 :=
  row_of_ok (by decide +kernel)

/-- num.py:1954  `337: 416,` -/
theorem special_b2_m1458_r337_L1954 :
    ∀ e : Nat, 1 < e → e % 486 = 337 → (2 : Nat) ^ e % 1458 = 416 :=
  row_of_ok (by decide +kernel)

/-- num.py:1955  `338: 832,` -/
theorem special_b2_m1458_r338_L1955 :
    ∀ e : Nat, 1 < e → e % 486 = 338 → (2 : Nat) ^ e % 1458 = 832 :=
  row_of_ok (by decide +kernel)

/-- num.py:1956  `339: 206,` -/
theorem special_b2_m1458_r339_L1956 :
    ∀ e : Nat, 1 < e → e % 486 = 339 → (2 : Nat) ^ e % 1458 = 206 :=
  row_of_ok (by decide +kernel)

/-- num.py:1957  `340: 412,` -/
theorem special_b2_m1458_r340_L1957 :
    ∀ e : Nat, 1 < e → e % 486 = 340 → (2 : Nat) ^ e % 1458 = 412 :=
  row_of_ok (by decide +kernel)

/-- num.py:1958  `341: 824,` -/
theorem special_b2_m1458_r341_L1958 :
    ∀ e : Nat, 1 < e → e % 486 = 341 → (2 : Nat) ^ e % 1458 = 824 :=
  row_of_ok (by decide +kernel)

/-- num.py:1959  `342: 190,` -/
theorem special_b2_m1458_r342_L1959 :
    ∀ e : Nat, 1 < e → e % 486 = 342 → (2 : Nat) ^ e % 1458 = 190 :=
  row_of_ok (by decide +kernel)

/-- num.py:1960  `343: 380,` -/
theorem special_b2_m1458_r343_L1960 :
    ∀ e : Nat, 1 < e → e % 486 = 343 → (2 : Nat) ^ e % 1458 = 380 :=
  row_of_ok (by decide +kernel)

/-- num.py:1961  `344: 760,` -/
theorem special_b2_m1458_r344_L1961 :
    ∀ e : Nat, 1 < e → e % 486 = 344 → (2 : Nat) ^ e % 1458 = 760 :=
  row_of_ok (by decide +kernel)

/-- num.py:1962  `345: 62,` -/
theorem special_b2_m1458_r345_L1962 :
    ∀ e : Nat, 1 < e → e % 486 = 345 → (2 : Nat) ^ e % 1458 = 62 :=
  row_of_ok (by decide +kernel)

/-- num.py:1963  `346: 124,` -/
theorem special_b2_m1458_r346_L1963 :
    ∀ e : Nat, 1 < e → e % 486 = 346 → (2 : Nat) ^ e % 1458 = 124 :=
  row_of_ok (by decide +kernel)

/-- num.py:1964  `347: 248,` -/
theorem special_b2_m1458_r347_L1964 :
    ∀ e : Nat, 1 < e → e % 486 = 347 → (2 : Nat) ^ e % 1458 = 248 :=
  row_of_ok (by decide +kernel)

/-- num.py:1965  `348: 496,` -/
theorem special_b2_m1458_r348_L1965 :
    ∀ e : Nat, 1 < e → e % 486 = 348 → (2 : Nat) ^ e % 1458 = 496 :=
  row_of_ok (by decide +kernel)

/-- num.py:1966  `349: 992,` -/
theorem special_b2_m1458_r349_L1966 :
    ∀ e : Nat, 1 < e → e % 486 = 349 → (2 : Nat) ^ e % 1458 = 992 :=
  row_of_ok (by decide +kernel)

/-- num.py:1967  `350: 526,` -/
theorem special_b2_m1458_r350_L1967 :
    ∀ e : Nat, 1 < e → e % 486 = 350 → (2 : Nat) ^ e % 1458 = 526 :=
  row_of_ok (by decide +kernel)

/-- num.py:1968  `351: 1052,` -/
theorem special_b2_m1458_r351_L1968 :
    ∀ e : Nat, 1 < e → e % 486 = 351 → (2 : Nat) ^ e % 1458 = 1052 :=
  row_of_ok (by decide +kernel)

/-- num.py:1969  `352: 646,` -/
theorem special_b2_m1458_r352_L1969 :
    ∀ e : Nat, 1 < e → e % 486 = 352 → (2 : Nat) ^ e % 1458 = 646 :=
  row_of_ok (by decide +kernel)

/-- num.py:1970  `353: 1292,` -/
theorem special_b2_m1458_r353_L1970 :
    ∀ e : Nat, 1 < e → e % 486 = 353 → (2 : Nat) ^ e % 1458 = 1292 :=
  row_of_ok (by decide +kernel)

/-- num.py:1971  `354: 1126,` -/
theorem special_b2_m1458_r354_L1971 :
    ∀ e : Nat, 1 < e → e % 486 = 354 → (2 : Nat) ^ e % 1458 = 1126 :=
  row_of_ok (by decide +kernel)

/-- num.py:1972  `355: 794,` -/
theorem special_b2_m1458_r355_L1972 :
    ∀ e : Nat, 1 < e → e % 486 = 355 → (2 : Nat) ^ e % 1458 = 794 :=
  row_of_ok (by decide +kernel)

/-- num.py:1973  `356: 130,` -/
theorem special_b2_m1458_r356_L1973 :
    ∀ e : Nat, 1 < e → e % 486 = 356 → (2 : Nat) ^ e % 1458 = 130 :=
  row_of_ok (by decide +kernel)

/-- num.py:1974  `357: 260,` -/
theorem special_b2_m1458_r357_L1974 :
    ∀ e : Nat, 1 < e → e % 486 = 357 → (2 : Nat) ^ e % 1458 = 260 :=
  row_of_ok (by decide +kernel)

/-- num.py:1975  `358: 520,` -/
theorem special_b2_m1458_r358_L1975 :
    ∀ e : Nat, 1 < e → e % 486 = 358 → (2 : Nat) ^ e % 1458 = 520 :=
  row_of_ok (by decide +kernel)

/-- num.py:1976  `359: 1040,` -/
theorem special_b2_m1458_r359_L1976 :
    ∀ e : Nat, 1 < e → e % 486 = 359 → (2 : Nat) ^ e % 1458 = 1040 :=
  row_of_ok (by decide +kernel)

/-- num.py:1977  `360: 622,` -/
theorem special_b2_m1458_r360_L1977 :
    ∀ e : Nat, 1 < e → e % 486 = 360 → (2 : Nat) ^ e % 1458 = 622 :=
  row_of_ok (by decide +kernel)

/-- num.py:1978  `361: 1244,` -/
theorem special_b2_m1458_r361_L1978 :
    ∀ e : Nat, 1 < e → e % 486 = 361 → (2 : Nat) ^ e % 1458 = 1244 :=
  row_of_ok (by decide +kernel)

/-- num.py:1979  `362: 1030,` -/
theorem special_b2_m1458_r362_L1979 :
    ∀ e : Nat, 1 < e → e % 486 = 362 → (2 : Nat) ^ e % 1458 = 1030 :=
  row_of_ok (by decide +kernel)

/-- num.py:1980  `363: 602,` -/
theorem special_b2_m1458_r363_L1980 :
    ∀ e : Nat, 1 < e → e % 486 = 363 → (2 : Nat) ^ e % 1458 = 602 :=
  row_of_ok (by decide +kernel)

/-- num.py:1981  `364: 1204,` -/
theorem special_b2_m1458_r364_L1981 :
    ∀ e : Nat, 1 < e → e % 486 = 364 → (2 : Nat) ^ e % 1458 = 1204 :=
  row_of_ok (by decide +kernel)

/-- num.py:1982  `365: 950,` -/
theorem special_b2_m1458_r365_L1982 :
    ∀ e : Nat, 1 < e → e % 486 = 365 → (2 : Nat) ^ e % 1458 = 950 :=
  row_of_ok (by decide +kernel)

/-- num.py:1983  `366: 442,` -/
theorem special_b2_m1458_r366_L1983 :
    ∀ e : Nat, 1 < e → e % 486 = 366 → (2 : Nat) ^ e % 1458 = 442 :=
  row_of_ok (by decide +kernel)

/-- num.py:1984  `367: 884,` -/
theorem special_b2_m1458_r367_L1984 :
    ∀ e : Nat, 1 < e → e % 486 = 367 → (2 : Nat) ^ e % 1458 = 884 :=
  row_of_ok (by decide +kernel)

/-- num.py:1985  `368: 310,` -/
theorem special_b2_m1458_r368_L1985 :
    ∀ e : Nat, 1 < e → e % 486 = 368 → (2 : Nat) ^ e % 1458 = 310 :=
  row_of_ok (by decide +kernel)

/-- num.py:1986  `369: 620,` -/
theorem special_b2_m1458_r369_L1986 :
    ∀ e : Nat, 1 < e → e % 486 = 369 → (2 : Nat) ^ e % 1458 = 620 :=
  row_of_ok (by decide +kernel)

/-- num.py:1987  `370: 1240,` -/
theorem special_b2_m1458_r370_L1987 :
    ∀ e : Nat, 1 < e → e % 486 = 370 → (2 : Nat) ^ e % 1458 = 1240 :=
  row_of_ok (by decide +kernel)

/-- num.py:1988  `371: 1022,` -/
theorem special_b2_m1458_r371_L1988 :
    ∀ e : Nat, 1 < e → e % 486 = 371 → (2 : Nat) ^ e % 1458 = 1022 :=
  row_of_ok (by decide +kernel)

/-- num.py:1989  `372: 586,` -/
theorem special_b2_m1458_r372_L1989 :
    ∀ e : Nat, 1 < e → e % 486 = 372 → (2 : Nat) ^ e % 1458 = 586 :=
  row_of_ok (by decide +kernel)

/-- num.py:1990  `373: 1172,` -/
theorem special_b2_m1458_r373_L1990 :
    ∀ e : Nat, 1 < e → e % 486 = 373 → (2 : Nat) ^ e % 1458 = 1172 :=
  row_of_ok (by decide +kernel)

/-- num.py:1991  `374: 886,` -/
theorem special_b2_m1458_r374_L1991 :
    ∀ e : Nat, 1 < e → e % 486 = 374 → (2 : Nat) ^ e % 1458 = 886 :=
  row_of_ok (by decide +kernel)

/-- num.py:1992  `375: 314,` -/
theorem special_b2_m1458_r375_L1992 :
    ∀ e : Nat, 1 < e → e % 486 = 375 → (2 : Nat) ^ e % 1458 = 314 :=
  row_of_ok (by decide +kernel)

/-- num.py:1993  `376: 628,` -/
theorem special_b2_m1458_r376_L1993 :
    ∀ e : Nat, 1 < e → e % 486 = 376 → (2 : Nat) ^ e % 1458 = 628 :=
  row_of_ok (by decide +kernel)

/-- num.py:1994  `377: 1256,` -/
theorem special_b2_m1458_r377_L1994 :
    ∀ e : Nat, 1 < e → e % 486 = 377 → (2 : Nat) ^ e % 1458 = 1256 :=
  row_of_ok (by decide +kernel)

/-- num.py:1995  `378: 1054,` -/
theorem special_b2_m1458_r378_L1995 :
    ∀ e : Nat, 1 < e → e % 486 = 378 → (2 : Nat) ^ e % 1458 = 1054 :=
  row_of_ok (by decide +kernel)

/-- num.py:1996  `379: 650,` -/
theorem special_b2_m1458_r379_L1996 :
    ∀ e : Nat, 1 < e → e % 486 = 379 → (2 : Nat) ^ e % 1458 = 650 :=
  row_of_ok (by decide +kernel)

/-- num.py:1997  `380: 1300,` -/
theorem special_b2_m1458_r380_L1997 :
    ∀ e : Nat, 1 < e → e % 486 = 380 → (2 : Nat) ^ e % 1458 = 1300 :=
  row_of_ok (by decide +kernel)

/-- num.py:1998  `381: 1142,` -/
theorem special_b2_m1458_r381_L1998 :
    ∀ e : Nat, 1 < e → e % 486 = 381 → (2 : Nat) ^ e % 1458 = 1142 :=
  row_of_ok (by decide +kernel)

/-- num.py:1999  `382: 826,` -/
theorem special_b2_m1458_r382_L1999 :
    ∀ e : Nat, 1 < e → e % 486 = 382 → (2 : Nat) ^ e % 1458 = 826 :=
  row_of_ok (by decide +kernel)

/-- num.py:2000  `383: 194,` -/
theorem special_b2_m1458_r383_L2000 :
    ∀ e : Nat, 1 < e → e % 486 = 383 → (2 : Nat) ^ e % 1458 = 194 :=
  row_of_ok (by decide +kernel)

/-- num.py:2001  `384: 388,` -/
theorem special_b2_m1458_r384_L2001 :
    ∀ e : Nat, 1 < e → e % 486 = 384 → (2 : Nat) ^ e % 1458 = 388 :=
  row_of_ok (by decide +kernel)

/-- num.py:2002  `385: 776,` -/
theorem special_b2_m1458_r385_L2002 :
    ∀ e : Nat, 1 < e → e % 486 = 385 → (2 : Nat) ^ e % 1458 = 776 :=
  row_of_ok (by decide +kernel)

/-- num.py:2003  `386: 94,` -/
theorem special_b2_m1458_r386_L2003 :
    ∀ e : Nat, 1 < e → e % 486 = 386 → (2 : Nat) ^ e % 1458 = 94 :=
  row_of_ok (by decide +kernel)

/-- num.py:2004  `387: 188,` -/
theorem special_b2_m1458_r387_L2004 :
    ∀ e : Nat, 1 < e → e % 486 = 387 → (2 : Nat) ^ e % 1458 = 188 :=
  row_of_ok (by decide +kernel)

/-- num.py:2005  `388: 376,` -/
theorem special_b2_m1458_r388_L2005 :
    ∀ e : Nat, 1 < e → e % 486 = 388 → (2 : Nat) ^ e % 1458 = 376 :=
  row_of_ok (by decide +kernel)

/-- num.py:2006  `389: 752,` -/
theorem special_b2_m1458_r389_L2006 :
    ∀ e : Nat, 1 < e → e % 486 = 389 → (2 : Nat) ^ e % 1458 = 752 :=
  row_of_ok (by decide +kernel)

/-- num.py:2007  `390: 46,` -/
theorem special_b2_m1458_r390_L2007 :
    ∀ e : Nat, 1 < e → e % 486 = 390 → (2 : Nat) ^ e % 1458 = 46 :=
  row_of_ok (by decide +kernel)

/-- num.py:2008  `391: 92,` -/
theorem special_b2_m1458_r391_L2008 :
    ∀ e : Nat, 1 < e → e % 486 = 391 → (2 : Nat) ^ e % 1458 = 92 :=
  row_of_ok (by decide +kernel)

/-- num.py:2009  `392: 184,` -/
theorem special_b2_m1458_r392_L2009 :
    ∀ e : Nat, 1 < e → e % 486 = 392 → (2 : Nat) ^ e % 1458 = 184 :=
  row_of_ok (by decide +kernel)

/-- num.py:2010  `393: 368,` -/
theorem special_b2_m1458_r393_L2010 :
    ∀ e : Nat, 1 < e → e % 486 = 393 → (2 : Nat) ^ e % 1458 = 368 :=
  row_of_ok (by decide +kernel)

/-- num.py:2011  `394: 736,` -/
theorem special_b2_m1458_r394_L2011 :
    ∀ e : Nat, 1 < e → e % 486 = 394 → (2 : Nat) ^ e % 1458 = 736 :=
  row_of_ok (by decide +kernel)

/-- num.py:2012  `395: 14,` -/
theorem special_b2_m1458_r395_L2012 :
    ∀ e : Nat, 1 < e → e % 486 = 395 → (2 : Nat) ^ e % 1458 = 14 :=
  row_of_ok (by decide +kernel)

/-- num.py:2013  `396: 28,` -/
theorem special_b2_m1458_r396_L2013 :
    ∀ e : Nat, 1 < e → e % 486 = 396 → (2 : Nat) ^ e % 1458 = 28 :=
  row_of_ok (by decide +kernel)

/-- num.py:2014  `397: 56,` -/
theorem special_b2_m1458_r397_L2014 :
    ∀ e : Nat, 1 < e → e % 486 = 397 → (2 : Nat) ^ e % 1458 = 56 :=
  row_of_ok (by decide +kernel)

/-- num.py:2015  `398: 112,` -/
theorem special_b2_m1458_r398_L2015 :
    ∀ e : Nat, 1 < e → e % 486 = 398 → (2 : Nat) ^ e % 1458 = 112 :=
  row_of_ok (by decide +kernel)

/-- num.py:2016  `399: 224,` -/
theorem special_b2_m1458_r399_L2016 :
    ∀ e : Nat, 1 < e → e % 486 = 399 → (2 : Nat) ^ e % 1458 = 224 :=
  row_of_ok (by decide +kernel)

/-- num.py:2017  `400: 448,` -/
theorem special_b2_m1458_r400_L2017 :
    ∀ e : Nat, 1 < e → e % 486 = 400 → (2 : Nat) ^ e % 1458 = 448 :=
  row_of_ok (by decide +kernel)

/-- num.py:2018  `401: 896,` -/
theorem special_b2_m1458_r401_L2018 :
    ∀ e : Nat, 1 < e → e % 486 = 401 → (2 : Nat) ^ e % 1458 = 896 :=
  row_of_ok (by decide +kernel)

/-- num.py:2019  `402: 334,` -/
theorem special_b2_m1458_r402_L2019 :
    ∀ e : Nat, 1 < e → e % 486 = 402 → (2 : Nat) ^ e % 1458 = 334 :=
  row_of_ok (by decide +kernel)

/-- num.py:2020  `403: 668,` -/
theorem special_b2_m1458_r403_L2020 :
    ∀ e : Nat, 1 < e → e % 486 = 403 → (2 : Nat) ^ e % 1458 = 668 :=
  row_of_ok (by decide +kernel)

/-- num.py:2021  `404: 1336,` -/
theorem special_b2_m1458_r404_L2021 :
    ∀ e : Nat, 1 < e → e % 486 = 404 → (2 : Nat) ^ e % 1458 = 1336 :=
  row_of_ok (by decide +kernel)

/-- num.py:2022  `405: 1214,` -/
theorem special_b2_m1458_r405_L2022 :
    ∀ e : Nat, 1 < e → e % 486 = 405 → (2 : Nat) ^ e % 1458 = 1214 :=
  row_of_ok (by decide +kernel)

/-- num.py:2023  `406: 970,` -/
theorem special_b2_m1458_r406_L2023 :
    ∀ e : Nat, 1 < e → e % 486 = 406 → (2 : Nat) ^ e % 1458 = 970 :=
  row_of_ok (by decide +kernel)

/-- num.py:2024  `407: 482,` -/
theorem special_b2_m1458_r407_L2024 :
    ∀ e : Nat, 1 < e → e % 486 = 407 → (2 : Nat) ^ e % 1458 = 482 :=
  row_of_ok (by decide +kernel)

/-- num.py:2025  `408: 964,` -/
theorem special_b2_m1458_r408_L2025 :
    ∀ e : Nat, 1 < e → e % 486 = 408 → (2 : Nat) ^ e % 1458 = 964 :=
  row_of_ok (by decide +kernel)

/-- num.py:2026  `409: 470,` -/
theorem special_b2_m1458_r409_L2026 :
    ∀ e : Nat, 1 < e → e % 486 = 409 → (2 : Nat) ^ e % 1458 = 470 :=
  row_of_ok (by decide +kernel)

/-- num.py:2027  `410: 940,` -/
theorem special_b2_m1458_r410_L2027 :
    ∀ e : Nat, 1 < e → e % 486 = 410 → (2 : Nat) ^ e % 1458 = 940 :=
  row_of_ok (by decide +kernel)

/-- num.py:2028  `411: 422,` -/
theorem special_b2_m1458_r411_L2028 :
    ∀ e : Nat, 1 < e → e % 486 = 411 → (2 : Nat) ^ e % 1458 = 422 :=
  row_of_ok (by decide +kernel)

/-- num.py:2029  `412: 844,` -/
theorem special_b2_m1458_r412_L2029 :
    ∀ e : Nat, 1 < e → e % 486 = 412 → (2 : Nat) ^ e % 1458 = 844 :=
  row_of_ok (by decide +kernel)

/-- num.py:2030  `413: 230,` -/
theorem special_b2_m1458_r413_L2030 :
    ∀ e : Nat, 1 < e → e % 486 = 413 → (2 : Nat) ^ e % 1458 = 230 :=
  row_of_ok (by decide +kernel)

/-- num.py:2031  `414: 460,` -/
theorem special_b2_m1458_r414_L2031 :
    ∀ e : Nat, 1 < e → e % 486 = 414 → (2 : Nat) ^ e % 1458 = 460 :=
  row_of_ok (by decide +kernel)

/-- num.py:2032  `415: 920,` -/
theorem special_b2_m1458_r415_L2032 :
    ∀ e : Nat, 1 < e → e % 486 = 415 → (2 : Nat) ^ e % 1458 = 920 :=
  row_of_ok (by decide +kernel)

/-- num.py:2033  `416: 382,` -/
theorem special_b2_m1458_r416_L2033 :
    ∀ e : Nat, 1 < e → e % 486 = 416 → (2 : Nat) ^ e % 1458 = 382 :=
  row_of_ok (by decide +kernel)

/-- num.py:2034  `417: 764,` -/
theorem special_b2_m1458_r417_L2034 :
    ∀ e : Nat, 1 < e → e % 486 = 417 → (2 : Nat) ^ e % 1458 = 764 :=
  row_of_ok (by decide +kernel)

/-- num.py:2035  `418: 70,` -/
theorem special_b2_m1458_r418_L2035 :
    ∀ e : Nat, 1 < e → e % 486 = 418 → (2 : Nat) ^ e % 1458 = 70 :=
  row_of_ok (by decide +kernel)

/-- num.py:2036  `419: 140,` -/
theorem special_b2_m1458_r419_L2036 :
    ∀ e : Nat, 1 < e → e % 486 = 419 → (2 : Nat) ^ e % 1458 = 140 :=
  row_of_ok (by decide +kernel)

/-- num.py:2037  `420: 280,` -/
theorem special_b2_m1458_r420_L2037 :
    ∀ e : Nat, 1 < e → e % 486 = 420 → (2 : Nat) ^ e % 1458 = 280 :=
  row_of_ok (by decide +kernel)

/-- num.py:2038  `421: 560,` -/
theorem special_b2_m1458_r421_L2038 :
    ∀ e : Nat, 1 < e → e % 486 = 421 → (2 : Nat) ^ e % 1458 = 560 :=
  row_of_ok (by decide +kernel)

/-- num.py:2039  `422: 1120,` -/
theorem special_b2_m1458_r422_L2039 :
    ∀ e : Nat, 1 < e → e % 486 = 422 → (2 : Nat) ^ e % 1458 = 1120 :=
  row_of_ok (by decide +kernel)

/-- num.py:2040  `423: 782,` -/
theorem special_b2_m1458_r423_L2040 :
    ∀ e : Nat, 1 < e → e % 486 = 423 → (2 : Nat) ^ e % 1458 = 782 :=
  row_of_ok (by decide +kernel)

/-- num.py:2041  `424: 106,` -/
theorem special_b2_m1458_r424_L2041 :
    ∀ e : Nat, 1 < e → e % 486 = 424 → (2 : Nat) ^ e % 1458 = 106 :=
  row_of_ok (by decide +kernel)

/-- num.py:2042  `425: 212,` -/
theorem special_b2_m1458_r425_L2042 :
    ∀ e : Nat, 1 < e → e % 486 = 425 → (2 : Nat) ^ e % 1458 = 212 :=
  row_of_ok (by decide +kernel)

/-- num.py:2043  `426: 424,` -/
theorem special_b2_m1458_r426_L2043 :
    ∀ e : Nat, 1 < e → e % 486 = 426 → (2 : Nat) ^ e % 1458 = 424 :=
  row_of_ok (by decide +kernel)

/-- num.py:2044  `427: 848,` -/
theorem special_b2_m1458_r427_L2044 :
    ∀ e : Nat, 1 < e → e % 486 = 427 → (2 : Nat) ^ e % 1458 = 848 :=
  row_of_ok (by decide +kernel)

/-- num.py:2045  `428: 238,` -/
theorem special_b2_m1458_r428_L2045 :
    ∀ e : Nat, 1 < e → e % 486 = 428 → (2 : Nat) ^ e % 1458 = 238 :=
  row_of_ok (by decide +kernel)

/-- num.py:2046  `429: 476,` -/
theorem special_b2_m1458_r429_L2046 :
    ∀ e : Nat, 1 < e → e % 486 = 429 → (2 : Nat) ^ e % 1458 = 476 :=
  row_of_ok (by decide +kernel)

/-- num.py:2047  `430: 952,` -/
theorem special_b2_m1458_r430_L2047 :
    ∀ e : Nat, 1 < e → e % 486 = 430 → (2 : Nat) ^ e % 1458 = 952 :=
  row_of_ok (by decide +kernel)

/-- num.py:2048  `431: 446,` -/
theorem special_b2_m1458_r431_L2048 :
    ∀ e : Nat, 1 < e → e % 486 = 431 → (2 : Nat) ^ e % 1458 = 446 :=
  row_of_ok (by decide +kernel)

/-- num.py:2049  `432: 892,` -/
theorem special_b2_m1458_r432_L2049 :
    ∀ e : Nat, 1 < e → e % 486 = 432 → (2 : Nat) ^ e % 1458 = 892 :=
  row_of_ok (by decide +kernel)

/-- num.py:2050  `433: 326,` -/
theorem special_b2_m1458_r433_L2050 :
    ∀ e : Nat, 1 < e → e % 486 = 433 → (2 : Nat) ^ e % 1458 = 326 :=
  row_of_ok (by decide +kernel)

/-- num.py:2051  `434: 652,` -/
theorem special_b2_m1458_r434_L2051 :
    ∀ e : Nat, 1 < e → e % 486 = 434 → (2 : Nat) ^ e % 1458 = 652 :=
  row_of_ok (by decide +kernel)

/-- num.py:2052  `435: 1304,` -/
theorem special_b2_m1458_r435_L2052 :
    ∀ e : Nat, 1 < e → e % 486 = 435 → (2 : Nat) ^ e % 1458 = 1304 :=
  row_of_ok (by decide +kernel)

/-- num.py:2053  `436: 1150,` -/
theorem special_b2_m1458_r436_L2053 :
    ∀ e : Nat, 1 < e → e % 486 = 436 → (2 : Nat) ^ e % 1458 = 1150 :=
  row_of_ok (by decide +kernel)

/-- num.py:2054  `437: 842,` -/
theorem special_b2_m1458_r437_L2054 :
    ∀ e : Nat, 1 < e → e % 486 = 437 → (2 : Nat) ^ e % 1458 = 842 :=
  row_of_ok (by decide +kernel)

/-- num.py:2055  `438: 226,` -/
theorem special_b2_m1458_r438_L2055 :
    ∀ e : Nat, 1 < e → e % 486 = 438 → (2 : Nat) ^ e % 1458 = 226 :=
  row_of_ok (by decide +kernel)

/-- num.py:2056  `439: 452,` -/
theorem special_b2_m1458_r439_L2056 :
    ∀ e : Nat, 1 < e → e % 486 = 439 → (2 : Nat) ^ e % 1458 = 452 :=
  row_of_ok (by decide +kernel)

/-- num.py:2057  `440: 904,` -/
theorem special_b2_m1458_r440_L2057 :
    ∀ e : Nat, 1 < e → e % 486 = 440 → (2 : Nat) ^ e % 1458 = 904 :=
  row_of_ok (by decide +kernel)

/-- num.py:2058  `441: 350,` -/
theorem special_b2_m1458_r441_L2058 :
    ∀ e : Nat, 1 < e → e % 486 = 441 → (2 : Nat) ^ e % 1458 = 350 :=
  row_of_ok (by decide +kernel)

/-- num.py:2059  `442: 700,` -/
theorem special_b2_m1458_r442_L2059 :
    ∀ e : Nat, 1 < e → e % 486 = 442 → (2 : Nat) ^ e % 1458 = 700 :=
  row_of_ok (by decide +kernel)

/-- num.py:2060  `443: 1400,` -/
theorem special_b2_m1458_r443_L2060 :
    ∀ e : Nat, 1 < e → e % 486 = 443 → (2 : Nat) ^ e % 1458 = 1400 :=
  row_of_ok (by decide +kernel)

/-- num.py:2061  `444: 1342,` -/
theorem special_b2_m1458_r444_L2061 :
    ∀ e : Nat, 1 < e → e % 486 = 444 → (2 : Nat) ^ e % 1458 = 1342 :=
  row_of_ok (by decide +kernel)

/-- num.py:2062  `445: 1226,` -/
theorem special_b2_m1458_r445_L2062 :
    ∀ e : Nat, 1 < e → e % 486 = 445 → (2 : Nat) ^ e % 1458 = 1226 :=
  row_of_ok (by decide +kernel)

/-- num.py:2063  `446: 994,` -/
theorem special_b2_m1458_r446_L2063 :
    ∀ e : Nat, 1 < e → e % 486 = 446 → (2 : Nat) ^ e % 1458 = 994 :=
  row_of_ok (by decide +kernel)

/-- num.py:2064  `447: 530,` -/
theorem special_b2_m1458_r447_L2064 :
    ∀ e : Nat, 1 < e → e % 486 = 447 → (2 : Nat) ^ e % 1458 = 530 :=
  row_of_ok (by decide +kernel)

/-- num.py:2065  `448: 1060,` -/
theorem special_b2_m1458_r448_L2065 :
    ∀ e : Nat, 1 < e → e % 486 = 448 → (2 : Nat) ^ e % 1458 = 1060 :=
  row_of_ok (by decide +kernel)

/-- num.py:2066  `449: 662,` -/
theorem special_b2_m1458_r449_L2066 :
    ∀ e : Nat, 1 < e → e % 486 = 449 → (2 : Nat) ^ e % 1458 = 662 :=
  row_of_ok (by decide +kernel)

/-- num.py:2067  `450: 1324,` -/
theorem special_b2_m1458_r450_L2067 :
    ∀ e : Nat, 1 < e → e % 486 = 450 → (2 : Nat) ^ e % 1458 = 1324 :=
  row_of_ok (by decide +kernel)

/-- num.py:2068  `451: 1190,` -/
theorem special_b2_m1458_r451_L2068 :
    ∀ e : Nat, 1 < e → e % 486 = 451 → (2 : Nat) ^ e % 1458 = 1190 :=
  row_of_ok (by decide +kernel)

/-- num.py:2069  `452: 922,` -/
theorem special_b2_m1458_r452_L2069 :
    ∀ e : Nat, 1 < e → e % 486 = 452 → (2 : Nat) ^ e % 1458 = 922 :=
  row_of_ok (by decide +kernel)

/-- num.py:2070  `453: 386,` -/
theorem special_b2_m1458_r453_L2070 :
    ∀ e : Nat, 1 < e → e % 486 = 453 → (2 : Nat) ^ e % 1458 = 386 :=
  row_of_ok (by decide +kernel)

/-- num.py:2071  `454: 772,` -/
theorem special_b2_m1458_r454_L2071 :
    ∀ e : Nat, 1 < e → e % 486 = 454 → (2 : Nat) ^ e % 1458 = 772 :=
  row_of_ok (by decide +kernel)

/-- num.py:2072  `455: 86,` -/
theorem special_b2_m1458_r455_L2072 :
    ∀ e : Nat, 1 < e → e % 486 = 455 → (2 : Nat) ^ e % 1458 = 86 :=
  row_of_ok (by decide +kernel)

/-- num.py:2073  `456: 172,` -/
theorem special_b2_m1458_r456_L2073 :
    ∀ e : Nat, 1 < e → e % 486 = 456 → (2 : Nat) ^ e % 1458 = 172 :=
  row_of_ok (by decide +kernel)

/-- num.py:2074  `457: 344,` -/
theorem special_b2_m1458_r457_L2074 :
    ∀ e : Nat, 1 < e → e % 486 = 457 → (2 : Nat) ^ e % 1458 = 344 :=
  row_of_ok (by decide +kernel)

/-- num.py:2075  `458: 688,` -/
theorem special_b2_m1458_r458_L2075 :
    ∀ e : Nat, 1 < e → e % 486 = 458 → (2 : Nat) ^ e % 1458 = 688 :=
  row_of_ok (by decide +kernel)

/-- num.py:2076  `459: 1376,` -/
theorem special_b2_m1458_r459_L2076 :
    ∀ e : Nat, 1 < e → e % 486 = 459 → (2 : Nat) ^ e % 1458 = 1376 :=
  row_of_ok (by decide +kernel)

/-- num.py:2077  `460: 1294,` -/
theorem special_b2_m1458_r460_L2077 :
    ∀ e : Nat, 1 < e → e % 486 = 460 → (2 : Nat) ^ e % 1458 = 1294 :=
  row_of_ok (by decide +kernel)

/-- num.py:2078  `461: 1130,` -/
theorem special_b2_m1458_r461_L2078 :
    ∀ e : Nat, 1 < e → e % 486 = 461 → (2 : Nat) ^ e % 1458 = 1130 :=
  row_of_ok (by decide +kernel)

/-- num.py:2079  `462: 802,` -/
theorem special_b2_m1458_r462_L2079 :
    ∀ e : Nat, 1 < e → e % 486 = 462 → (2 : Nat) ^ e % 1458 = 802 :=
  row_of_ok (by decide +kernel)

/-- num.py:2080  `463: 146,` -/
theorem special_b2_m1458_r463_L2080 :
    ∀ e : Nat, 1 < e → e % 486 = 463 → (2 : Nat) ^ e % 1458 = 146 :=
  row_of_ok (by decide +kernel)

/-- num.py:2081  `464: 292,` -/
theorem special_b2_m1458_r464_L2081 :
    ∀ e : Nat, 1 < e → e % 486 = 464 → (2 : Nat) ^ e % 1458 = 292 :=
  row_of_ok (by decide +kernel)

/-- num.py:2082  `465: 584,` -/
theorem special_b2_m1458_r465_L2082 :
    ∀ e : Nat, 1 < e → e % 486 = 465 → (2 : Nat) ^ e % 1458 = 584 :=
  row_of_ok (by decide +kernel)

/-- num.py:2083  `466: 1168,` -/
theorem special_b2_m1458_r466_L2083 :
    ∀ e : Nat, 1 < e → e % 486 = 466 → (2 : Nat) ^ e % 1458 = 1168 :=
  row_of_ok (by decide +kernel)

/-- num.py:2084  `467: 878,` -/
theorem special_b2_m1458_r467_L2084 :
    ∀ e : Nat, 1 < e → e % 486 = 467 → (2 : Nat) ^ e % 1458 = 878 :=
  row_of_ok (by decide +kernel)

/-- num.py:2085  `468: 298,` -/
theorem special_b2_m1458_r468_L2085 :
    ∀ e : Nat, 1 < e → e % 486 = 468 → (2 : Nat) ^ e % 1458 = 298 :=
  row_of_ok (by decide +kernel)

/-- num.py:2086  `469: 596,` -/
theorem special_b2_m1458_r469_L2086 :
    ∀ e : Nat, 1 < e → e % 486 = 469 → (2 : Nat) ^ e % 1458 = 596 :=
  row_of_ok (by decide +kernel)

/-- num.py:2087  `470: 1192,` -/
theorem special_b2_m1458_r470_L2087 :
    ∀ e : Nat, 1 < e → e % 486 = 470 → (2 : Nat) ^ e % 1458 = 1192 :=
  row_of_ok (by decide +kernel)

/-- num.py:2088  `471: 926,` -/
theorem special_b2_m1458_r471_L2088 :
    ∀ e : Nat, 1 < e → e % 486 = 471 → (2 : Nat) ^ e % 1458 = 926 :=
  row_of_ok (by decide +kernel)

/-- num.py:2089  `472: 394,` -/
theorem special_b2_m1458_r472_L2089 :
    ∀ e : Nat, 1 < e → e % 486 = 472 → (2 : Nat) ^ e % 1458 = 394 :=
  row_of_ok (by decide +kernel)

/-- num.py:2090  `473: 788,` -/
theorem special_b2_m1458_r473_L2090 :
    ∀ e : Nat, 1 < e → e % 486 = 473 → (2 : Nat) ^ e % 1458 = 788 :=
  row_of_ok (by decide +kernel)

/-- num.py:2091  `474: 118,` -/
theorem special_b2_m1458_r474_L2091 :
    ∀ e : Nat, 1 < e → e % 486 = 474 → (2 : Nat) ^ e % 1458 = 118 :=
  row_of_ok (by decide +kernel)

/-- num.py:2092  `475: 236,` -/
theorem special_b2_m1458_r475_L2092 :
    ∀ e : Nat, 1 < e → e % 486 = 475 → (2 : Nat) ^ e % 1458 = 236 :=
  row_of_ok (by decide +kernel)

/-- num.py:2093  `476: 472,` -/
theorem special_b2_m1458_r476_L2093 :
    ∀ e : Nat, 1 < e → e % 486 = 476 → (2 : Nat) ^ e % 1458 = 472 :=
  row_of_ok (by decide +kernel)

/-- num.py:2094  `477: 944,` -/
theorem special_b2_m1458_r477_L2094 :
    ∀ e : Nat, 1 < e → e % 486 = 477 → (2 : Nat) ^ e % 1458 = 944 :=
  row_of_ok (by decide +kernel)

/-- num.py:2095  `478: 430,` -/
theorem special_b2_m1458_r478_L2095 :
    ∀ e : Nat, 1 < e → e % 486 = 478 → (2 : Nat) ^ e % 1458 = 430 :=
  row_of_ok (by decide +kernel)

/-- num.py:2096  `479: 860,` -/
theorem special_b2_m1458_r479_L2096 :
    ∀ e : Nat, 1 < e → e % 486 = 479 → (2 : Nat) ^ e % 1458 = 860 :=
  row_of_ok (by decide +kernel)

/-- num.py:2097  `480: 262,` -/
theorem special_b2_m1458_r480_L2097 :
    ∀ e : Nat, 1 < e → e % 486 = 480 → (2 : Nat) ^ e % 1458 = 262 :=
  row_of_ok (by decide +kernel)

/-- num.py:2098  `481: 524,` -/
theorem special_b2_m1458_r481_L2098 :
    ∀ e : Nat, 1 < e → e % 486 = 481 → (2 : Nat) ^ e % 1458 = 524 :=
  row_of_ok (by decide +kernel)

/-- num.py:2099  `482: 1048,` -/
theorem special_b2_m1458_r482_L2099 :
    ∀ e : Nat, 1 < e → e % 486 = 482 → (2 : Nat) ^ e % 1458 = 1048 :=
  row_of_ok (by decide +kernel)

/-- num.py:2100  `483: 638,` -/
theorem special_b2_m1458_r483_L2100 :
    ∀ e : Nat, 1 < e → e % 486 = 483 → (2 : Nat) ^ e % 1458 = 638 :=
  row_of_ok (by decide +kernel)

/-- num.py:2101  `484: 1276,` -/
theorem special_b2_m1458_r484_L2101 :
    ∀ e : Nat, 1 < e → e % 486 = 484 → (2 : Nat) ^ e % 1458 = 1276 :=
  row_of_ok (by decide +kernel)

/-- num.py:2102  `485: 1094,` -/
theorem special_b2_m1458_r485_L2102 :
    ∀ e : Nat, 1 < e → e % 486 = 485 → (2 : Nat) ^ e % 1458 = 1094 :=
  row_of_ok (by decide +kernel)

/-- num.py:2106  `267: 4364,` -/
theorem special_b2_m4374_r267_L2106 :
    ∀ e : Nat, 1 < e → e % 1458 = 267 → (2 : Nat) ^ e % 4374 = 4364 :=
  row_of_ok (by decide +kernel)

/-- num.py:2107  `296: 4090,` -/
theorem special_b2_m4374_r296_L2107 :
    ∀ e : Nat, 1 < e → e % 1458 = 296 → (2 : Nat) ^ e % 4374 = 4090 :=
  row_of_ok (by decide +kernel)

/-- num.py:2108  `655: 614,` -/
theorem special_b2_m4374_r655_L2108 :
    ∀ e : Nat, 1 < e → e % 1458 = 655 → (2 : Nat) ^ e % 4374 = 614 :=
  row_of_ok (by decide +kernel)

/-- num.py:2109  `695: 1994,` -/
theorem special_b2_m4374_r695_L2109 :
    ∀ e : Nat, 1 < e → e % 1458 = 695 → (2 : Nat) ^ e % 4374 = 1994 :=
  row_of_ok (by decide +kernel)

/-- num.py:2110  `696: 3988,` -/
theorem special_b2_m4374_r696_L2110 :
    ∀ e : Nat, 1 < e → e % 1458 = 696 → (2 : Nat) ^ e % 4374 = 3988 :=
  row_of_ok (by decide +kernel)

/-- num.py:2111  `870: 1846,` -/
theorem special_b2_m4374_r870_L2111 :
    ∀ e : Nat, 1 < e → e % 1458 = 870 → (2 : Nat) ^ e % 4374 = 1846 :=
  row_of_ok (by decide +kernel)

/-- num.py:2112  `896: 2398,` -/
theorem special_b2_m4374_r896_L2112 :
    ∀ e : Nat, 1 < e → e % 1458 = 896 → (2 : Nat) ^ e % 4374 = 2398 :=
  row_of_ok (by decide +kernel)

/-- num.py:2113  `919: 326,` -/
theorem special_b2_m4374_r919_L2113 :
    ∀ e : Nat, 1 < e → e % 1458 = 919 → (2 : Nat) ^ e % 4374 = 326 :=
  row_of_ok (by decide +kernel)

/-- num.py:2114  `989: 2768,` -/
theorem special_b2_m4374_r989_L2114 :
    ∀ e : Nat, 1 < e → e % 1458 = 989 → (2 : Nat) ^ e % 4374 = 2768 :=
  row_of_ok (by decide +kernel)

/-- num.py:2115  `1004: 2560,` -/
theorem special_b2_m4374_r1004_L2115 :
    ∀ e : Nat, 1 < e → e % 1458 = 1004 → (2 : Nat) ^ e % 4374 = 2560 :=
  row_of_ok (by decide +kernel)

/-- num.py:2116  `1231: 1532,` -/
theorem special_b2_m4374_r1231_L2116 :
    ∀ e : Nat, 1 < e → e % 1458 = 1231 → (2 : Nat) ^ e % 4374 = 1532 :=
  row_of_ok (by decide +kernel)

/-- num.py:2117  `1258: 3004,` -/
theorem special_b2_m4374_r1258_L2117 :
    ∀ e : Nat, 1 < e → e % 1458 = 1258 → (2 : Nat) ^ e % 4374 = 3004 :=
  row_of_ok (by decide +kernel)

/-- num.py:2118  `1307: 104,` -/
theorem special_b2_m4374_r1307_L2118 :
    ∀ e : Nat, 1 < e → e % 1458 = 1307 → (2 : Nat) ^ e % 4374 = 104 :=
  row_of_ok (by decide +kernel)

/-- num.py:2122  `296: 12838,` -/
theorem special_b2_m13122_r296_L2122 :
    ∀ e : Nat, 1 < e → e % 4374 = 296 → (2 : Nat) ^ e % 13122 = 12838 :=
  row_of_ok (by decide +kernel)

/-- num.py:2123  `919: 4700,` -/
theorem special_b2_m13122_r919_L2123 :
    ∀ e : Nat, 1 < e → e % 4374 = 919 → (2 : Nat) ^ e % 13122 = 4700 :=
  row_of_ok (by decide +kernel)

/-- num.py:2124  `1231: 5906,` -/
theorem special_b2_m13122_r1231_L2124 :
    ∀ e : Nat, 1 < e → e % 4374 = 1231 → (2 : Nat) ^ e % 13122 = 5906 :=
  row_of_ok (by decide +kernel)

/-- num.py:2125  `1258: 11752,` -/
theorem special_b2_m13122_r1258_L2125 :
    ∀ e : Nat, 1 < e → e % 4374 = 1258 → (2 : Nat) ^ e % 13122 = 11752 :=
  row_of_ok (by decide +kernel)

/-- num.py:2126  `2354: 6772,` -/
theorem special_b2_m13122_r2354_L2126 :
    ∀ e : Nat, 1 < e → e % 4374 = 2354 → (2 : Nat) ^ e % 13122 = 6772 :=
  row_of_ok (by decide +kernel)

/-- num.py:2127  `2447: 2768,` -/
theorem special_b2_m13122_r2447_L2127 :
    ∀ e : Nat, 1 < e → e % 4374 = 2447 → (2 : Nat) ^ e % 13122 = 2768 :=
  row_of_ok (by decide +kernel)

/-- num.py:2128  `2462: 2560,` -/
theorem special_b2_m13122_r2462_L2128 :
    ∀ e : Nat, 1 < e → e % 4374 = 2462 → (2 : Nat) ^ e % 13122 = 2560 :=
  row_of_ok (by decide +kernel)

/-- num.py:2129  `2765: 104,` -/
theorem special_b2_m13122_r2765_L2129 :
    ∀ e : Nat, 1 < e → e % 4374 = 2765 → (2 : Nat) ^ e % 13122 = 104 :=
  row_of_ok (by decide +kernel)

/-- num.py:2130  `3183: 8738,` -/
theorem special_b2_m13122_r3183_L2130 :
    ∀ e : Nat, 1 < e → e % 4374 = 3183 → (2 : Nat) ^ e % 13122 = 8738 :=
  row_of_ok (by decide +kernel)

/-- num.py:2131  `3571: 4988,` -/
theorem special_b2_m13122_r3571_L2131 :
    ∀ e : Nat, 1 < e → e % 4374 = 3571 → (2 : Nat) ^ e % 13122 = 4988 :=
  row_of_ok (by decide +kernel)

/-- num.py:2132  `3611: 6368,` -/
theorem special_b2_m13122_r3611_L2132 :
    ∀ e : Nat, 1 < e → e % 4374 = 3611 → (2 : Nat) ^ e % 13122 = 6368 :=
  row_of_ok (by decide +kernel)

/-- num.py:2133  `3612: 12736,` -/
theorem special_b2_m13122_r3612_L2133 :
    ∀ e : Nat, 1 < e → e % 4374 = 3612 → (2 : Nat) ^ e % 13122 = 12736 :=
  row_of_ok (by decide +kernel)

/-- num.py:2137  `919: 4700,` -/
theorem special_b2_m39366_r919_L2137 :
    ∀ e : Nat, 1 < e → e % 13122 = 919 → (2 : Nat) ^ e % 39366 = 4700 :=
  row_of_ok (by decide +kernel)

/-- num.py:2138  `2447: 2768,` -/
theorem special_b2_m39366_r2447_L2138 :
    ∀ e : Nat, 1 < e → e % 13122 = 2447 → (2 : Nat) ^ e % 39366 = 2768 :=
  row_of_ok (by decide +kernel)

/-- num.py:2139  `2765: 26348,` -/
theorem special_b2_m39366_r2765_L2139 :
    ∀ e : Nat, 1 < e → e % 13122 = 2765 → (2 : Nat) ^ e % 39366 = 26348 :=
  row_of_ok (by decide +kernel)

/-- num.py:2140  `3571: 4988,` -/
theorem special_b2_m39366_r3571_L2140 :
    ∀ e : Nat, 1 < e → e % 13122 = 3571 → (2 : Nat) ^ e % 39366 = 4988 :=
  row_of_ok (by decide +kernel)

/-- num.py:2141  `4670: 39082,` -/
theorem special_b2_m39366_r4670_L2141 :
    ∀ e : Nat, 1 < e → e % 13122 = 4670 → (2 : Nat) ^ e % 39366 = 39082 :=
  row_of_ok (by decide +kernel)

/-- num.py:2142  `5632: 11752,` -/
theorem special_b2_m39366_r5632_L2142 :
    ∀ e : Nat, 1 < e → e % 13122 = 5632 → (2 : Nat) ^ e % 39366 = 11752 :=
  row_of_ok (by decide +kernel)

/-- num.py:2143  `6836: 28804,` -/
theorem special_b2_m39366_r6836_L2143 :
    ∀ e : Nat, 1 < e → e % 13122 = 6836 → (2 : Nat) ^ e % 39366 = 28804 :=
  row_of_ok (by decide +kernel)

/-- num.py:2144  `7986: 25858,` -/
theorem special_b2_m39366_r7986_L2144 :
    ∀ e : Nat, 1 < e → e % 13122 = 7986 → (2 : Nat) ^ e % 39366 = 25858 :=
  row_of_ok (by decide +kernel)

/-- num.py:2145  `9979: 32150,` -/
theorem special_b2_m39366_r9979_L2145 :
    ∀ e : Nat, 1 < e → e % 13122 = 9979 → (2 : Nat) ^ e % 39366 = 32150 :=
  row_of_ok (by decide +kernel)

/-- num.py:2146  `11102: 19894,` -/
theorem special_b2_m39366_r11102_L2146 :
    ∀ e : Nat, 1 < e → e % 13122 = 11102 → (2 : Nat) ^ e % 39366 = 19894 :=
  row_of_ok (by decide +kernel)

/-- num.py:2147  `11931: 8738,` -/
theorem special_b2_m39366_r11931_L2147 :
    ∀ e : Nat, 1 < e → e % 13122 = 11931 → (2 : Nat) ^ e % 39366 = 8738 :=
  row_of_ok (by decide +kernel)

/-- num.py:2151  `2447: 2768,` -/
theorem special_b2_m118098_r2447_L2151 :
    ∀ e : Nat, 1 < e → e % 39366 = 2447 → (2 : Nat) ^ e % 118098 = 2768 :=
  row_of_ok (by decide +kernel)

/-- num.py:2152  `3571: 44354,` -/
theorem special_b2_m118098_r3571_L2152 :
    ∀ e : Nat, 1 < e → e % 39366 = 3571 → (2 : Nat) ^ e % 118098 = 44354 :=
  row_of_ok (by decide +kernel)

/-- num.py:2153  `5632: 11752,` -/
theorem special_b2_m118098_r5632_L2153 :
    ∀ e : Nat, 1 < e → e % 39366 = 5632 → (2 : Nat) ^ e % 118098 = 11752 :=
  row_of_ok (by decide +kernel)

/-- num.py:2154  `6836: 68170,` -/
theorem special_b2_m118098_r6836_L2154 :
    ∀ e : Nat, 1 < e → e % 39366 = 6836 → (2 : Nat) ^ e % 118098 = 68170 :=
  row_of_ok (by decide +kernel)

/-- num.py:2155  `27163: 44066,` -/
theorem special_b2_m118098_r27163_L2155 :
    ∀ e : Nat, 1 < e → e % 39366 = 27163 → (2 : Nat) ^ e % 118098 = 44066 :=
  row_of_ok (by decide +kernel)

/-- num.py:2156  `29009: 26348,` -/
theorem special_b2_m118098_r29009_L2156 :
    ∀ e : Nat, 1 < e → e % 39366 = 29009 → (2 : Nat) ^ e % 118098 = 26348 :=
  row_of_ok (by decide +kernel)

/-- num.py:2157  `30914: 39082,` -/
theorem special_b2_m118098_r30914_L2157 :
    ∀ e : Nat, 1 < e → e % 39366 = 30914 → (2 : Nat) ^ e % 118098 = 39082 :=
  row_of_ok (by decide +kernel)

/-- num.py:2158  `34230: 25858,` -/
theorem special_b2_m118098_r34230_L2158 :
    ∀ e : Nat, 1 < e → e % 39366 = 34230 → (2 : Nat) ^ e % 118098 = 25858 :=
  row_of_ok (by decide +kernel)

/-- num.py:2159  `38175: 48104,` -/
theorem special_b2_m118098_r38175_L2159 :
    ∀ e : Nat, 1 < e → e % 39366 = 38175 → (2 : Nat) ^ e % 118098 = 48104 :=
  row_of_ok (by decide +kernel)

/-- num.py:2160  `36223: 110882,` -/
theorem special_b2_m118098_r36223_L2160 :
    ∀ e : Nat, 1 < e → e % 39366 = 36223 → (2 : Nat) ^ e % 118098 = 110882 :=
  row_of_ok (by decide +kernel)

/-- num.py:2164  `6836: 68170,` -/
theorem special_b2_m354294_r6836_L2164 :
    ∀ e : Nat, 1 < e → e % 118098 = 6836 → (2 : Nat) ^ e % 354294 = 68170 :=
  row_of_ok (by decide +kernel)

/-- num.py:2165  `29009: 144446,` -/
theorem special_b2_m354294_r29009_L2165 :
    ∀ e : Nat, 1 < e → e % 118098 = 29009 → (2 : Nat) ^ e % 354294 = 144446 :=
  row_of_ok (by decide +kernel)

/-- num.py:2166  `30914: 157180,` -/
theorem special_b2_m354294_r30914_L2166 :
    ∀ e : Nat, 1 < e → e % 118098 = 30914 → (2 : Nat) ^ e % 354294 = 157180 :=
  row_of_ok (by decide +kernel)

/-- num.py:2167  `41813: 238964,` -/
theorem special_b2_m354294_r41813_L2167 :
    ∀ e : Nat, 1 < e → e % 118098 = 41813 → (2 : Nat) ^ e % 354294 = 238964 :=
  row_of_ok (by decide +kernel)

/-- num.py:2168  `42937: 162452,` -/
theorem special_b2_m354294_r42937_L2168 :
    ∀ e : Nat, 1 < e → e % 118098 = 42937 → (2 : Nat) ^ e % 354294 = 162452 :=
  row_of_ok (by decide +kernel)

/-- num.py:2169  `73596: 143956,` -/
theorem special_b2_m354294_r73596_L2169 :
    ∀ e : Nat, 1 < e → e % 118098 = 73596 → (2 : Nat) ^ e % 354294 = 143956 :=
  row_of_ok (by decide +kernel)

/-- num.py:2170  `75589: 110882,` -/
theorem special_b2_m354294_r75589_L2170 :
    ∀ e : Nat, 1 < e → e % 118098 = 75589 → (2 : Nat) ^ e % 354294 = 110882 :=
  row_of_ok (by decide +kernel)

/-- num.py:2171  `84364: 247948,` -/
theorem special_b2_m354294_r84364_L2171 :
    ∀ e : Nat, 1 < e → e % 118098 = 84364 → (2 : Nat) ^ e % 354294 = 247948 :=
  row_of_ok (by decide +kernel)

/-- num.py:2172  `105895: 162164,` -/
theorem special_b2_m354294_r105895_L2172 :
    ∀ e : Nat, 1 < e → e % 118098 = 105895 → (2 : Nat) ^ e % 354294 = 162164 :=
  row_of_ok (by decide +kernel)

/-- num.py:2176  `29009: 498740,` -/
theorem special_b2_m1062882_r29009_L2176 :
    ∀ e : Nat, 1 < e → e % 354294 = 29009 → (2 : Nat) ^ e % 1062882 = 498740 :=
  row_of_ok (by decide +kernel)

/-- num.py:2177  `84364: 956536,` -/
theorem special_b2_m1062882_r84364_L2177 :
    ∀ e : Nat, 1 < e → e % 354294 = 84364 → (2 : Nat) ^ e % 1062882 = 956536 :=
  row_of_ok (by decide +kernel)

/-- num.py:2178  `149012: 511474,` -/
theorem special_b2_m1062882_r149012_L2178 :
    ∀ e : Nat, 1 < e → e % 354294 = 149012 → (2 : Nat) ^ e % 1062882 = 511474 :=
  row_of_ok (by decide +kernel)

/-- num.py:2179  `223993: 516458,` -/
theorem special_b2_m1062882_r223993_L2179 :
    ∀ e : Nat, 1 < e → e % 354294 = 223993 → (2 : Nat) ^ e % 1062882 = 516458 :=
  row_of_ok (by decide +kernel)

/-- num.py:2180  `243032: 422464,` -/
theorem special_b2_m1062882_r243032_L2180 :
    ∀ e : Nat, 1 < e → e % 354294 = 243032 → (2 : Nat) ^ e % 1062882 = 422464 :=
  row_of_ok (by decide +kernel)

/-- num.py:2181  `278009: 238964,` -/
theorem special_b2_m1062882_r278009_L2181 :
    ∀ e : Nat, 1 < e → e % 354294 = 278009 → (2 : Nat) ^ e % 1062882 = 238964 :=
  row_of_ok (by decide +kernel)

/-- num.py:2182  `309792: 143956,` -/
theorem special_b2_m1062882_r309792_L2182 :
    ∀ e : Nat, 1 < e → e % 354294 = 309792 → (2 : Nat) ^ e % 1062882 = 143956 :=
  row_of_ok (by decide +kernel)

/-- num.py:2183  `311785: 110882,` -/
theorem special_b2_m1062882_r311785_L2183 :
    ∀ e : Nat, 1 < e → e % 354294 = 311785 → (2 : Nat) ^ e % 1062882 = 110882 :=
  row_of_ok (by decide +kernel)

/-- num.py:2187  `223993: 516458,` -/
theorem special_b2_m3188646_r223993_L2187 :
    ∀ e : Nat, 1 < e → e % 1062882 = 223993 → (2 : Nat) ^ e % 3188646 = 516458 :=
  row_of_ok (by decide +kernel)

/-- num.py:2188  `309792: 2269720,` -/
theorem special_b2_m3188646_r309792_L2188 :
    ∀ e : Nat, 1 < e → e % 1062882 = 309792 → (2 : Nat) ^ e % 3188646 = 2269720 :=
  row_of_ok (by decide +kernel)

/-- num.py:2189  `597326: 422464,` -/
theorem special_b2_m3188646_r597326_L2189 :
    ∀ e : Nat, 1 < e → e % 1062882 = 597326 → (2 : Nat) ^ e % 3188646 = 422464 :=
  row_of_ok (by decide +kernel)

/-- num.py:2190  `632303: 2364728,` -/
theorem special_b2_m3188646_r632303_L2190 :
    ∀ e : Nat, 1 < e → e % 1062882 = 632303 → (2 : Nat) ^ e % 3188646 = 2364728 :=
  row_of_ok (by decide +kernel)

/-- num.py:2191  `737597: 1561622,` -/
theorem special_b2_m3188646_r737597_L2191 :
    ∀ e : Nat, 1 < e → e % 1062882 = 737597 → (2 : Nat) ^ e % 3188646 = 1561622 :=
  row_of_ok (by decide +kernel)

/-- num.py:2192  `792952: 2019418,` -/
theorem special_b2_m3188646_r792952_L2192 :
    ∀ e : Nat, 1 < e → e % 1062882 = 792952 → (2 : Nat) ^ e % 3188646 = 2019418 :=
  row_of_ok (by decide +kernel)

/-- num.py:2193  `857600: 511474,` -/
theorem special_b2_m3188646_r857600_L2193 :
    ∀ e : Nat, 1 < e → e % 1062882 = 857600 → (2 : Nat) ^ e % 3188646 = 511474 :=
  row_of_ok (by decide +kernel)

/-- num.py:2197  `223993:  516458,` -/
theorem special_b2_m9565938_r223993_L2197 :
    ∀ e : Nat, 1 < e → e % 3188646 = 223993 → (2 : Nat) ^ e % 9565938 = 516458 :=
  row_of_ok (by decide +kernel)

/-- num.py:2198  `737597: 4750268,` -/
theorem special_b2_m9565938_r737597_L2198 :
    ∀ e : Nat, 1 < e → e % 3188646 = 737597 → (2 : Nat) ^ e % 9565938 = 4750268 :=
  row_of_ok (by decide +kernel)

/-- num.py:2199  `857600: 3700120,` -/
theorem special_b2_m9565938_r857600_L2199 :
    ∀ e : Nat, 1 < e → e % 3188646 = 857600 → (2 : Nat) ^ e % 9565938 = 3700120 :=
  row_of_ok (by decide +kernel)

/-- num.py:2200  `1660208:  422464,` -/
theorem special_b2_m9565938_r1660208_L2200 :
    ∀ e : Nat, 1 < e → e % 3188646 = 1660208 → (2 : Nat) ^ e % 9565938 = 422464 :=
  row_of_ok (by decide +kernel)

/-- num.py:2201  `1855834: 5208064,` -/
theorem special_b2_m9565938_r1855834_L2201 :
    ∀ e : Nat, 1 < e → e % 3188646 = 1855834 → (2 : Nat) ^ e % 9565938 = 5208064 :=
  row_of_ok (by decide +kernel)

/-- num.py:2202  `2435556: 5458366,` -/
theorem special_b2_m9565938_r2435556_L2202 :
    ∀ e : Nat, 1 < e → e % 3188646 = 2435556 → (2 : Nat) ^ e % 9565938 = 5458366 :=
  row_of_ok (by decide +kernel)

/-- num.py:2203  `2758067: 8742020,` -/
theorem special_b2_m9565938_r2758067_L2203 :
    ∀ e : Nat, 1 < e → e % 3188646 = 2758067 → (2 : Nat) ^ e % 9565938 = 8742020 :=
  row_of_ok (by decide +kernel)

/-- num.py:2207  `857600:  3700120,` -/
theorem special_b2_m28697814_r857600_L2207 :
    ∀ e : Nat, 1 < e → e % 9565938 = 857600 → (2 : Nat) ^ e % 28697814 = 3700120 :=
  row_of_ok (by decide +kernel)

/-- num.py:2208  `1660208:  9988402,` -/
theorem special_b2_m28697814_r1660208_L2208 :
    ∀ e : Nat, 1 < e → e % 9565938 = 1660208 → (2 : Nat) ^ e % 28697814 = 9988402 :=
  row_of_ok (by decide +kernel)

/-- num.py:2209  `2758067:  8742020,` -/
theorem special_b2_m28697814_r2758067_L2209 :
    ∀ e : Nat, 1 < e → e % 9565938 = 2758067 → (2 : Nat) ^ e % 28697814 = 8742020 :=
  row_of_ok (by decide +kernel)

/-- num.py:2210  `7114889: 23882144,` -/
theorem special_b2_m28697814_r7114889_L2210 :
    ∀ e : Nat, 1 < e → e % 9565938 = 7114889 → (2 : Nat) ^ e % 28697814 = 23882144 :=
  row_of_ok (by decide +kernel)

/-- num.py:2211  `8233126:  5208064,` -/
theorem special_b2_m28697814_r8233126_L2211 :
    ∀ e : Nat, 1 < e → e % 9565938 = 8233126 → (2 : Nat) ^ e % 28697814 = 5208064 :=
  row_of_ok (by decide +kernel)

/-- num.py:2212  `8812848: 24590242,` -/
theorem special_b2_m28697814_r8812848_L2212 :
    ∀ e : Nat, 1 < e → e % 9565938 = 8812848 → (2 : Nat) ^ e % 28697814 = 24590242 :=
  row_of_ok (by decide +kernel)

/-- num.py:2216  `2758067: 66137648,` -/
theorem special_b2_m86093442_r2758067_L2216 :
    ∀ e : Nat, 1 < e → e % 28697814 = 2758067 → (2 : Nat) ^ e % 86093442 = 66137648 :=
  row_of_ok (by decide +kernel)

/-- num.py:2217  `7114889: 23882144,` -/
theorem special_b2_m86093442_r7114889_L2217 :
    ∀ e : Nat, 1 < e → e % 28697814 = 7114889 → (2 : Nat) ^ e % 86093442 = 23882144 :=
  row_of_ok (by decide +kernel)

/-- num.py:2218  `19989476: 61095748,` -/
theorem special_b2_m86093442_r19989476_L2218 :
    ∀ e : Nat, 1 < e → e % 28697814 = 19989476 → (2 : Nat) ^ e % 86093442 = 61095748 :=
  row_of_ok (by decide +kernel)

/-- num.py:2219  `20792084: 67384030,` -/
theorem special_b2_m86093442_r20792084_L2219 :
    ∀ e : Nat, 1 < e → e % 28697814 = 20792084 → (2 : Nat) ^ e % 86093442 = 67384030 :=
  row_of_ok (by decide +kernel)

/-- num.py:2220  `27944724: 81985870,` -/
theorem special_b2_m86093442_r27944724_L2220 :
    ∀ e : Nat, 1 < e → e % 28697814 = 27944724 → (2 : Nat) ^ e % 86093442 = 81985870 :=
  row_of_ok (by decide +kernel)

/-- num.py:2224  `7114889: 109975586,` -/
theorem special_b2_m258280326_r7114889_L2224 :
    ∀ e : Nat, 1 < e → e % 86093442 = 7114889 → (2 : Nat) ^ e % 258280326 = 109975586 :=
  row_of_ok (by decide +kernel)

/-- num.py:2225  `27944724: 168079312,` -/
theorem special_b2_m258280326_r27944724_L2225 :
    ∀ e : Nat, 1 < e → e % 86093442 = 27944724 → (2 : Nat) ^ e % 258280326 = 168079312 :=
  row_of_ok (by decide +kernel)

/-- num.py:2226  `77385104: 233282632,` -/
theorem special_b2_m258280326_r77385104_L2226 :
    ∀ e : Nat, 1 < e → e % 86093442 = 77385104 → (2 : Nat) ^ e % 258280326 = 233282632 :=
  row_of_ok (by decide +kernel)

/-- num.py:2227  `78187712: 153477472,` -/
theorem special_b2_m258280326_r78187712_L2227 :
    ∀ e : Nat, 1 < e → e % 86093442 = 78187712 → (2 : Nat) ^ e % 258280326 = 153477472 :=
  row_of_ok (by decide +kernel)

/-- num.py:2231  `7114889: 626536238,` -/
theorem special_b2_m774840978_r7114889_L2231 :
    ∀ e : Nat, 1 < e → e % 258280326 = 7114889 → (2 : Nat) ^ e % 774840978 = 626536238 :=
  row_of_ok (by decide +kernel)

/-- num.py:2232  `114038166: 684639964,` -/
theorem special_b2_m774840978_r114038166_L2232 :
    ∀ e : Nat, 1 < e → e % 258280326 = 114038166 → (2 : Nat) ^ e % 774840978 = 684639964 :=
  row_of_ok (by decide +kernel)

/-- num.py:2233  `250374596: 153477472,` -/
theorem special_b2_m774840978_r250374596_L2233 :
    ∀ e : Nat, 1 < e → e % 258280326 = 250374596 → (2 : Nat) ^ e % 774840978 = 153477472 :=
  row_of_ok (by decide +kernel)

/-- num.py:2237  `265395215: 626536238,` -/
theorem special_b2_m2324522934_r265395215_L2237 :
    ∀ e : Nat, 1 < e → e % 774840978 = 265395215 → (2 : Nat) ^ e % 2324522934 = 626536238 :=
  row_of_ok (by decide +kernel)

/-- num.py:2238  `766935248: 153477472,` -/
theorem special_b2_m2324522934_r766935248_L2238 :
    ∀ e : Nat, 1 < e → e % 774840978 = 766935248 → (2 : Nat) ^ e % 2324522934 = 153477472 :=
  row_of_ok (by decide +kernel)

/-- num.py:2242  `1541776226: 153477472,` -/
theorem special_b2_m6973568802_r1541776226_L2242 :
    ∀ e : Nat, 1 < e → e % 2324522934 = 1541776226 → (2 : Nat) ^ e % 6973568802 = 153477472 :=
  row_of_ok (by decide +kernel)

/-! ### the tables as data (BB/Generated/NumTablesData.lean) are exactly the proved entries -/

/-- what one table entry `(modulus, period modulus, exp % period modulus, value)` claims -/
def EntryClaim (t : Nat × Nat × Nat × Nat) : Prop :=
  ∀ e : Nat, 1 < e → e % t.2.1 = t.2.2.1 → BB.NumTablesData.specialBase ^ e % t.1 = t.2.2.2

/-- every entry of the data with the theorem (above) that proves it -/
def provedEntries : List { t : Nat × Nat × Nat × Nat // EntryClaim t } := [
  ⟨(54, 18, 0, 28), special_b2_m54_r0_L1374⟩,
  ⟨(54, 18, 1, 2), special_b2_m54_r1_L1375⟩,
  ⟨(54, 18, 2, 4), special_b2_m54_r2_L1376⟩,
  ⟨(54, 18, 3, 8), special_b2_m54_r3_L1377⟩,
  ⟨(54, 18, 4, 16), special_b2_m54_r4_L1378⟩,
  ⟨(54, 18, 5, 32), special_b2_m54_r5_L1379⟩,
  ⟨(54, 18, 6, 10), special_b2_m54_r6_L1380⟩,
  ⟨(54, 18, 7, 20), special_b2_m54_r7_L1381⟩,
  ⟨(54, 18, 8, 40), special_b2_m54_r8_L1382⟩,
  ⟨(54, 18, 9, 26), special_b2_m54_r9_L1383⟩,
  ⟨(54, 18, 10, 52), special_b2_m54_r10_L1384⟩,
  ⟨(54, 18, 11, 50), special_b2_m54_r11_L1385⟩,
  ⟨(54, 18, 12, 46), special_b2_m54_r12_L1386⟩,
  ⟨(54, 18, 13, 38), special_b2_m54_r13_L1387⟩,
  ⟨(54, 18, 14, 22), special_b2_m54_r14_L1388⟩,
  ⟨(54, 18, 15, 44), special_b2_m54_r15_L1389⟩,
  ⟨(54, 18, 16, 34), special_b2_m54_r16_L1390⟩,
  ⟨(54, 18, 17, 14), special_b2_m54_r17_L1391⟩,
  ⟨(162, 54, 0, 82), special_b2_m162_r0_L1395⟩,
  ⟨(162, 54, 1, 2), special_b2_m162_r1_L1396⟩,
  ⟨(162, 54, 2, 4), special_b2_m162_r2_L1397⟩,
  ⟨(162, 54, 3, 8), special_b2_m162_r3_L1398⟩,
  ⟨(162, 54, 4, 16), special_b2_m162_r4_L1399⟩,
  ⟨(162, 54, 5, 32), special_b2_m162_r5_L1400⟩,
  ⟨(162, 54, 6, 64), special_b2_m162_r6_L1401⟩,
  ⟨(162, 54, 7, 128), special_b2_m162_r7_L1402⟩,
  ⟨(162, 54, 8, 94), special_b2_m162_r8_L1403⟩,
  ⟨(162, 54, 9, 26), special_b2_m162_r9_L1404⟩,
  ⟨(162, 54, 10, 52), special_b2_m162_r10_L1405⟩,
  ⟨(162, 54, 11, 104), special_b2_m162_r11_L1406⟩,
  ⟨(162, 54, 12, 46), special_b2_m162_r12_L1407⟩,
  ⟨(162, 54, 13, 92), special_b2_m162_r13_L1408⟩,
  ⟨(162, 54, 14, 22), special_b2_m162_r14_L1409⟩,
  ⟨(162, 54, 15, 44), special_b2_m162_r15_L1410⟩,
  ⟨(162, 54, 16, 88), special_b2_m162_r16_L1411⟩,
  ⟨(162, 54, 17, 14), special_b2_m162_r17_L1412⟩,
  ⟨(162, 54, 18, 28), special_b2_m162_r18_L1413⟩,
  ⟨(162, 54, 19, 56), special_b2_m162_r19_L1414⟩,
  ⟨(162, 54, 20, 112), special_b2_m162_r20_L1415⟩,
  ⟨(162, 54, 21, 62), special_b2_m162_r21_L1416⟩,
  ⟨(162, 54, 22, 124), special_b2_m162_r22_L1417⟩,
  ⟨(162, 54, 23, 86), special_b2_m162_r23_L1418⟩,
  ⟨(162, 54, 24, 10), special_b2_m162_r24_L1419⟩,
  ⟨(162, 54, 25, 20), special_b2_m162_r25_L1420⟩,
  ⟨(162, 54, 26, 40), special_b2_m162_r26_L1421⟩,
  ⟨(162, 54, 27, 80), special_b2_m162_r27_L1422⟩,
  ⟨(162, 54, 28, 160), special_b2_m162_r28_L1423⟩,
  ⟨(162, 54, 29, 158), special_b2_m162_r29_L1424⟩,
  ⟨(162, 54, 30, 154), special_b2_m162_r30_L1425⟩,
  ⟨(162, 54, 31, 146), special_b2_m162_r31_L1426⟩,
  ⟨(162, 54, 32, 130), special_b2_m162_r32_L1427⟩,
  ⟨(162, 54, 33, 98), special_b2_m162_r33_L1428⟩,
  ⟨(162, 54, 34, 34), special_b2_m162_r34_L1429⟩,
  ⟨(162, 54, 35, 68), special_b2_m162_r35_L1430⟩,
  ⟨(162, 54, 36, 136), special_b2_m162_r36_L1431⟩,
  ⟨(162, 54, 37, 110), special_b2_m162_r37_L1432⟩,
  ⟨(162, 54, 38, 58), special_b2_m162_r38_L1433⟩,
  ⟨(162, 54, 39, 116), special_b2_m162_r39_L1434⟩,
  ⟨(162, 54, 40, 70), special_b2_m162_r40_L1435⟩,
  ⟨(162, 54, 41, 140), special_b2_m162_r41_L1436⟩,
  ⟨(162, 54, 42, 118), special_b2_m162_r42_L1437⟩,
  ⟨(162, 54, 43, 74), special_b2_m162_r43_L1438⟩,
  ⟨(162, 54, 44, 148), special_b2_m162_r44_L1439⟩,
  ⟨(162, 54, 45, 134), special_b2_m162_r45_L1440⟩,
  ⟨(162, 54, 46, 106), special_b2_m162_r46_L1441⟩,
  ⟨(162, 54, 47, 50), special_b2_m162_r47_L1442⟩,
  ⟨(162, 54, 48, 100), special_b2_m162_r48_L1443⟩,
  ⟨(162, 54, 49, 38), special_b2_m162_r49_L1444⟩,
  ⟨(162, 54, 50, 76), special_b2_m162_r50_L1445⟩,
  ⟨(162, 54, 51, 152), special_b2_m162_r51_L1446⟩,
  ⟨(162, 54, 52, 142), special_b2_m162_r52_L1447⟩,
  ⟨(162, 54, 53, 122), special_b2_m162_r53_L1448⟩,
  ⟨(486, 162, 0, 244), special_b2_m486_r0_L1452⟩,
  ⟨(486, 162, 1, 2), special_b2_m486_r1_L1453⟩,
  ⟨(486, 162, 2, 4), special_b2_m486_r2_L1454⟩,
  ⟨(486, 162, 3, 8), special_b2_m486_r3_L1455⟩,
  ⟨(486, 162, 4, 16), special_b2_m486_r4_L1456⟩,
  ⟨(486, 162, 5, 32), special_b2_m486_r5_L1457⟩,
  ⟨(486, 162, 6, 64), special_b2_m486_r6_L1458⟩,
  ⟨(486, 162, 7, 128), special_b2_m486_r7_L1459⟩,
  ⟨(486, 162, 8, 256), special_b2_m486_r8_L1460⟩,
  ⟨(486, 162, 9, 26), special_b2_m486_r9_L1461⟩,
  ⟨(486, 162, 10, 52), special_b2_m486_r10_L1462⟩,
  ⟨(486, 162, 11, 104), special_b2_m486_r11_L1463⟩,
  ⟨(486, 162, 12, 208), special_b2_m486_r12_L1464⟩,
  ⟨(486, 162, 13, 416), special_b2_m486_r13_L1465⟩,
  ⟨(486, 162, 14, 346), special_b2_m486_r14_L1466⟩,
  ⟨(486, 162, 15, 206), special_b2_m486_r15_L1467⟩,
  ⟨(486, 162, 16, 412), special_b2_m486_r16_L1468⟩,
  ⟨(486, 162, 17, 338), special_b2_m486_r17_L1469⟩,
  ⟨(486, 162, 18, 190), special_b2_m486_r18_L1470⟩,
  ⟨(486, 162, 19, 380), special_b2_m486_r19_L1471⟩,
  ⟨(486, 162, 20, 274), special_b2_m486_r20_L1472⟩,
  ⟨(486, 162, 21, 62), special_b2_m486_r21_L1473⟩,
  ⟨(486, 162, 22, 124), special_b2_m486_r22_L1474⟩,
  ⟨(486, 162, 23, 248), special_b2_m486_r23_L1475⟩,
  ⟨(486, 162, 24, 10), special_b2_m486_r24_L1476⟩,
  ⟨(486, 162, 25, 20), special_b2_m486_r25_L1477⟩,
  ⟨(486, 162, 26, 40), special_b2_m486_r26_L1478⟩,
  ⟨(486, 162, 27, 80), special_b2_m486_r27_L1479⟩,
  ⟨(486, 162, 28, 160), special_b2_m486_r28_L1480⟩,
  ⟨(486, 162, 29, 320), special_b2_m486_r29_L1481⟩,
  ⟨(486, 162, 30, 154), special_b2_m486_r30_L1482⟩,
  ⟨(486, 162, 31, 308), special_b2_m486_r31_L1483⟩,
  ⟨(486, 162, 32, 130), special_b2_m486_r32_L1484⟩,
  ⟨(486, 162, 33, 260), special_b2_m486_r33_L1485⟩,
  ⟨(486, 162, 34, 34), special_b2_m486_r34_L1486⟩,
  ⟨(486, 162, 35, 68), special_b2_m486_r35_L1487⟩,
  ⟨(486, 162, 36, 136), special_b2_m486_r36_L1488⟩,
  ⟨(486, 162, 37, 272), special_b2_m486_r37_L1489⟩,
  ⟨(486, 162, 38, 58), special_b2_m486_r38_L1490⟩,
  ⟨(486, 162, 39, 116), special_b2_m486_r39_L1491⟩,
  ⟨(486, 162, 40, 232), special_b2_m486_r40_L1492⟩,
  ⟨(486, 162, 41, 464), special_b2_m486_r41_L1493⟩,
  ⟨(486, 162, 42, 442), special_b2_m486_r42_L1494⟩,
  ⟨(486, 162, 43, 398), special_b2_m486_r43_L1495⟩,
  ⟨(486, 162, 44, 310), special_b2_m486_r44_L1496⟩,
  ⟨(486, 162, 45, 134), special_b2_m486_r45_L1497⟩,
  ⟨(486, 162, 46, 268), special_b2_m486_r46_L1498⟩,
  ⟨(486, 162, 47, 50), special_b2_m486_r47_L1499⟩,
  ⟨(486, 162, 48, 100), special_b2_m486_r48_L1500⟩,
  ⟨(486, 162, 49, 200), special_b2_m486_r49_L1501⟩,
  ⟨(486, 162, 50, 400), special_b2_m486_r50_L1502⟩,
  ⟨(486, 162, 51, 314), special_b2_m486_r51_L1503⟩,
  ⟨(486, 162, 52, 142), special_b2_m486_r52_L1504⟩,
  ⟨(486, 162, 53, 284), special_b2_m486_r53_L1505⟩,
  ⟨(486, 162, 54, 82), special_b2_m486_r54_L1506⟩,
  ⟨(486, 162, 55, 164), special_b2_m486_r55_L1507⟩,
  ⟨(486, 162, 56, 328), special_b2_m486_r56_L1508⟩,
  ⟨(486, 162, 57, 170), special_b2_m486_r57_L1509⟩,
  ⟨(486, 162, 58, 340), special_b2_m486_r58_L1510⟩,
  ⟨(486, 162, 59, 194), special_b2_m486_r59_L1511⟩,
  ⟨(486, 162, 60, 388), special_b2_m486_r60_L1512⟩,
  ⟨(486, 162, 61, 290), special_b2_m486_r61_L1513⟩,
  ⟨(486, 162, 62, 94), special_b2_m486_r62_L1514⟩,
  ⟨(486, 162, 63, 188), special_b2_m486_r63_L1515⟩,
  ⟨(486, 162, 64, 376), special_b2_m486_r64_L1516⟩,
  ⟨(486, 162, 65, 266), special_b2_m486_r65_L1517⟩,
  ⟨(486, 162, 66, 46), special_b2_m486_r66_L1518⟩,
  ⟨(486, 162, 67, 92), special_b2_m486_r67_L1519⟩,
  ⟨(486, 162, 68, 184), special_b2_m486_r68_L1520⟩,
  ⟨(486, 162, 69, 368), special_b2_m486_r69_L1521⟩,
  ⟨(486, 162, 70, 250), special_b2_m486_r70_L1522⟩,
  ⟨(486, 162, 71, 14), special_b2_m486_r71_L1523⟩,
  ⟨(486, 162, 72, 28), special_b2_m486_r72_L1524⟩,
  ⟨(486, 162, 73, 56), special_b2_m486_r73_L1525⟩,
  ⟨(486, 162, 74, 112), special_b2_m486_r74_L1526⟩,
  ⟨(486, 162, 75, 224), special_b2_m486_r75_L1527⟩,
  ⟨(486, 162, 76, 448), special_b2_m486_r76_L1528⟩,
  ⟨(486, 162, 77, 410), special_b2_m486_r77_L1529⟩,
  ⟨(486, 162, 78, 334), special_b2_m486_r78_L1530⟩,
  ⟨(486, 162, 79, 182), special_b2_m486_r79_L1531⟩,
  ⟨(486, 162, 80, 364), special_b2_m486_r80_L1532⟩,
  ⟨(486, 162, 81, 242), special_b2_m486_r81_L1533⟩,
  ⟨(486, 162, 82, 484), special_b2_m486_r82_L1534⟩,
  ⟨(486, 162, 83, 482), special_b2_m486_r83_L1535⟩,
  ⟨(486, 162, 84, 478), special_b2_m486_r84_L1536⟩,
  ⟨(486, 162, 85, 470), special_b2_m486_r85_L1537⟩,
  ⟨(486, 162, 86, 454), special_b2_m486_r86_L1538⟩,
  ⟨(486, 162, 87, 422), special_b2_m486_r87_L1539⟩,
  ⟨(486, 162, 88, 358), special_b2_m486_r88_L1540⟩,
  ⟨(486, 162, 89, 230), special_b2_m486_r89_L1541⟩,
  ⟨(486, 162, 90, 460), special_b2_m486_r90_L1542⟩,
  ⟨(486, 162, 91, 434), special_b2_m486_r91_L1543⟩,
  ⟨(486, 162, 92, 382), special_b2_m486_r92_L1544⟩,
  ⟨(486, 162, 93, 278), special_b2_m486_r93_L1545⟩,
  ⟨(486, 162, 94, 70), special_b2_m486_r94_L1546⟩,
  ⟨(486, 162, 95, 140), special_b2_m486_r95_L1547⟩,
  ⟨(486, 162, 96, 280), special_b2_m486_r96_L1548⟩,
  ⟨(486, 162, 97, 74), special_b2_m486_r97_L1549⟩,
  ⟨(486, 162, 98, 148), special_b2_m486_r98_L1550⟩,
  ⟨(486, 162, 99, 296), special_b2_m486_r99_L1551⟩,
  ⟨(486, 162, 100, 106), special_b2_m486_r100_L1552⟩,
  ⟨(486, 162, 101, 212), special_b2_m486_r101_L1553⟩,
  ⟨(486, 162, 102, 424), special_b2_m486_r102_L1554⟩,
  ⟨(486, 162, 103, 362), special_b2_m486_r103_L1555⟩,
  ⟨(486, 162, 104, 238), special_b2_m486_r104_L1556⟩,
  ⟨(486, 162, 105, 476), special_b2_m486_r105_L1557⟩,
  ⟨(486, 162, 106, 466), special_b2_m486_r106_L1558⟩,
  ⟨(486, 162, 107, 446), special_b2_m486_r107_L1559⟩,
  ⟨(486, 162, 108, 406), special_b2_m486_r108_L1560⟩,
  ⟨(486, 162, 109, 326), special_b2_m486_r109_L1561⟩,
  ⟨(486, 162, 110, 166), special_b2_m486_r110_L1562⟩,
  ⟨(486, 162, 111, 332), special_b2_m486_r111_L1563⟩,
  ⟨(486, 162, 112, 178), special_b2_m486_r112_L1564⟩,
  ⟨(486, 162, 113, 356), special_b2_m486_r113_L1565⟩,
  ⟨(486, 162, 114, 226), special_b2_m486_r114_L1566⟩,
  ⟨(486, 162, 115, 452), special_b2_m486_r115_L1567⟩,
  ⟨(486, 162, 116, 418), special_b2_m486_r116_L1568⟩,
  ⟨(486, 162, 117, 350), special_b2_m486_r117_L1569⟩,
  ⟨(486, 162, 118, 214), special_b2_m486_r118_L1570⟩,
  ⟨(486, 162, 119, 428), special_b2_m486_r119_L1571⟩,
  ⟨(486, 162, 120, 370), special_b2_m486_r120_L1572⟩,
  ⟨(486, 162, 121, 254), special_b2_m486_r121_L1573⟩,
  ⟨(486, 162, 122, 22), special_b2_m486_r122_L1574⟩,
  ⟨(486, 162, 123, 44), special_b2_m486_r123_L1575⟩,
  ⟨(486, 162, 124, 88), special_b2_m486_r124_L1576⟩,
  ⟨(486, 162, 125, 176), special_b2_m486_r125_L1577⟩,
  ⟨(486, 162, 126, 352), special_b2_m486_r126_L1578⟩,
  ⟨(486, 162, 127, 218), special_b2_m486_r127_L1579⟩,
  ⟨(486, 162, 128, 436), special_b2_m486_r128_L1580⟩,
  ⟨(486, 162, 129, 386), special_b2_m486_r129_L1581⟩,
  ⟨(486, 162, 130, 286), special_b2_m486_r130_L1582⟩,
  ⟨(486, 162, 131, 86), special_b2_m486_r131_L1583⟩,
  ⟨(486, 162, 132, 172), special_b2_m486_r132_L1584⟩,
  ⟨(486, 162, 133, 344), special_b2_m486_r133_L1585⟩,
  ⟨(486, 162, 134, 202), special_b2_m486_r134_L1586⟩,
  ⟨(486, 162, 135, 404), special_b2_m486_r135_L1587⟩,
  ⟨(486, 162, 136, 322), special_b2_m486_r136_L1588⟩,
  ⟨(486, 162, 137, 158), special_b2_m486_r137_L1589⟩,
  ⟨(486, 162, 138, 316), special_b2_m486_r138_L1590⟩,
  ⟨(486, 162, 139, 146), special_b2_m486_r139_L1591⟩,
  ⟨(486, 162, 140, 292), special_b2_m486_r140_L1592⟩,
  ⟨(486, 162, 141, 98), special_b2_m486_r141_L1593⟩,
  ⟨(486, 162, 142, 196), special_b2_m486_r142_L1594⟩,
  ⟨(486, 162, 143, 392), special_b2_m486_r143_L1595⟩,
  ⟨(486, 162, 144, 298), special_b2_m486_r144_L1596⟩,
  ⟨(486, 162, 145, 110), special_b2_m486_r145_L1597⟩,
  ⟨(486, 162, 146, 220), special_b2_m486_r146_L1598⟩,
  ⟨(486, 162, 147, 440), special_b2_m486_r147_L1599⟩,
  ⟨(486, 162, 148, 394), special_b2_m486_r148_L1600⟩,
  ⟨(486, 162, 149, 302), special_b2_m486_r149_L1601⟩,
  ⟨(486, 162, 150, 118), special_b2_m486_r150_L1602⟩,
  ⟨(486, 162, 151, 236), special_b2_m486_r151_L1603⟩,
  ⟨(486, 162, 152, 472), special_b2_m486_r152_L1604⟩,
  ⟨(486, 162, 153, 458), special_b2_m486_r153_L1605⟩,
  ⟨(486, 162, 154, 430), special_b2_m486_r154_L1606⟩,
  ⟨(486, 162, 155, 374), special_b2_m486_r155_L1607⟩,
  ⟨(486, 162, 156, 262), special_b2_m486_r156_L1608⟩,
  ⟨(486, 162, 157, 38), special_b2_m486_r157_L1609⟩,
  ⟨(486, 162, 158, 76), special_b2_m486_r158_L1610⟩,
  ⟨(486, 162, 159, 152), special_b2_m486_r159_L1611⟩,
  ⟨(486, 162, 160, 304), special_b2_m486_r160_L1612⟩,
  ⟨(486, 162, 161, 122), special_b2_m486_r161_L1613⟩,
  ⟨(1458, 486, 0, 730), special_b2_m1458_r0_L1617⟩,
  ⟨(1458, 486, 1, 2), special_b2_m1458_r1_L1618⟩,
  ⟨(1458, 486, 2, 4), special_b2_m1458_r2_L1619⟩,
  ⟨(1458, 486, 3, 8), special_b2_m1458_r3_L1620⟩,
  ⟨(1458, 486, 4, 16), special_b2_m1458_r4_L1621⟩,
  ⟨(1458, 486, 5, 32), special_b2_m1458_r5_L1622⟩,
  ⟨(1458, 486, 6, 64), special_b2_m1458_r6_L1623⟩,
  ⟨(1458, 486, 7, 128), special_b2_m1458_r7_L1624⟩,
  ⟨(1458, 486, 8, 256), special_b2_m1458_r8_L1625⟩,
  ⟨(1458, 486, 9, 512), special_b2_m1458_r9_L1626⟩,
  ⟨(1458, 486, 10, 1024), special_b2_m1458_r10_L1627⟩,
  ⟨(1458, 486, 11, 590), special_b2_m1458_r11_L1628⟩,
  ⟨(1458, 486, 12, 1180), special_b2_m1458_r12_L1629⟩,
  ⟨(1458, 486, 13, 902), special_b2_m1458_r13_L1630⟩,
  ⟨(1458, 486, 14, 346), special_b2_m1458_r14_L1631⟩,
  ⟨(1458, 486, 15, 692), special_b2_m1458_r15_L1632⟩,
  ⟨(1458, 486, 16, 1384), special_b2_m1458_r16_L1633⟩,
  ⟨(1458, 486, 17, 1310), special_b2_m1458_r17_L1634⟩,
  ⟨(1458, 486, 18, 1162), special_b2_m1458_r18_L1635⟩,
  ⟨(1458, 486, 19, 866), special_b2_m1458_r19_L1636⟩,
  ⟨(1458, 486, 20, 274), special_b2_m1458_r20_L1637⟩,
  ⟨(1458, 486, 21, 548), special_b2_m1458_r21_L1638⟩,
  ⟨(1458, 486, 22, 1096), special_b2_m1458_r22_L1639⟩,
  ⟨(1458, 486, 23, 734), special_b2_m1458_r23_L1640⟩,
  ⟨(1458, 486, 24, 10), special_b2_m1458_r24_L1641⟩,
  ⟨(1458, 486, 25, 20), special_b2_m1458_r25_L1642⟩,
  ⟨(1458, 486, 26, 40), special_b2_m1458_r26_L1643⟩,
  ⟨(1458, 486, 27, 80), special_b2_m1458_r27_L1644⟩,
  ⟨(1458, 486, 28, 160), special_b2_m1458_r28_L1645⟩,
  ⟨(1458, 486, 29, 320), special_b2_m1458_r29_L1646⟩,
  ⟨(1458, 486, 30, 640), special_b2_m1458_r30_L1647⟩,
  ⟨(1458, 486, 31, 1280), special_b2_m1458_r31_L1648⟩,
  ⟨(1458, 486, 32, 1102), special_b2_m1458_r32_L1649⟩,
  ⟨(1458, 486, 33, 746), special_b2_m1458_r33_L1650⟩,
  ⟨(1458, 486, 34, 34), special_b2_m1458_r34_L1651⟩,
  ⟨(1458, 486, 35, 68), special_b2_m1458_r35_L1652⟩,
  ⟨(1458, 486, 36, 136), special_b2_m1458_r36_L1653⟩,
  ⟨(1458, 486, 37, 272), special_b2_m1458_r37_L1654⟩,
  ⟨(1458, 486, 38, 544), special_b2_m1458_r38_L1655⟩,
  ⟨(1458, 486, 39, 1088), special_b2_m1458_r39_L1656⟩,
  ⟨(1458, 486, 40, 718), special_b2_m1458_r40_L1657⟩,
  ⟨(1458, 486, 41, 1436), special_b2_m1458_r41_L1658⟩,
  ⟨(1458, 486, 42, 1414), special_b2_m1458_r42_L1659⟩,
  ⟨(1458, 486, 43, 1370), special_b2_m1458_r43_L1660⟩,
  ⟨(1458, 486, 44, 1282), special_b2_m1458_r44_L1661⟩,
  ⟨(1458, 486, 45, 1106), special_b2_m1458_r45_L1662⟩,
  ⟨(1458, 486, 46, 754), special_b2_m1458_r46_L1663⟩,
  ⟨(1458, 486, 47, 50), special_b2_m1458_r47_L1664⟩,
  ⟨(1458, 486, 48, 100), special_b2_m1458_r48_L1665⟩,
  ⟨(1458, 486, 49, 200), special_b2_m1458_r49_L1666⟩,
  ⟨(1458, 486, 50, 400), special_b2_m1458_r50_L1667⟩,
  ⟨(1458, 486, 51, 800), special_b2_m1458_r51_L1668⟩,
  ⟨(1458, 486, 52, 142), special_b2_m1458_r52_L1669⟩,
  ⟨(1458, 486, 53, 284), special_b2_m1458_r53_L1670⟩,
  ⟨(1458, 486, 54, 568), special_b2_m1458_r54_L1671⟩,
  ⟨(1458, 486, 55, 1136), special_b2_m1458_r55_L1672⟩,
  ⟨(1458, 486, 56, 814), special_b2_m1458_r56_L1673⟩,
  ⟨(1458, 486, 57, 170), special_b2_m1458_r57_L1674⟩,
  ⟨(1458, 486, 58, 340), special_b2_m1458_r58_L1675⟩,
  ⟨(1458, 486, 59, 680), special_b2_m1458_r59_L1676⟩,
  ⟨(1458, 486, 60, 1360), special_b2_m1458_r60_L1677⟩,
  ⟨(1458, 486, 61, 1262), special_b2_m1458_r61_L1678⟩,
  ⟨(1458, 486, 62, 1066), special_b2_m1458_r62_L1679⟩,
  ⟨(1458, 486, 63, 674), special_b2_m1458_r63_L1680⟩,
  ⟨(1458, 486, 64, 1348), special_b2_m1458_r64_L1681⟩,
  ⟨(1458, 486, 65, 1238), special_b2_m1458_r65_L1682⟩,
  ⟨(1458, 486, 66, 1018), special_b2_m1458_r66_L1683⟩,
  ⟨(1458, 486, 67, 578), special_b2_m1458_r67_L1684⟩,
  ⟨(1458, 486, 68, 1156), special_b2_m1458_r68_L1685⟩,
  ⟨(1458, 486, 69, 854), special_b2_m1458_r69_L1686⟩,
  ⟨(1458, 486, 70, 250), special_b2_m1458_r70_L1687⟩,
  ⟨(1458, 486, 71, 500), special_b2_m1458_r71_L1688⟩,
  ⟨(1458, 486, 72, 1000), special_b2_m1458_r72_L1689⟩,
  ⟨(1458, 486, 73, 542), special_b2_m1458_r73_L1690⟩,
  ⟨(1458, 486, 74, 1084), special_b2_m1458_r74_L1691⟩,
  ⟨(1458, 486, 75, 710), special_b2_m1458_r75_L1692⟩,
  ⟨(1458, 486, 76, 1420), special_b2_m1458_r76_L1693⟩,
  ⟨(1458, 486, 77, 1382), special_b2_m1458_r77_L1694⟩,
  ⟨(1458, 486, 78, 1306), special_b2_m1458_r78_L1695⟩,
  ⟨(1458, 486, 79, 1154), special_b2_m1458_r79_L1696⟩,
  ⟨(1458, 486, 80, 850), special_b2_m1458_r80_L1697⟩,
  ⟨(1458, 486, 81, 242), special_b2_m1458_r81_L1698⟩,
  ⟨(1458, 486, 82, 484), special_b2_m1458_r82_L1699⟩,
  ⟨(1458, 486, 83, 968), special_b2_m1458_r83_L1700⟩,
  ⟨(1458, 486, 84, 478), special_b2_m1458_r84_L1701⟩,
  ⟨(1458, 486, 85, 956), special_b2_m1458_r85_L1702⟩,
  ⟨(1458, 486, 86, 454), special_b2_m1458_r86_L1703⟩,
  ⟨(1458, 486, 87, 908), special_b2_m1458_r87_L1704⟩,
  ⟨(1458, 486, 88, 358), special_b2_m1458_r88_L1705⟩,
  ⟨(1458, 486, 89, 716), special_b2_m1458_r89_L1706⟩,
  ⟨(1458, 486, 90, 1432), special_b2_m1458_r90_L1707⟩,
  ⟨(1458, 486, 91, 1406), special_b2_m1458_r91_L1708⟩,
  ⟨(1458, 486, 92, 1354), special_b2_m1458_r92_L1709⟩,
  ⟨(1458, 486, 93, 1250), special_b2_m1458_r93_L1710⟩,
  ⟨(1458, 486, 94, 1042), special_b2_m1458_r94_L1711⟩,
  ⟨(1458, 486, 95, 626), special_b2_m1458_r95_L1712⟩,
  ⟨(1458, 486, 96, 1252), special_b2_m1458_r96_L1713⟩,
  ⟨(1458, 486, 97, 1046), special_b2_m1458_r97_L1714⟩,
  ⟨(1458, 486, 98, 634), special_b2_m1458_r98_L1715⟩,
  ⟨(1458, 486, 99, 1268), special_b2_m1458_r99_L1716⟩,
  ⟨(1458, 486, 100, 1078), special_b2_m1458_r100_L1717⟩,
  ⟨(1458, 486, 101, 698), special_b2_m1458_r101_L1718⟩,
  ⟨(1458, 486, 102, 1396), special_b2_m1458_r102_L1719⟩,
  ⟨(1458, 486, 103, 1334), special_b2_m1458_r103_L1720⟩,
  ⟨(1458, 486, 104, 1210), special_b2_m1458_r104_L1721⟩,
  ⟨(1458, 486, 105, 962), special_b2_m1458_r105_L1722⟩,
  ⟨(1458, 486, 106, 466), special_b2_m1458_r106_L1723⟩,
  ⟨(1458, 486, 107, 932), special_b2_m1458_r107_L1724⟩,
  ⟨(1458, 486, 108, 406), special_b2_m1458_r108_L1725⟩,
  ⟨(1458, 486, 109, 812), special_b2_m1458_r109_L1726⟩,
  ⟨(1458, 486, 110, 166), special_b2_m1458_r110_L1727⟩,
  ⟨(1458, 486, 111, 332), special_b2_m1458_r111_L1728⟩,
  ⟨(1458, 486, 112, 664), special_b2_m1458_r112_L1729⟩,
  ⟨(1458, 486, 113, 1328), special_b2_m1458_r113_L1730⟩,
  ⟨(1458, 486, 114, 1198), special_b2_m1458_r114_L1731⟩,
  ⟨(1458, 486, 115, 938), special_b2_m1458_r115_L1732⟩,
  ⟨(1458, 486, 116, 418), special_b2_m1458_r116_L1733⟩,
  ⟨(1458, 486, 117, 836), special_b2_m1458_r117_L1734⟩,
  ⟨(1458, 486, 118, 214), special_b2_m1458_r118_L1735⟩,
  ⟨(1458, 486, 119, 428), special_b2_m1458_r119_L1736⟩,
  ⟨(1458, 486, 120, 856), special_b2_m1458_r120_L1737⟩,
  ⟨(1458, 486, 121, 254), special_b2_m1458_r121_L1738⟩,
  ⟨(1458, 486, 122, 508), special_b2_m1458_r122_L1739⟩,
  ⟨(1458, 486, 123, 1016), special_b2_m1458_r123_L1740⟩,
  ⟨(1458, 486, 124, 574), special_b2_m1458_r124_L1741⟩,
  ⟨(1458, 486, 125, 1148), special_b2_m1458_r125_L1742⟩,
  ⟨(1458, 486, 126, 838), special_b2_m1458_r126_L1743⟩,
  ⟨(1458, 486, 127, 218), special_b2_m1458_r127_L1744⟩,
  ⟨(1458, 486, 128, 436), special_b2_m1458_r128_L1745⟩,
  ⟨(1458, 486, 129, 872), special_b2_m1458_r129_L1746⟩,
  ⟨(1458, 486, 130, 286), special_b2_m1458_r130_L1747⟩,
  ⟨(1458, 486, 131, 572), special_b2_m1458_r131_L1748⟩,
  ⟨(1458, 486, 132, 1144), special_b2_m1458_r132_L1749⟩,
  ⟨(1458, 486, 133, 830), special_b2_m1458_r133_L1750⟩,
  ⟨(1458, 486, 134, 202), special_b2_m1458_r134_L1751⟩,
  ⟨(1458, 486, 135, 404), special_b2_m1458_r135_L1752⟩,
  ⟨(1458, 486, 136, 808), special_b2_m1458_r136_L1753⟩,
  ⟨(1458, 486, 137, 158), special_b2_m1458_r137_L1754⟩,
  ⟨(1458, 486, 138, 316), special_b2_m1458_r138_L1755⟩,
  ⟨(1458, 486, 139, 632), special_b2_m1458_r139_L1756⟩,
  ⟨(1458, 486, 140, 1264), special_b2_m1458_r140_L1757⟩,
  ⟨(1458, 486, 141, 1070), special_b2_m1458_r141_L1758⟩,
  ⟨(1458, 486, 142, 682), special_b2_m1458_r142_L1759⟩,
  ⟨(1458, 486, 143, 1364), special_b2_m1458_r143_L1760⟩,
  ⟨(1458, 486, 144, 1270), special_b2_m1458_r144_L1761⟩,
  ⟨(1458, 486, 145, 1082), special_b2_m1458_r145_L1762⟩,
  ⟨(1458, 486, 146, 706), special_b2_m1458_r146_L1763⟩,
  ⟨(1458, 486, 147, 1412), special_b2_m1458_r147_L1764⟩,
  ⟨(1458, 486, 148, 1366), special_b2_m1458_r148_L1765⟩,
  ⟨(1458, 486, 149, 1274), special_b2_m1458_r149_L1766⟩,
  ⟨(1458, 486, 150, 1090), special_b2_m1458_r150_L1767⟩,
  ⟨(1458, 486, 151, 722), special_b2_m1458_r151_L1768⟩,
  ⟨(1458, 486, 152, 1444), special_b2_m1458_r152_L1769⟩,
  ⟨(1458, 486, 153, 1430), special_b2_m1458_r153_L1770⟩,
  ⟨(1458, 486, 154, 1402), special_b2_m1458_r154_L1771⟩,
  ⟨(1458, 486, 155, 1346), special_b2_m1458_r155_L1772⟩,
  ⟨(1458, 486, 156, 1234), special_b2_m1458_r156_L1773⟩,
  ⟨(1458, 486, 157, 1010), special_b2_m1458_r157_L1774⟩,
  ⟨(1458, 486, 158, 562), special_b2_m1458_r158_L1775⟩,
  ⟨(1458, 486, 159, 1124), special_b2_m1458_r159_L1776⟩,
  ⟨(1458, 486, 160, 790), special_b2_m1458_r160_L1777⟩,
  ⟨(1458, 486, 161, 122), special_b2_m1458_r161_L1778⟩,
  ⟨(1458, 486, 162, 244), special_b2_m1458_r162_L1779⟩,
  ⟨(1458, 486, 163, 488), special_b2_m1458_r163_L1780⟩,
  ⟨(1458, 486, 164, 976), special_b2_m1458_r164_L1781⟩,
  ⟨(1458, 486, 165, 494), special_b2_m1458_r165_L1782⟩,
  ⟨(1458, 486, 166, 988), special_b2_m1458_r166_L1783⟩,
  ⟨(1458, 486, 167, 518), special_b2_m1458_r167_L1784⟩,
  ⟨(1458, 486, 168, 1036), special_b2_m1458_r168_L1785⟩,
  ⟨(1458, 486, 169, 614), special_b2_m1458_r169_L1786⟩,
  ⟨(1458, 486, 170, 1228), special_b2_m1458_r170_L1787⟩,
  ⟨(1458, 486, 171, 998), special_b2_m1458_r171_L1788⟩,
  ⟨(1458, 486, 172, 538), special_b2_m1458_r172_L1789⟩,
  ⟨(1458, 486, 173, 1076), special_b2_m1458_r173_L1790⟩,
  ⟨(1458, 486, 174, 694), special_b2_m1458_r174_L1791⟩,
  ⟨(1458, 486, 175, 1388), special_b2_m1458_r175_L1792⟩,
  ⟨(1458, 486, 176, 1318), special_b2_m1458_r176_L1793⟩,
  ⟨(1458, 486, 177, 1178), special_b2_m1458_r177_L1794⟩,
  ⟨(1458, 486, 178, 898), special_b2_m1458_r178_L1795⟩,
  ⟨(1458, 486, 179, 338), special_b2_m1458_r179_L1796⟩,
  ⟨(1458, 486, 180, 676), special_b2_m1458_r180_L1797⟩,
  ⟨(1458, 486, 181, 1352), special_b2_m1458_r181_L1798⟩,
  ⟨(1458, 486, 182, 1246), special_b2_m1458_r182_L1799⟩,
  ⟨(1458, 486, 183, 1034), special_b2_m1458_r183_L1800⟩,
  ⟨(1458, 486, 184, 610), special_b2_m1458_r184_L1801⟩,
  ⟨(1458, 486, 185, 1220), special_b2_m1458_r185_L1802⟩,
  ⟨(1458, 486, 186, 982), special_b2_m1458_r186_L1803⟩,
  ⟨(1458, 486, 187, 506), special_b2_m1458_r187_L1804⟩,
  ⟨(1458, 486, 188, 1012), special_b2_m1458_r188_L1805⟩,
  ⟨(1458, 486, 189, 566), special_b2_m1458_r189_L1806⟩,
  ⟨(1458, 486, 190, 1132), special_b2_m1458_r190_L1807⟩,
  ⟨(1458, 486, 191, 806), special_b2_m1458_r191_L1808⟩,
  ⟨(1458, 486, 192, 154), special_b2_m1458_r192_L1809⟩,
  ⟨(1458, 486, 193, 308), special_b2_m1458_r193_L1810⟩,
  ⟨(1458, 486, 194, 616), special_b2_m1458_r194_L1811⟩,
  ⟨(1458, 486, 195, 1232), special_b2_m1458_r195_L1812⟩,
  ⟨(1458, 486, 196, 1006), special_b2_m1458_r196_L1813⟩,
  ⟨(1458, 486, 197, 554), special_b2_m1458_r197_L1814⟩,
  ⟨(1458, 486, 198, 1108), special_b2_m1458_r198_L1815⟩,
  ⟨(1458, 486, 199, 758), special_b2_m1458_r199_L1816⟩,
  ⟨(1458, 486, 200, 58), special_b2_m1458_r200_L1817⟩,
  ⟨(1458, 486, 201, 116), special_b2_m1458_r201_L1818⟩,
  ⟨(1458, 486, 202, 232), special_b2_m1458_r202_L1819⟩,
  ⟨(1458, 486, 203, 464), special_b2_m1458_r203_L1820⟩,
  ⟨(1458, 486, 204, 928), special_b2_m1458_r204_L1821⟩,
  ⟨(1458, 486, 205, 398), special_b2_m1458_r205_L1822⟩,
  ⟨(1458, 486, 206, 796), special_b2_m1458_r206_L1823⟩,
  ⟨(1458, 486, 207, 134), special_b2_m1458_r207_L1824⟩,
  ⟨(1458, 486, 208, 268), special_b2_m1458_r208_L1825⟩,
  ⟨(1458, 486, 209, 536), special_b2_m1458_r209_L1826⟩,
  ⟨(1458, 486, 210, 1072), special_b2_m1458_r210_L1827⟩,
  ⟨(1458, 486, 211, 686), special_b2_m1458_r211_L1828⟩,
  ⟨(1458, 486, 212, 1372), special_b2_m1458_r212_L1829⟩,
  ⟨(1458, 486, 213, 1286), special_b2_m1458_r213_L1830⟩,
  ⟨(1458, 486, 214, 1114), special_b2_m1458_r214_L1831⟩,
  ⟨(1458, 486, 215, 770), special_b2_m1458_r215_L1832⟩,
  ⟨(1458, 486, 216, 82), special_b2_m1458_r216_L1833⟩,
  ⟨(1458, 486, 217, 164), special_b2_m1458_r217_L1834⟩,
  ⟨(1458, 486, 218, 328), special_b2_m1458_r218_L1835⟩,
  ⟨(1458, 486, 219, 656), special_b2_m1458_r219_L1836⟩,
  ⟨(1458, 486, 220, 1312), special_b2_m1458_r220_L1837⟩,
  ⟨(1458, 486, 221, 1166), special_b2_m1458_r221_L1838⟩,
  ⟨(1458, 486, 222, 874), special_b2_m1458_r222_L1839⟩,
  ⟨(1458, 486, 223, 290), special_b2_m1458_r223_L1840⟩,
  ⟨(1458, 486, 224, 580), special_b2_m1458_r224_L1841⟩,
  ⟨(1458, 486, 225, 1160), special_b2_m1458_r225_L1842⟩,
  ⟨(1458, 486, 226, 862), special_b2_m1458_r226_L1843⟩,
  ⟨(1458, 486, 227, 266), special_b2_m1458_r227_L1844⟩,
  ⟨(1458, 486, 228, 532), special_b2_m1458_r228_L1845⟩,
  ⟨(1458, 486, 229, 1064), special_b2_m1458_r229_L1846⟩,
  ⟨(1458, 486, 230, 670), special_b2_m1458_r230_L1847⟩,
  ⟨(1458, 486, 231, 1340), special_b2_m1458_r231_L1848⟩,
  ⟨(1458, 486, 232, 1222), special_b2_m1458_r232_L1849⟩,
  ⟨(1458, 486, 233, 986), special_b2_m1458_r233_L1850⟩,
  ⟨(1458, 486, 234, 514), special_b2_m1458_r234_L1851⟩,
  ⟨(1458, 486, 235, 1028), special_b2_m1458_r235_L1852⟩,
  ⟨(1458, 486, 236, 598), special_b2_m1458_r236_L1853⟩,
  ⟨(1458, 486, 237, 1196), special_b2_m1458_r237_L1854⟩,
  ⟨(1458, 486, 238, 934), special_b2_m1458_r238_L1855⟩,
  ⟨(1458, 486, 239, 410), special_b2_m1458_r239_L1856⟩,
  ⟨(1458, 486, 240, 820), special_b2_m1458_r240_L1857⟩,
  ⟨(1458, 486, 241, 182), special_b2_m1458_r241_L1858⟩,
  ⟨(1458, 486, 242, 364), special_b2_m1458_r242_L1859⟩,
  ⟨(1458, 486, 243, 728), special_b2_m1458_r243_L1860⟩,
  ⟨(1458, 486, 244, 1456), special_b2_m1458_r244_L1861⟩,
  ⟨(1458, 486, 245, 1454), special_b2_m1458_r245_L1862⟩,
  ⟨(1458, 486, 246, 1450), special_b2_m1458_r246_L1863⟩,
  ⟨(1458, 486, 247, 1442), special_b2_m1458_r247_L1864⟩,
  ⟨(1458, 486, 248, 1426), special_b2_m1458_r248_L1865⟩,
  ⟨(1458, 486, 249, 1394), special_b2_m1458_r249_L1866⟩,
  ⟨(1458, 486, 250, 1330), special_b2_m1458_r250_L1867⟩,
  ⟨(1458, 486, 251, 1202), special_b2_m1458_r251_L1868⟩,
  ⟨(1458, 486, 252, 946), special_b2_m1458_r252_L1869⟩,
  ⟨(1458, 486, 253, 434), special_b2_m1458_r253_L1870⟩,
  ⟨(1458, 486, 254, 868), special_b2_m1458_r254_L1871⟩,
  ⟨(1458, 486, 255, 278), special_b2_m1458_r255_L1872⟩,
  ⟨(1458, 486, 256, 556), special_b2_m1458_r256_L1873⟩,
  ⟨(1458, 486, 257, 1112), special_b2_m1458_r257_L1874⟩,
  ⟨(1458, 486, 258, 766), special_b2_m1458_r258_L1875⟩,
  ⟨(1458, 486, 259, 74), special_b2_m1458_r259_L1876⟩,
  ⟨(1458, 486, 260, 148), special_b2_m1458_r260_L1877⟩,
  ⟨(1458, 486, 261, 296), special_b2_m1458_r261_L1878⟩,
  ⟨(1458, 486, 262, 592), special_b2_m1458_r262_L1879⟩,
  ⟨(1458, 486, 263, 1184), special_b2_m1458_r263_L1880⟩,
  ⟨(1458, 486, 264, 910), special_b2_m1458_r264_L1881⟩,
  ⟨(1458, 486, 265, 362), special_b2_m1458_r265_L1882⟩,
  ⟨(1458, 486, 266, 724), special_b2_m1458_r266_L1883⟩,
  ⟨(1458, 486, 267, 1448), special_b2_m1458_r267_L1884⟩,
  ⟨(1458, 486, 268, 1438), special_b2_m1458_r268_L1885⟩,
  ⟨(1458, 486, 269, 1418), special_b2_m1458_r269_L1886⟩,
  ⟨(1458, 486, 270, 1378), special_b2_m1458_r270_L1887⟩,
  ⟨(1458, 486, 271, 1298), special_b2_m1458_r271_L1888⟩,
  ⟨(1458, 486, 272, 1138), special_b2_m1458_r272_L1889⟩,
  ⟨(1458, 486, 273, 818), special_b2_m1458_r273_L1890⟩,
  ⟨(1458, 486, 274, 178), special_b2_m1458_r274_L1891⟩,
  ⟨(1458, 486, 275, 356), special_b2_m1458_r275_L1892⟩,
  ⟨(1458, 486, 276, 712), special_b2_m1458_r276_L1893⟩,
  ⟨(1458, 486, 277, 1424), special_b2_m1458_r277_L1894⟩,
  ⟨(1458, 486, 278, 1390), special_b2_m1458_r278_L1895⟩,
  ⟨(1458, 486, 279, 1322), special_b2_m1458_r279_L1896⟩,
  ⟨(1458, 486, 280, 1186), special_b2_m1458_r280_L1897⟩,
  ⟨(1458, 486, 281, 914), special_b2_m1458_r281_L1898⟩,
  ⟨(1458, 486, 282, 370), special_b2_m1458_r282_L1899⟩,
  ⟨(1458, 486, 283, 740), special_b2_m1458_r283_L1900⟩,
  ⟨(1458, 486, 284, 22), special_b2_m1458_r284_L1901⟩,
  ⟨(1458, 486, 285, 44), special_b2_m1458_r285_L1902⟩,
  ⟨(1458, 486, 286, 88), special_b2_m1458_r286_L1903⟩,
  ⟨(1458, 486, 287, 176), special_b2_m1458_r287_L1904⟩,
  ⟨(1458, 486, 288, 352), special_b2_m1458_r288_L1905⟩,
  ⟨(1458, 486, 289, 704), special_b2_m1458_r289_L1906⟩,
  ⟨(1458, 486, 290, 1408), special_b2_m1458_r290_L1907⟩,
  ⟨(1458, 486, 291, 1358), special_b2_m1458_r291_L1908⟩,
  ⟨(1458, 486, 292, 1258), special_b2_m1458_r292_L1909⟩,
  ⟨(1458, 486, 293, 1058), special_b2_m1458_r293_L1910⟩,
  ⟨(1458, 486, 294, 658), special_b2_m1458_r294_L1911⟩,
  ⟨(1458, 486, 295, 1316), special_b2_m1458_r295_L1912⟩,
  ⟨(1458, 486, 296, 1174), special_b2_m1458_r296_L1913⟩,
  ⟨(1458, 486, 297, 890), special_b2_m1458_r297_L1914⟩,
  ⟨(1458, 486, 298, 322), special_b2_m1458_r298_L1915⟩,
  ⟨(1458, 486, 299, 644), special_b2_m1458_r299_L1916⟩,
  ⟨(1458, 486, 300, 1288), special_b2_m1458_r300_L1917⟩,
  ⟨(1458, 486, 301, 1118), special_b2_m1458_r301_L1918⟩,
  ⟨(1458, 486, 302, 778), special_b2_m1458_r302_L1919⟩,
  ⟨(1458, 486, 303, 98), special_b2_m1458_r303_L1920⟩,
  ⟨(1458, 486, 304, 196), special_b2_m1458_r304_L1921⟩,
  ⟨(1458, 486, 305, 392), special_b2_m1458_r305_L1922⟩,
  ⟨(1458, 486, 306, 784), special_b2_m1458_r306_L1923⟩,
  ⟨(1458, 486, 307, 110), special_b2_m1458_r307_L1924⟩,
  ⟨(1458, 486, 308, 220), special_b2_m1458_r308_L1925⟩,
  ⟨(1458, 486, 309, 440), special_b2_m1458_r309_L1926⟩,
  ⟨(1458, 486, 310, 880), special_b2_m1458_r310_L1927⟩,
  ⟨(1458, 486, 311, 302), special_b2_m1458_r311_L1928⟩,
  ⟨(1458, 486, 312, 604), special_b2_m1458_r312_L1929⟩,
  ⟨(1458, 486, 313, 1208), special_b2_m1458_r313_L1930⟩,
  ⟨(1458, 486, 314, 958), special_b2_m1458_r314_L1931⟩,
  ⟨(1458, 486, 315, 458), special_b2_m1458_r315_L1932⟩,
  ⟨(1458, 486, 316, 916), special_b2_m1458_r316_L1933⟩,
  ⟨(1458, 486, 317, 374), special_b2_m1458_r317_L1934⟩,
  ⟨(1458, 486, 318, 748), special_b2_m1458_r318_L1935⟩,
  ⟨(1458, 486, 319, 38), special_b2_m1458_r319_L1936⟩,
  ⟨(1458, 486, 320, 76), special_b2_m1458_r320_L1937⟩,
  ⟨(1458, 486, 321, 152), special_b2_m1458_r321_L1938⟩,
  ⟨(1458, 486, 322, 304), special_b2_m1458_r322_L1939⟩,
  ⟨(1458, 486, 323, 608), special_b2_m1458_r323_L1940⟩,
  ⟨(1458, 486, 324, 1216), special_b2_m1458_r324_L1941⟩,
  ⟨(1458, 486, 325, 974), special_b2_m1458_r325_L1942⟩,
  ⟨(1458, 486, 326, 490), special_b2_m1458_r326_L1943⟩,
  ⟨(1458, 486, 327, 980), special_b2_m1458_r327_L1944⟩,
  ⟨(1458, 486, 328, 502), special_b2_m1458_r328_L1945⟩,
  ⟨(1458, 486, 329, 1004), special_b2_m1458_r329_L1946⟩,
  ⟨(1458, 486, 330, 550), special_b2_m1458_r330_L1947⟩,
  ⟨(1458, 486, 331, 1100), special_b2_m1458_r331_L1948⟩,
  ⟨(1458, 486, 332, 742), special_b2_m1458_r332_L1949⟩,
  ⟨(1458, 486, 333, 26), special_b2_m1458_r333_L1950⟩,
  ⟨(1458, 486, 334, 52), special_b2_m1458_r334_L1951⟩,
  ⟨(1458, 486, 335, 104), special_b2_m1458_r335_L1952⟩,
  ⟨(1458, 486, 336, 208), special_b2_m1458_r336_L1953⟩,
  ⟨(1458, 486, 337, 416), special_b2_m1458_r337_L1954⟩,
  ⟨(1458, 486, 338, 832), special_b2_m1458_r338_L1955⟩,
  ⟨(1458, 486, 339, 206), special_b2_m1458_r339_L1956⟩,
  ⟨(1458, 486, 340, 412), special_b2_m1458_r340_L1957⟩,
  ⟨(1458, 486, 341, 824), special_b2_m1458_r341_L1958⟩,
  ⟨(1458, 486, 342, 190), special_b2_m1458_r342_L1959⟩,
  ⟨(1458, 486, 343, 380), special_b2_m1458_r343_L1960⟩,
  ⟨(1458, 486, 344, 760), special_b2_m1458_r344_L1961⟩,
  ⟨(1458, 486, 345, 62), special_b2_m1458_r345_L1962⟩,
  ⟨(1458, 486, 346, 124), special_b2_m1458_r346_L1963⟩,
  ⟨(1458, 486, 347, 248), special_b2_m1458_r347_L1964⟩,
  ⟨(1458, 486, 348, 496), special_b2_m1458_r348_L1965⟩,
  ⟨(1458, 486, 349, 992), special_b2_m1458_r349_L1966⟩,
  ⟨(1458, 486, 350, 526), special_b2_m1458_r350_L1967⟩,
  ⟨(1458, 486, 351, 1052), special_b2_m1458_r351_L1968⟩,
  ⟨(1458, 486, 352, 646), special_b2_m1458_r352_L1969⟩,
  ⟨(1458, 486, 353, 1292), special_b2_m1458_r353_L1970⟩,
  ⟨(1458, 486, 354, 1126), special_b2_m1458_r354_L1971⟩,
  ⟨(1458, 486, 355, 794), special_b2_m1458_r355_L1972⟩,
  ⟨(1458, 486, 356, 130), special_b2_m1458_r356_L1973⟩,
  ⟨(1458, 486, 357, 260), special_b2_m1458_r357_L1974⟩,
  ⟨(1458, 486, 358, 520), special_b2_m1458_r358_L1975⟩,
  ⟨(1458, 486, 359, 1040), special_b2_m1458_r359_L1976⟩,
  ⟨(1458, 486, 360, 622), special_b2_m1458_r360_L1977⟩,
  ⟨(1458, 486, 361, 1244), special_b2_m1458_r361_L1978⟩,
  ⟨(1458, 486, 362, 1030), special_b2_m1458_r362_L1979⟩,
  ⟨(1458, 486, 363, 602), special_b2_m1458_r363_L1980⟩,
  ⟨(1458, 486, 364, 1204), special_b2_m1458_r364_L1981⟩,
  ⟨(1458, 486, 365, 950), special_b2_m1458_r365_L1982⟩,
  ⟨(1458, 486, 366, 442), special_b2_m1458_r366_L1983⟩,
  ⟨(1458, 486, 367, 884), special_b2_m1458_r367_L1984⟩,
  ⟨(1458, 486, 368, 310), special_b2_m1458_r368_L1985⟩,
  ⟨(1458, 486, 369, 620), special_b2_m1458_r369_L1986⟩,
  ⟨(1458, 486, 370, 1240), special_b2_m1458_r370_L1987⟩,
  ⟨(1458, 486, 371, 1022), special_b2_m1458_r371_L1988⟩,
  ⟨(1458, 486, 372, 586), special_b2_m1458_r372_L1989⟩,
  ⟨(1458, 486, 373, 1172), special_b2_m1458_r373_L1990⟩,
  ⟨(1458, 486, 374, 886), special_b2_m1458_r374_L1991⟩,
  ⟨(1458, 486, 375, 314), special_b2_m1458_r375_L1992⟩,
  ⟨(1458, 486, 376, 628), special_b2_m1458_r376_L1993⟩,
  ⟨(1458, 486, 377, 1256), special_b2_m1458_r377_L1994⟩,
  ⟨(1458, 486, 378, 1054), special_b2_m1458_r378_L1995⟩,
  ⟨(1458, 486, 379, 650), special_b2_m1458_r379_L1996⟩,
  ⟨(1458, 486, 380, 1300), special_b2_m1458_r380_L1997⟩,
  ⟨(1458, 486, 381, 1142), special_b2_m1458_r381_L1998⟩,
  ⟨(1458, 486, 382, 826), special_b2_m1458_r382_L1999⟩,
  ⟨(1458, 486, 383, 194), special_b2_m1458_r383_L2000⟩,
  ⟨(1458, 486, 384, 388), special_b2_m1458_r384_L2001⟩,
  ⟨(1458, 486, 385, 776), special_b2_m1458_r385_L2002⟩,
  ⟨(1458, 486, 386, 94), special_b2_m1458_r386_L2003⟩,
  ⟨(1458, 486, 387, 188), special_b2_m1458_r387_L2004⟩,
  ⟨(1458, 486, 388, 376), special_b2_m1458_r388_L2005⟩,
  ⟨(1458, 486, 389, 752), special_b2_m1458_r389_L2006⟩,
  ⟨(1458, 486, 390, 46), special_b2_m1458_r390_L2007⟩,
  ⟨(1458, 486, 391, 92), special_b2_m1458_r391_L2008⟩,
  ⟨(1458, 486, 392, 184), special_b2_m1458_r392_L2009⟩,
  ⟨(1458, 486, 393, 368), special_b2_m1458_r393_L2010⟩,
  ⟨(1458, 486, 394, 736), special_b2_m1458_r394_L2011⟩,
  ⟨(1458, 486, 395, 14), special_b2_m1458_r395_L2012⟩,
  ⟨(1458, 486, 396, 28), special_b2_m1458_r396_L2013⟩,
  ⟨(1458, 486, 397, 56), special_b2_m1458_r397_L2014⟩,
  ⟨(1458, 486, 398, 112), special_b2_m1458_r398_L2015⟩,
  ⟨(1458, 486, 399, 224), special_b2_m1458_r399_L2016⟩,
  ⟨(1458, 486, 400, 448), special_b2_m1458_r400_L2017⟩,
  ⟨(1458, 486, 401, 896), special_b2_m1458_r401_L2018⟩,
  ⟨(1458, 486, 402, 334), special_b2_m1458_r402_L2019⟩,
  ⟨(1458, 486, 403, 668), special_b2_m1458_r403_L2020⟩,
  ⟨(1458, 486, 404, 1336), special_b2_m1458_r404_L2021⟩,
  ⟨(1458, 486, 405, 1214), special_b2_m1458_r405_L2022⟩,
  ⟨(1458, 486, 406, 970), special_b2_m1458_r406_L2023⟩,
  ⟨(1458, 486, 407, 482), special_b2_m1458_r407_L2024⟩,
  ⟨(1458, 486, 408, 964), special_b2_m1458_r408_L2025⟩,
  ⟨(1458, 486, 409, 470), special_b2_m1458_r409_L2026⟩,
  ⟨(1458, 486, 410, 940), special_b2_m1458_r410_L2027⟩,
  ⟨(1458, 486, 411, 422), special_b2_m1458_r411_L2028⟩,
  ⟨(1458, 486, 412, 844), special_b2_m1458_r412_L2029⟩,
  ⟨(1458, 486, 413, 230), special_b2_m1458_r413_L2030⟩,
  ⟨(1458, 486, 414, 460), special_b2_m1458_r414_L2031⟩,
  ⟨(1458, 486, 415, 920), special_b2_m1458_r415_L2032⟩,
  ⟨(1458, 486, 416, 382), special_b2_m1458_r416_L2033⟩,
  ⟨(1458, 486, 417, 764), special_b2_m1458_r417_L2034⟩,
  ⟨(1458, 486, 418, 70), special_b2_m1458_r418_L2035⟩,
  ⟨(1458, 486, 419, 140), special_b2_m1458_r419_L2036⟩,
  ⟨(1458, 486, 420, 280), special_b2_m1458_r420_L2037⟩,
  ⟨(1458, 486, 421, 560), special_b2_m1458_r421_L2038⟩,
  ⟨(1458, 486, 422, 1120), special_b2_m1458_r422_L2039⟩,
  ⟨(1458, 486, 423, 782), special_b2_m1458_r423_L2040⟩,
  ⟨(1458, 486, 424, 106), special_b2_m1458_r424_L2041⟩,
  ⟨(1458, 486, 425, 212), special_b2_m1458_r425_L2042⟩,
  ⟨(1458, 486, 426, 424), special_b2_m1458_r426_L2043⟩,
  ⟨(1458, 486, 427, 848), special_b2_m1458_r427_L2044⟩,
  ⟨(1458, 486, 428, 238), special_b2_m1458_r428_L2045⟩,
  ⟨(1458, 486, 429, 476), special_b2_m1458_r429_L2046⟩,
  ⟨(1458, 486, 430, 952), special_b2_m1458_r430_L2047⟩,
  ⟨(1458, 486, 431, 446), special_b2_m1458_r431_L2048⟩,
  ⟨(1458, 486, 432, 892), special_b2_m1458_r432_L2049⟩,
  ⟨(1458, 486, 433, 326), special_b2_m1458_r433_L2050⟩,
  ⟨(1458, 486, 434, 652), special_b2_m1458_r434_L2051⟩,
  ⟨(1458, 486, 435, 1304), special_b2_m1458_r435_L2052⟩,
  ⟨(1458, 486, 436, 1150), special_b2_m1458_r436_L2053⟩,
  ⟨(1458, 486, 437, 842), special_b2_m1458_r437_L2054⟩,
  ⟨(1458, 486, 438, 226), special_b2_m1458_r438_L2055⟩,
  ⟨(1458, 486, 439, 452), special_b2_m1458_r439_L2056⟩,
  ⟨(1458, 486, 440, 904), special_b2_m1458_r440_L2057⟩,
  ⟨(1458, 486, 441, 350), special_b2_m1458_r441_L2058⟩,
  ⟨(1458, 486, 442, 700), special_b2_m1458_r442_L2059⟩,
  ⟨(1458, 486, 443, 1400), special_b2_m1458_r443_L2060⟩,
  ⟨(1458, 486, 444, 1342), special_b2_m1458_r444_L2061⟩,
  ⟨(1458, 486, 445, 1226), special_b2_m1458_r445_L2062⟩,
  ⟨(1458, 486, 446, 994), special_b2_m1458_r446_L2063⟩,
  ⟨(1458, 486, 447, 530), special_b2_m1458_r447_L2064⟩,
  ⟨(1458, 486, 448, 1060), special_b2_m1458_r448_L2065⟩,
  ⟨(1458, 486, 449, 662), special_b2_m1458_r449_L2066⟩,
  ⟨(1458, 486, 450, 1324), special_b2_m1458_r450_L2067⟩,
  ⟨(1458, 486, 451, 1190), special_b2_m1458_r451_L2068⟩,
  ⟨(1458, 486, 452, 922), special_b2_m1458_r452_L2069⟩,
  ⟨(1458, 486, 453, 386), special_b2_m1458_r453_L2070⟩,
  ⟨(1458, 486, 454, 772), special_b2_m1458_r454_L2071⟩,
  ⟨(1458, 486, 455, 86), special_b2_m1458_r455_L2072⟩,
  ⟨(1458, 486, 456, 172), special_b2_m1458_r456_L2073⟩,
  ⟨(1458, 486, 457, 344), special_b2_m1458_r457_L2074⟩,
  ⟨(1458, 486, 458, 688), special_b2_m1458_r458_L2075⟩,
  ⟨(1458, 486, 459, 1376), special_b2_m1458_r459_L2076⟩,
  ⟨(1458, 486, 460, 1294), special_b2_m1458_r460_L2077⟩,
  ⟨(1458, 486, 461, 1130), special_b2_m1458_r461_L2078⟩,
  ⟨(1458, 486, 462, 802), special_b2_m1458_r462_L2079⟩,
  ⟨(1458, 486, 463, 146), special_b2_m1458_r463_L2080⟩,
  ⟨(1458, 486, 464, 292), special_b2_m1458_r464_L2081⟩,
  ⟨(1458, 486, 465, 584), special_b2_m1458_r465_L2082⟩,
  ⟨(1458, 486, 466, 1168), special_b2_m1458_r466_L2083⟩,
  ⟨(1458, 486, 467, 878), special_b2_m1458_r467_L2084⟩,
  ⟨(1458, 486, 468, 298), special_b2_m1458_r468_L2085⟩,
  ⟨(1458, 486, 469, 596), special_b2_m1458_r469_L2086⟩,
  ⟨(1458, 486, 470, 1192), special_b2_m1458_r470_L2087⟩,
  ⟨(1458, 486, 471, 926), special_b2_m1458_r471_L2088⟩,
  ⟨(1458, 486, 472, 394), special_b2_m1458_r472_L2089⟩,
  ⟨(1458, 486, 473, 788), special_b2_m1458_r473_L2090⟩,
  ⟨(1458, 486, 474, 118), special_b2_m1458_r474_L2091⟩,
  ⟨(1458, 486, 475, 236), special_b2_m1458_r475_L2092⟩,
  ⟨(1458, 486, 476, 472), special_b2_m1458_r476_L2093⟩,
  ⟨(1458, 486, 477, 944), special_b2_m1458_r477_L2094⟩,
  ⟨(1458, 486, 478, 430), special_b2_m1458_r478_L2095⟩,
  ⟨(1458, 486, 479, 860), special_b2_m1458_r479_L2096⟩,
  ⟨(1458, 486, 480, 262), special_b2_m1458_r480_L2097⟩,
  ⟨(1458, 486, 481, 524), special_b2_m1458_r481_L2098⟩,
  ⟨(1458, 486, 482, 1048), special_b2_m1458_r482_L2099⟩,
  ⟨(1458, 486, 483, 638), special_b2_m1458_r483_L2100⟩,
  ⟨(1458, 486, 484, 1276), special_b2_m1458_r484_L2101⟩,
  ⟨(1458, 486, 485, 1094), special_b2_m1458_r485_L2102⟩,
  ⟨(4374, 1458, 267, 4364), special_b2_m4374_r267_L2106⟩,
  ⟨(4374, 1458, 296, 4090), special_b2_m4374_r296_L2107⟩,
  ⟨(4374, 1458, 655, 614), special_b2_m4374_r655_L2108⟩,
  ⟨(4374, 1458, 695, 1994), special_b2_m4374_r695_L2109⟩,
  ⟨(4374, 1458, 696, 3988), special_b2_m4374_r696_L2110⟩,
  ⟨(4374, 1458, 870, 1846), special_b2_m4374_r870_L2111⟩,
  ⟨(4374, 1458, 896, 2398), special_b2_m4374_r896_L2112⟩,
  ⟨(4374, 1458, 919, 326), special_b2_m4374_r919_L2113⟩,
  ⟨(4374, 1458, 989, 2768), special_b2_m4374_r989_L2114⟩,
  ⟨(4374, 1458, 1004, 2560), special_b2_m4374_r1004_L2115⟩,
  ⟨(4374, 1458, 1231, 1532), special_b2_m4374_r1231_L2116⟩,
  ⟨(4374, 1458, 1258, 3004), special_b2_m4374_r1258_L2117⟩,
  ⟨(4374, 1458, 1307, 104), special_b2_m4374_r1307_L2118⟩,
  ⟨(13122, 4374, 296, 12838), special_b2_m13122_r296_L2122⟩,
  ⟨(13122, 4374, 919, 4700), special_b2_m13122_r919_L2123⟩,
  ⟨(13122, 4374, 1231, 5906), special_b2_m13122_r1231_L2124⟩,
  ⟨(13122, 4374, 1258, 11752), special_b2_m13122_r1258_L2125⟩,
  ⟨(13122, 4374, 2354, 6772), special_b2_m13122_r2354_L2126⟩,
  ⟨(13122, 4374, 2447, 2768), special_b2_m13122_r2447_L2127⟩,
  ⟨(13122, 4374, 2462, 2560), special_b2_m13122_r2462_L2128⟩,
  ⟨(13122, 4374, 2765, 104), special_b2_m13122_r2765_L2129⟩,
  ⟨(13122, 4374, 3183, 8738), special_b2_m13122_r3183_L2130⟩,
  ⟨(13122, 4374, 3571, 4988), special_b2_m13122_r3571_L2131⟩,
  ⟨(13122, 4374, 3611, 6368), special_b2_m13122_r3611_L2132⟩,
  ⟨(13122, 4374, 3612, 12736), special_b2_m13122_r3612_L2133⟩,
  ⟨(39366, 13122, 919, 4700), special_b2_m39366_r919_L2137⟩,
  ⟨(39366, 13122, 2447, 2768), special_b2_m39366_r2447_L2138⟩,
  ⟨(39366, 13122, 2765, 26348), special_b2_m39366_r2765_L2139⟩,
  ⟨(39366, 13122, 3571, 4988), special_b2_m39366_r3571_L2140⟩,
  ⟨(39366, 13122, 4670, 39082), special_b2_m39366_r4670_L2141⟩,
  ⟨(39366, 13122, 5632, 11752), special_b2_m39366_r5632_L2142⟩,
  ⟨(39366, 13122, 6836, 28804), special_b2_m39366_r6836_L2143⟩,
  ⟨(39366, 13122, 7986, 25858), special_b2_m39366_r7986_L2144⟩,
  ⟨(39366, 13122, 9979, 32150), special_b2_m39366_r9979_L2145⟩,
  ⟨(39366, 13122, 11102, 19894), special_b2_m39366_r11102_L2146⟩,
  ⟨(39366, 13122, 11931, 8738), special_b2_m39366_r11931_L2147⟩,
  ⟨(118098, 39366, 2447, 2768), special_b2_m118098_r2447_L2151⟩,
  ⟨(118098, 39366, 3571, 44354), special_b2_m118098_r3571_L2152⟩,
  ⟨(118098, 39366, 5632, 11752), special_b2_m118098_r5632_L2153⟩,
  ⟨(118098, 39366, 6836, 68170), special_b2_m118098_r6836_L2154⟩,
  ⟨(118098, 39366, 27163, 44066), special_b2_m118098_r27163_L2155⟩,
  ⟨(118098, 39366, 29009, 26348), special_b2_m118098_r29009_L2156⟩,
  ⟨(118098, 39366, 30914, 39082), special_b2_m118098_r30914_L2157⟩,
  ⟨(118098, 39366, 34230, 25858), special_b2_m118098_r34230_L2158⟩,
  ⟨(118098, 39366, 38175, 48104), special_b2_m118098_r38175_L2159⟩,
  ⟨(118098, 39366, 36223, 110882), special_b2_m118098_r36223_L2160⟩,
  ⟨(354294, 118098, 6836, 68170), special_b2_m354294_r6836_L2164⟩,
  ⟨(354294, 118098, 29009, 144446), special_b2_m354294_r29009_L2165⟩,
  ⟨(354294, 118098, 30914, 157180), special_b2_m354294_r30914_L2166⟩,
  ⟨(354294, 118098, 41813, 238964), special_b2_m354294_r41813_L2167⟩,
  ⟨(354294, 118098, 42937, 162452), special_b2_m354294_r42937_L2168⟩,
  ⟨(354294, 118098, 73596, 143956), special_b2_m354294_r73596_L2169⟩,
  ⟨(354294, 118098, 75589, 110882), special_b2_m354294_r75589_L2170⟩,
  ⟨(354294, 118098, 84364, 247948), special_b2_m354294_r84364_L2171⟩,
  ⟨(354294, 118098, 105895, 162164), special_b2_m354294_r105895_L2172⟩,
  ⟨(1062882, 354294, 29009, 498740), special_b2_m1062882_r29009_L2176⟩,
  ⟨(1062882, 354294, 84364, 956536), special_b2_m1062882_r84364_L2177⟩,
  ⟨(1062882, 354294, 149012, 511474), special_b2_m1062882_r149012_L2178⟩,
  ⟨(1062882, 354294, 223993, 516458), special_b2_m1062882_r223993_L2179⟩,
  ⟨(1062882, 354294, 243032, 422464), special_b2_m1062882_r243032_L2180⟩,
  ⟨(1062882, 354294, 278009, 238964), special_b2_m1062882_r278009_L2181⟩,
  ⟨(1062882, 354294, 309792, 143956), special_b2_m1062882_r309792_L2182⟩,
  ⟨(1062882, 354294, 311785, 110882), special_b2_m1062882_r311785_L2183⟩,
  ⟨(3188646, 1062882, 223993, 516458), special_b2_m3188646_r223993_L2187⟩,
  ⟨(3188646, 1062882, 309792, 2269720), special_b2_m3188646_r309792_L2188⟩,
  ⟨(3188646, 1062882, 597326, 422464), special_b2_m3188646_r597326_L2189⟩,
  ⟨(3188646, 1062882, 632303, 2364728), special_b2_m3188646_r632303_L2190⟩,
  ⟨(3188646, 1062882, 737597, 1561622), special_b2_m3188646_r737597_L2191⟩,
  ⟨(3188646, 1062882, 792952, 2019418), special_b2_m3188646_r792952_L2192⟩,
  ⟨(3188646, 1062882, 857600, 511474), special_b2_m3188646_r857600_L2193⟩,
  ⟨(9565938, 3188646, 223993, 516458), special_b2_m9565938_r223993_L2197⟩,
  ⟨(9565938, 3188646, 737597, 4750268), special_b2_m9565938_r737597_L2198⟩,
  ⟨(9565938, 3188646, 857600, 3700120), special_b2_m9565938_r857600_L2199⟩,
  ⟨(9565938, 3188646, 1660208, 422464), special_b2_m9565938_r1660208_L2200⟩,
  ⟨(9565938, 3188646, 1855834, 5208064), special_b2_m9565938_r1855834_L2201⟩,
  ⟨(9565938, 3188646, 2435556, 5458366), special_b2_m9565938_r2435556_L2202⟩,
  ⟨(9565938, 3188646, 2758067, 8742020), special_b2_m9565938_r2758067_L2203⟩,
  ⟨(28697814, 9565938, 857600, 3700120), special_b2_m28697814_r857600_L2207⟩,
  ⟨(28697814, 9565938, 1660208, 9988402), special_b2_m28697814_r1660208_L2208⟩,
  ⟨(28697814, 9565938, 2758067, 8742020), special_b2_m28697814_r2758067_L2209⟩,
  ⟨(28697814, 9565938, 7114889, 23882144), special_b2_m28697814_r7114889_L2210⟩,
  ⟨(28697814, 9565938, 8233126, 5208064), special_b2_m28697814_r8233126_L2211⟩,
  ⟨(28697814, 9565938, 8812848, 24590242), special_b2_m28697814_r8812848_L2212⟩,
  ⟨(86093442, 28697814, 2758067, 66137648), special_b2_m86093442_r2758067_L2216⟩,
  ⟨(86093442, 28697814, 7114889, 23882144), special_b2_m86093442_r7114889_L2217⟩,
  ⟨(86093442, 28697814, 19989476, 61095748), special_b2_m86093442_r19989476_L2218⟩,
  ⟨(86093442, 28697814, 20792084, 67384030), special_b2_m86093442_r20792084_L2219⟩,
  ⟨(86093442, 28697814, 27944724, 81985870), special_b2_m86093442_r27944724_L2220⟩,
  ⟨(258280326, 86093442, 7114889, 109975586), special_b2_m258280326_r7114889_L2224⟩,
  ⟨(258280326, 86093442, 27944724, 168079312), special_b2_m258280326_r27944724_L2225⟩,
  ⟨(258280326, 86093442, 77385104, 233282632), special_b2_m258280326_r77385104_L2226⟩,
  ⟨(258280326, 86093442, 78187712, 153477472), special_b2_m258280326_r78187712_L2227⟩,
  ⟨(774840978, 258280326, 7114889, 626536238), special_b2_m774840978_r7114889_L2231⟩,
  ⟨(774840978, 258280326, 114038166, 684639964), special_b2_m774840978_r114038166_L2232⟩,
  ⟨(774840978, 258280326, 250374596, 153477472), special_b2_m774840978_r250374596_L2233⟩,
  ⟨(2324522934, 774840978, 265395215, 626536238), special_b2_m2324522934_r265395215_L2237⟩,
  ⟨(2324522934, 774840978, 766935248, 153477472), special_b2_m2324522934_r766935248_L2238⟩,
  ⟨(6973568802, 2324522934, 1541776226, 153477472), special_b2_m6973568802_r1541776226_L2242⟩
]

/-- num.py:1364  `def exp_mod_special_cases(mod: int, base: int, exp: Num) -> int:` -/
theorem specialTables_data :
    BB.NumTablesData.specialFlat = provedEntries.map Subtype.val :=
  by decide +kernel

/-- num.py:1364  `def exp_mod_special_cases(mod: int, base: int, exp: Num) -> int:` -/
theorem specialTables_sound :
    ∀ t, t ∈ BB.NumTablesData.specialFlat → EntryClaim t :=
  by
  intro t ht
  rw [specialTables_data] at ht
  obtain ⟨p, _, rfl⟩ := List.mem_map.mp ht
  exact p.property

/-- num.py:1364  `def exp_mod_special_cases(mod: int, base: int, exp: Num) -> int:` -/
theorem specialTables_per_pos :
    ∀ t, t ∈ BB.NumTablesData.specialTables → 0 < t.2.1 :=
  by decide +kernel

end BB.NumTables
