/-
C17, step clause: the Python compressed-tape step (tm/tape.py `Tape.step`, modelled by
`pyStep`) agrees with the Rust one (src/tape.rs `Tape::step`, modelled by `Tape.step`).

The unconditional statement is FALSE: the two differ on a tape whose block arriving under the
head has count 0 (Rust tests `count > 1`, Python tests `count != 1`).  The exact condition is
`py_step_eq_iff`; `py_step_eq` is the statement for tapes without zero-count blocks, an invariant
of `Tape.step` (`step_noZero`) that holds on the blank tape, hence `py_run_eq` for every step
sequence from the blank tape without any hypothesis.
-/
import BB.Model.Tape
import BB.Model.PyTape
import BB.Model.PyMachine
import BB.Lemmas.Canon
import BB.Lemmas.PyRustEq
import BB.Lemmas.PyRunSim
import BB.Lemmas.PyRunConcrete

namespace BB

/-- the pull span after the sweep (same expression in both implementations) -/
def sweptPull (t : Tape) (shift skip : Bool) : Span :=
  (pySweep (if shift then t.rspan else t.lspan) t.scan skip).2

/-- the block the head lands on, if any -/
def nextPull (t : Tape) (shift skip : Bool) : Option Block :=
  (sweptPull t shift skip).head?

def Span.NoZero (s : Span) : Prop := ∀ b ∈ s, b.count ≠ 0

/-- no zero-count block anywhere on the tape -/
def Tape.NoZero (t : Tape) : Prop := Span.NoZero t.lspan ∧ Span.NoZero t.rspan

/-! ### the step -/

/-- **the exact hypothesis**: the Python and the Rust step agree on `(t, d, c, sk)` if and only if
    the block arriving under the head (if there is one) has a non-zero count.  On a zero-count
    arriving block Python keeps the block (count `0 - 1`), Rust removes it. -/
theorem py_step_eq_iff (t : Tape) (d : Bool) (c : Nat) (sk : Bool) :
    pyStep t d c sk = t.step d c sk ↔ ∀ b, nextPull t d sk = some b → b.count ≠ 0 := by
  cases d <;>
    simp only [pyStep, Tape.step, pull_eq_sweep _ t.scan sk, pyPush_eq _ _ (pyNext_stepped _ _),
      pyNext_scan _ _ t.scan, if_true, Bool.false_eq_true, if_false, Prod.mk.injEq,
      Tape.mk.injEq, and_true, true_and] <;>
    exact pyNext_span_iff _ _ _

/-- **C17 (step clause)**: for every tape without zero-count blocks (canonical or not: adjacent
    equal colours, blank blocks at the far end, any scan colour are all allowed), every shift,
    colour and skip flag, `tm/tape.py Tape.step` = `src/tape.rs Tape::step`. -/
theorem py_step_eq (t : Tape) (d : Bool) (c : Nat) (sk : Bool) (h : t.NoZero) :
    pyStep t d c sk = t.step d c sk :=
  (py_step_eq_iff t d c sk).2 fun b hb => by
    have hm : b ∈ (if d then t.rspan else t.lspan) :=
      pySweep_subset (List.mem_of_mem_head? hb)
    cases d
    · exact h.1 b hm
    · exact h.2 b hm

/-! ### the hypothesis is an invariant of stepping -/

theorem Span.noZero_nil : Span.NoZero [] := fun _ h => nomatch h

/-- `NoZero` is `Pos` (BB/Lemmas/Canon.lean), which `Tape.step` keeps -/
theorem Tape.noZero_iff_pos {t : Tape} : t.NoZero ↔ t.Pos :=
  have span : ∀ s : Span, Span.NoZero s ↔ Span.Pos s := fun _ =>
    forall_congr' fun _ => imp_congr_right fun _ => Nat.pos_iff_ne_zero.symm
  and_congr (span _) (span _)

theorem step_noZero (t : Tape) (d : Bool) (c : Nat) (sk : Bool) (h : t.NoZero) :
    (t.step d c sk).1.NoZero :=
  Tape.noZero_iff_pos.2 (Tape.step_pos (Tape.noZero_iff_pos.1 h) d c sk)

theorem init_noZero (scan : Nat) : (Tape.init scan).NoZero :=
  ⟨Span.noZero_nil, Span.noZero_nil⟩

/-! ### step sequences -/

abbrev StepOp := Bool × Nat × Bool

/-- run a sequence of (shift, colour, skip) through the Rust-model step, collecting the counts -/
def rsRun (t : Tape) : List StepOp → Tape × List Nat
  | [] => (t, [])
  | (d, c, sk) :: ops =>
    let (t', k) := t.step d c sk
    let (t'', ks) := rsRun t' ops
    (t'', k :: ks)

/-- the same through the Python-model step -/
def pyRun (t : Tape) : List StepOp → Tape × List Nat
  | [] => (t, [])
  | (d, c, sk) :: ops =>
    let (t', k) := pyStep t d c sk
    let (t'', ks) := pyRun t' ops
    (t'', k :: ks)

theorem py_run_eq_of_noZero (ops : List StepOp) : ∀ t : Tape, t.NoZero → pyRun t ops = rsRun t ops := by
  induction ops with
  | nil => intro t _; rfl
  | cons o ops ih =>
    intro t h
    obtain ⟨d, c, sk⟩ := o
    simp only [pyRun, rsRun, py_step_eq t d c sk h]
    rw [ih _ (step_noZero t d c sk h)]

/-- every step sequence from a blank tape (any scan colour, any skip flags — consistent with the
    scanned block or not) gives the same tape and the same step counts in both implementations. -/
theorem py_run_eq (scan : Nat) (ops : List StepOp) :
    pyRun (Tape.init scan) ops = rsRun (Tape.init scan) ops :=
  py_run_eq_of_noZero ops _ (init_noZero scan)

/-! ### witnesses -/

/-- the excluded case is real: a zero-count block under the arriving head -/
example : pyStep ⟨0, [], [⟨1, 0⟩]⟩ true 1 false ≠ Tape.step ⟨0, [], [⟨1, 0⟩]⟩ true 1 false := by
  decide

example : (pyStep ⟨0, [], [⟨1, 0⟩]⟩ true 1 false).1 = ⟨1, [⟨1, 1⟩], [⟨1, 0⟩]⟩
    ∧ (Tape.step ⟨0, [], [⟨1, 0⟩]⟩ true 1 false).1 = ⟨1, [⟨1, 1⟩], []⟩ := by
  decide

/-- non-vacuity: a non-canonical tape (adjacent equal colours, far blank block) satisfying the
    hypothesis, on which the step sweeps a block, lands on a single-cell block (the block-reuse
    branch) and pushes a new block -/
example : (⟨2, [⟨1, 3⟩, ⟨1, 2⟩, ⟨0, 4⟩], [⟨2, 5⟩, ⟨3, 1⟩, ⟨3, 1⟩]⟩ : Tape).NoZero := by
  simp [Tape.NoZero, Span.NoZero]

example : pyStep ⟨2, [⟨1, 3⟩, ⟨1, 2⟩, ⟨0, 4⟩], [⟨2, 5⟩, ⟨3, 1⟩, ⟨3, 1⟩]⟩ true 4 true
    = (⟨3, [⟨4, 6⟩, ⟨1, 3⟩, ⟨1, 2⟩, ⟨0, 4⟩], [⟨3, 1⟩]⟩, 6) := by decide

example : pyStep ⟨2, [⟨1, 3⟩], [⟨3, 1⟩, ⟨2, 2⟩]⟩ true 4 false
    = (⟨3, [⟨4, 1⟩, ⟨1, 3⟩], [⟨2, 2⟩]⟩, 1) := by decide

example : pyRun (Tape.init 0) [(true, 1, false), (true, 1, true), (false, 2, false), (false, 0, true)]
    = (⟨0, [], [⟨0, 2⟩, ⟨2, 1⟩]⟩, [1, 1, 1, 2]) := by decide

/-! ## C17, run clause: the Python machine runner against the Rust accelerated runner

`PyM.pyRun` (BB/Model/PyMachine.lean) models tm/machine.py `Machine.run` with the Python `Prover`
and the additive fragment of tm/rules.py; `runProver` (BB/Model/Prover.lean) models
src/machine.rs `run_prover`.  Compared (`PyM.RunAgree`): outcome kind, number of non-blank cells,
number of rule applications, blank-tape record (same states; same recorded step wherever Python's
step counter is still defined, it is -1 after the first rule application).

The unconditional statement

    theorem py_rs_run_eq (p : Prog) (lim : Nat) (r : PyM.PyResult) (r' : MachineResult)
        (h1 : PyM.pyRun p lim = .ok r) (h2 : runProver p lim = .ok r')
        (hl : PyM.rsLimit r' = false) : PyM.RunAgree r r'

is FALSE (`py_rs_run_eq_counterexample`): the two `try_rule`s do not compute the same function.
`py_rs_run_eq_partial` is the statement under the decidable condition `PyM.pyRunAgrees p lim`:
at every cycle of the Python run, `try_rule`, `apply_rule` and `Tape.step` of the two runners,
evaluated on the same prover, state and tape, give corresponding answers.  What the proof shows
beyond that condition: the two main loops (`Machine.run` / `run_prover`) are the same function of
those three answers -- order of the checks, spin-out test, blank-tape bookkeeping, outcome kinds
-- although `Machine.run` drives them by exceptions and keeps `step = -1` after a rule application.
Pieces of `try_rule` whose Python and Rust texts differ but which are proved equal or exactly
characterised: `py_get_rule_eq`, `py_sig_compatible_eq`. -/

/-- **C17 (run clause), counterexample to the unconditional statement**: the 2-state 4-colour
    tree leaf "1RB 0LA 1LA 0RA  2LB 2RB 3RB 0LA" (`PyM.runCex`, `PyM.runCex_parses`) with cycle limit
    821.  Python: `infrul` at cycle 820 (InfiniteRule raised by `make_rule` after skipping a count
    with constant second difference); Rust: `xlimit`, i.e. the Rust run is still going when the
    caller's cycle limit ends it.  Neither run ends in `cfglim` / `mulrul` / `limrul` / overflow and
    no non-integer operation is produced, so `rsLimit` alone does not exclude the pair; the check of
    C17 (vlib/c17.py) classifies it as `python_second_difference` (a count with constant second
    difference is not an additive form: outside the property's "only additive rules") and the other
    confirmed source of divergence, the Rust prover's undeclared 90 000-step delta cap, as
    `rust_delta_cap_90000_unreported`; both are counted in the evidence, neither is compared.  The
    no-divergence condition `pyRunAgrees` is false on this run. -/
theorem py_rs_run_eq_counterexample :
    ∃ (r : PyM.PyResult) (r' : MachineResult),
      PyM.pyRun PyM.runCex 821 = .ok r ∧ runProver PyM.runCex 821 = .ok r'
        ∧ PyM.rsLimit r' = false ∧ ¬ PyM.RunAgree r r'
        ∧ PyM.pyRunAgrees PyM.runCex 821 = false := by
  have h := PyM.runCex_ok
  generalize h1 : PyM.pyRun PyM.runCex 821 = o at h
  generalize h2 : runProver PyM.runCex 821 = o' at h
  cases o with
  | ok r =>
    cases o' with
    | ok r' =>
      simp only [Bool.and_eq_true, beq_iff_eq] at h
      obtain ⟨⟨hk, _⟩, hres⟩ := h
      have hl : PyM.rsLimit r' = false := by simp [PyM.rsLimit, hres]
      have hne : ¬ PyM.RunAgree r r' := fun hag => by
        have := hag.1
        rw [hres, hk] at this
        simp [PyM.rsKind] at this
      -- the runs differ, so by the simulation theorem the no-divergence flag cannot be set
      refine ⟨r, r', rfl, rfl, hl, hne, ?_⟩
      cases ha : PyM.pyRunAgrees PyM.runCex 821 with
      | false => rfl
      | true => exact absurd (PyM.run_agree _ _ r r' h1 ha h2 hl) hne
    | error e => simp at h
  | _ => simp at h

/-- **C17 (run clause), partial**: for every program and cycle limit, if the Python runner's model
    ends inside the additive fragment without a Python limit (`.ok r`), the Rust runner's model
    ends without panic, overflow or one of its limit outcomes (`cfglim`, `mulrul`), and no
    `try_rule` / `apply_rule` / `Tape.step` call of the Python run is answered differently by the
    Rust runner (`pyRunAgrees`), then the two report the same outcome kind, marks, rule
    applications and blank-tape record. -/
theorem py_rs_run_eq_partial (p : Prog) (lim : Nat) (r : PyM.PyResult) (r' : MachineResult)
    (h1 : PyM.pyRun p lim = .ok r) (ha : PyM.pyRunAgrees p lim = true)
    (h2 : runProver p lim = .ok r') (hl : PyM.rsLimit r' = false) : PyM.RunAgree r r' :=
  PyM.run_agree p lim r r' h1 ha h2 hl

/-- the Python `Prover.get_rule` (slice comparison) finds the same rule as the Rust one
    (`starts_with`), for every prover, state, tape and signature -/
theorem py_get_rule_eq (pv : Prover) (state : Nat) (tape : Tape) (sig : Option Signature) :
    PyM.pyGetRule pv state tape sig = pv.getRule state tape sig := by
  unfold PyM.pyGetRule Prover.getRule
  cases rulesGet pv.rules (state, tape.scan) with
  | none => rfl
  | some temp => exact PyM.pyFindRule_eq _ _

/-- the Python `Tape.sig_compatible` is the Rust one AND equality of both span lengths with the
    signature's (Rust: at least as long) -/
theorem py_sig_compatible_eq (t : Tape) (sig : Signature) :
    PyM.pySigCompatible t sig
      = (t.sigCompatible sig && t.lspan.length == sig.lspan.length
          && t.rspan.length == sig.rspan.length) := by
  rw [Bool.eq_iff_iff]
  simp only [PyM.pySigCompatible, Tape.sigCompatible, PyM.pySpanCompatible_eq, Bool.and_eq_true,
    beq_iff_eq, decide_eq_true_eq]
  constructor
  · rintro ⟨⟨⟨⟨a, l⟩, r⟩, _, cl⟩, _, cr⟩
    exact ⟨⟨⟨⟨⟨⟨a, Nat.le_of_eq l.symm⟩, Nat.le_of_eq r.symm⟩, cl⟩, cr⟩, l⟩, r⟩
  · rintro ⟨⟨⟨⟨⟨⟨a, _⟩, _⟩, cl⟩, cr⟩, l⟩, r⟩
    exact ⟨⟨⟨⟨a, l⟩, r⟩, l, cl⟩, r, cr⟩

/-- non-vacuity of `py_rs_run_eq_partial`: "1RB 1LC  1RD 1RB  0RD 0RC  1LD 1LA" (`PyM.runWit`) with
    cycle limit 300 satisfies every hypothesis, on a run with 5073 rule applications -/
example : ∃ (r : PyM.PyResult) (r' : MachineResult),
    PyM.pyRun PyM.runWit 300 = .ok r ∧ PyM.pyRunAgrees PyM.runWit 300 = true
      ∧ runProver PyM.runWit 300 = .ok r' ∧ PyM.rsLimit r' = false ∧ r.rulapp = 5073 := by
  have h := PyM.runWit_ok
  simp only [Bool.and_eq_true] at h
  obtain ⟨ha, h⟩ := h
  generalize h1 : PyM.pyRun PyM.runWit 300 = o at h
  generalize h2 : runProver PyM.runWit 300 = o' at h
  cases o with
  | ok r =>
    cases o' with
    | ok r' =>
      simp only [Bool.and_eq_true, beq_iff_eq] at h
      refine ⟨r, r', rfl, ha, rfl, ?_, h.1.1.1.2⟩
      simp [PyM.rsLimit, h.1.1.2]
    | error e => simp at h
  | _ => simp at h

end BB
