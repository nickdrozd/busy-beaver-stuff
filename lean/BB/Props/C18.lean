/-
C18 — symbolic count algebra agrees with integer arithmetic: the part that is PROVED for all inputs.

`Exp.__mod__` of tm/num.py computes `(base ** exp) % mod` for a power that is never evaluated
(exponents of thousands of digits): literal special cases, reduction of the exponent by the
multiplicative order of the base (`find_period`), for base 3 and a power-of-two modulus by the
known order `2^(n-2)`, then square-and-multiply.  `BB.NumMod.expModInt` (BB/Model/NumMod.lean) is
that function for an integer exponent, branch for branch; it is tied to the real code on every run
by the correspondence check of C18 (`expmod` cases: the real `Exp(base, exp).__mod__(mod)` against
the compiled model, incl. which inputs raise).  The theorems below say that whenever the model
returns a value it is the true residue - for EVERY base, exponent (>= 1) and modulus, not the sampled ones.

(The literal residue tables for symbolic exponents, `exp_mod_special_cases`, are proved one by one
in the generated BB/Generated/NumTables.lean.  The rest of the algebra - simplification of
Add/Mul/Div/Exp trees - is validated per answer, not proved: see DESIGN.md.)

Second part (namespace BB.NumModTree, at the end of this file): the WHOLE `%` operator - `a % m` for
an arbitrary expression tree `a`: `int.__mod__`, `Add.__mod__`, `Mul.__mod__`, `Div.__mod__`,
`Exp.__mod__` with an integer or a symbolic (tree) exponent, `find_period`,
`exp_mod_special_cases` with its literal tables.  `BB.NumModTree.modE` (BB/Model/NumModTree.lean)
is that operator branch for branch; it is tied to the real code on every run by the `nummod`
correspondence of C18 (every `a % m` the harness executes: the real outcome, value or exception,
against the compiled model).  `modE_correct_partial` says that whatever it returns is the residue
of the tree's value - for EVERY tree and modulus, no depth bound.

The property theorems; the lemmas they rest on are in BB/Lemmas/NumMod.lean and
BB/Lemmas/NumModTree.lean.
-/
import BB.Lemmas.NumMod
import BB.Lemmas.NumModTree

namespace BB.NumMod

/-- **expModInt_correct_partial.**  Whatever `Exp.__mod__` returns for an integer exponent `≥ 1` is
    the residue of the power: for all `base`, `mod`, and every `exp ≥ 1`.

    The hypothesis `1 ≤ exp` is forced: the three early returns (`mod == 1`, `mod == base`,
    `mod == 2`) come BEFORE `assert 1 < exp`, and for `exp = 0` two of them are wrong
    (`base ^ 0 % base = 1 % base`, the code returns 0; `base ^ 0 % 2 = 1`, the code returns
    `base % 2`) - see `expModInt_correct_counterexample`.  In the real library the hypothesis costs
    nothing: an `Exp` always has exponent `≥ 2` (smaller ones are folded to integers by the
    constructors), and every other branch sits behind `assert 1 < exp`.

    Original statement (FALSE for `exp = 0`, e.g. base 3, exp 0, mod 3; base 4, exp 0, mod 2):

      theorem expModInt_correct (base exp mod r : Nat) (h : expModInt base exp mod = some r) :
          r = base ^ exp % mod -/
theorem expModInt_correct_partial (base exp mod r : Nat) (he : 1 ≤ exp)
    (h : expModInt base exp mod = some r) : r = base ^ exp % mod :=
  expModInt_residue base exp mod r he h

/-- **expModInt_correct_counterexample.**  The unrestricted statement fails at exponent 0:
    `expModInt 3 0 3 = some 0` but `3 ^ 0 % 3 = 1` (the `mod == base` return), and
    `expModInt 4 0 2 = some 0` but `4 ^ 0 % 2 = 1` (the `mod == 2` return). -/
theorem expModInt_correct_counterexample :
    ¬ (∀ base exp mod r : Nat, expModInt base exp mod = some r → r = base ^ exp % mod) := by
  intro h
  exact absurd (h 3 0 3 0 (by decide)) (by decide)

/-- second witness, through the `mod == 2` return -/
theorem expModInt_correct_counterexample2 :
    expModInt 4 0 2 = some 0 ∧ 0 ≠ 4 ^ 0 % 2 := by decide

/-- **findPeriod_order.**  A positive answer of `find_period` is the multiplicative order of `base`
    modulo `mod`: `base^k ≡ 1`, and no smaller positive power is. -/
theorem findPeriod_order (base mod k : Nat) (h : findPeriod base mod = some k) (hk : 0 < k) :
    base ^ k % mod = 1 ∧ ∀ j, 0 < j → j < k → base ^ j % mod ≠ 1 := by
  rcases findPeriod_eq_some h with ⟨_, h0⟩ | hgo
  · omega
  · exact (findPeriodGo_order base mod k hgo).1 hk

/-- **findPeriod_zero.**  Answer 0 (outside the skipped case base 2, mod = 2 * 3^k) means that no
    positive power of `base` below `mod` is congruent to 1. -/
theorem findPeriod_zero (base mod : Nat) (h : findPeriod base mod = some 0)
    (hs : (base == 2 && isTwoPow3 mod) = false) :
    ∀ j, 0 < j → j < mod → base ^ j % mod ≠ 1 := by
  rcases findPeriod_eq_some h with ⟨hs', _⟩ | hgo
  · rw [hs] at hs'
    exact absurd hs' nofun
  · exact (findPeriodGo_order base mod 0 hgo).2 rfl

/-- **expModInt_defined.**  The function raises only where the Python does by design: it returns a
    value whenever `1 ≤ mod < 2^24`, `mod` does not divide `base`, and `1 < exp` (and also for
    `mod = 1`, `mod = base`, `mod = 2` whatever the rest). -/
theorem expModInt_defined (base exp mod : Nat) (hm : 1 ≤ mod) (hlim : mod < 2 ^ 24)
    (hb : base % mod ≠ 0 ∨ mod = 1 ∨ mod = base ∨ mod = 2) (he : 1 < exp ∨ mod = 1 ∨ mod = base ∨ mod = 2) :
    (expModInt base exp mod).isSome := by
  rw [expModInt_eq]
  unfold guarded
  simp only [beq_iff_eq]
  refine isSome_ite_some fun h1 => isSome_ite_some fun h2 => isSome_ite_some fun h3 => ?_
  rw [if_neg (by omega), if_neg (by omega), if_neg (by omega)]
  exact expModMain_isSome base exp mod hlim

/-- **reduce3_sound.**  The `case 3:` shortcut: for a power-of-two modulus `2^n` (`n ≥ 2`) the
    exponent of 3 may be reduced modulo `2^max(n-2, 1)` (the repaired form of finding F8). -/
theorem reduce3_sound (exp n : Nat) (hn : 2 ≤ n) :
    3 ^ (exp % 2 ^ (max (n - 2) 1)) % 2 ^ n = 3 ^ exp % 2 ^ n :=
  reduce3_two_pow exp n hn

/-! ### Non-vacuity (concrete values; `decide`) -/

example : expModInt 2 100 1000 = some 376 := by decide +kernel    -- 2^100 = ...205376 (period loop: 1000 steps, kernel evaluation)
example : expModInt 3 17 4 = some 3 := by decide                  -- the F8 witness, repaired code
example : expModInt 2 4 30 = some 16 := by decide                 -- the F7 witness, repaired code
example : expModInt 7 222 1001 = some (7 ^ 222 % 1001) := by decide +kernel
example : findPeriod 10 7 = some 6 := by decide
example : expModInt 6 5 3 = none := by decide                     -- `assert base % mod != 0` fails: the Python raises

end BB.NumMod

/-! ## The whole `%` operator on expression trees -/

namespace BB.NumModTree

open BB.NumEval

/-- **modE_correct_partial.**  Whatever `a % m` returns is the residue of the value of `a`: for
    every expression tree `e` (any nesting of `Add`, `Mul`, `Div`, `Exp`, also inside exponents),
    every modulus `m > 0`, if the model of the operator returns `r` and the tree has the integer
    value `v` (`eval`: divisions exact, exponents non-negative) then `r = v % m`.

    The hypothesis `expsOk e` is forced (see the two counterexamples): every `Exp` node must have
    an exponent `≥ 1` if the exponent is an integer, and of value `≥ 2` if it is a tree.
    * integer exponent: the three early returns of `Exp.__mod__` (`mod == 1`, `mod == base`,
      `mod == 2`) come before `assert 1 < exp` and two of them are wrong for exponent 0;
    * tree exponent: `assert 1 < exp` is `Num.__gt__`, a sign heuristic (`negH`: an `Exp` is never
      `< k`, an `Add` with an integer left operand is `< k` iff its right operand is, ...) that
      never looks at the magnitude, so an exponent tree of value `≤ 1` passes it and the literal
      special case `2 ** exp % 4 = 0` is wrong for value 1.
    No other hypothesis: no bound on depth or size, any sign of `base` and of the integer leaves;
    an inexact `Div`, a `Div` with `den ≤ 0`, a negative exponent have no `eval` or make the model
    raise.
    (`0 < m` is not needed either, see `modE_residue`: for `m = 0` the model returns a value only
    where that value is `v % 0 = v`.)

    Original statement (FALSE, e.g. `Exp(3, 0) % 3`, `Exp(2, -1 + Exp(2, 1)) % 4`):

      theorem modE_correct (e : NExpr) (m : Nat) (r v : Int) (h : modE e m = some r)
          (hv : eval e = some v) (hm : 0 < m) : r = v % m -/
theorem modE_correct_partial (e : NExpr) (m : Nat) (r v : Int) (hwf : expsOk e = true)
    (h : modE e m = some r) (hv : eval e = some v) (hm : 0 < m) : r = v % (m : Int) :=
  have _ := hm
  modE_residue e m r v hwf h hv

/-- **modE_correct_counterexample.**  Without `expsOk` the statement fails on a symbolic exponent
    of value 1 that passes the sign heuristic of `assert 1 < exp`:
    `Exp(2, Add(-1, Exp(2, 1))) % 4` - the model (and the Python) return 0 by the literal case
    `base 2, mod 4`, the value is `2 ^ (-1 + 2) = 2`, `2 % 4 = 2`. -/
theorem modE_correct_counterexample :
    ¬ (∀ (e : NExpr) (m : Nat) (r v : Int), modE e m = some r → eval e = some v → 0 < m →
        r = v % (m : Int)) := by
  intro h
  exact absurd (h (.exp 2 (.add (.int (-1)) (.exp 2 (.int 1)))) 4 0 2 (by decide) (by decide)
    (by decide)) (by decide)

/-- second witness, an integer exponent 0 through the `mod == base` return:
    `Exp(3, 0) % 3` gives 0, the value is 1 -/
theorem modE_correct_counterexample2 :
    modE (.exp 3 (.int 0)) 3 = some 0 ∧ eval (.exp 3 (.int 0)) = some 1 ∧
      (0 : Int) ≠ 1 % ((3 : Nat) : Int) := by decide

/-- **modE_defined_simple.**  A definedness statement for the simple trees: on sums and products
    of integers and of powers `base ** k` with `base ≥ 0`, an integer exponent `k ≥ 2` and
    `base % m ≠ 0` (`simpleOk m e`), the operator never raises for `1 ≤ m < 2^24`.  (Outside this
    class it raises by design: `PeriodLimit` for `m ≥ 2^24`, `assert base % mod != 0`,
    `ModDepthLimit` / `assert rem == 0` in `Div`, `ExpModLimit` and the comparison heuristic for
    symbolic exponents.) -/
theorem modE_defined_simple (e : NExpr) (m : Nat) (hm : 1 ≤ m) (hlim : m < 2 ^ 24)
    (hs : simpleOk m e = true) : (modE e m).isSome = true := by
  have hm0 : ¬(m == 0) = true := by simpa using Nat.ne_of_gt hm
  induction e with
  | int n =>
    rw [modE, if_neg hm0]
    rfl
  | add l r ihl ihr =>
    rw [simpleOk, Bool.and_eq_true] at hs
    obtain ⟨a, ha⟩ := Option.isSome_iff_exists.mp (ihl hs.1)
    obtain ⟨b, hb⟩ := Option.isSome_iff_exists.mp (ihr hs.2)
    rw [modE, ha, hb]
    refine NumMod.isSome_ite_some fun _ => ?_
    dsimp only
    rw [if_neg hm0]
    rfl
  | mul l r ihl ihr =>
    rw [simpleOk, Bool.and_eq_true] at hs
    obtain ⟨a, ha⟩ := Option.isSome_iff_exists.mp (ihl hs.1)
    obtain ⟨b, hb⟩ := Option.isSome_iff_exists.mp (ihr hs.2)
    rw [modE, ha, hb]
    refine NumMod.isSome_ite_some fun _ => NumMod.isSome_ite_some fun _ => NumMod.isSome_ite_some fun _ => ?_
    rw [if_neg hm0]
    rfl
  | div n d _ => exact absurd hs nofun
  | exp b x _ =>
    rw [simpleOk] at hs
    rw [modE]
    cases hx : asInt x with
    | none => rw [hx] at hs; exact absurd hs nofun
    | some k =>
      rw [hx] at hs
      simp only [Bool.and_eq_true, decide_eq_true_eq, bne_iff_ne, ne_eq] at hs
      obtain ⟨r, hr⟩ := Option.isSome_iff_exists.mp
        (NumMod.expModInt_defined b.toNat k.toNat m hm hlim (.inl hs.2) (.inl (by omega)))
      dsimp only [natRes, expLit]
      rw [if_pos hs.1.1, hr]
      rfl

/-! ### Non-vacuity (concrete trees; `decide`) -/

-- `(2 ** (1 + 3 ** 4)) % 54`: symbolic exponent 82, `find_period` skipped (mod = 2 * 3^3), the
-- literal table of `exp_mod_special_cases` at `82 % 18 = 10`
example : modE (.exp 2 (.add (.int 1) (.exp 3 (.int 4)))) 54 = some 52 := by decide +kernel
example : expsOk (.exp 2 (.add (.int 1) (.exp 3 (.int 4)))) = true := by decide
-- `(1 + 3 ** 2) // 4`: an inexact `Div` raises (`assert rem == 0`)
example : modE (.div (.add (.int 1) (.exp 3 (.int 2))) 4) 5 = none := by decide +kernel
-- `((2 + 7 ** 3) // 5 * 3 ** (2 ** 5)) % 1000`
example : modE (.mul (.div (.add (.int 2) (.exp 7 (.int 3))) 5) (.exp 3 (.exp 2 (.int 5)))) 1000
    = some 29 := by decide +kernel
-- a negative exponent tree fails `assert 1 < exp`
example : modE (.exp 5 (.mul (.int (-2)) (.exp 2 (.int 3)))) 7 = none := by decide +kernel
example : simpleOk 1000 (.add (.int (-7)) (.mul (.int 12) (.exp 3 (.int 40)))) = true := by decide

end BB.NumModTree
