/-
Auxiliary theorems about src/blocks.rs (`opt_block`, the block size the callers hand to
`make_block_macro`; model: BB/Model/Blocks.lean).  No listed property is anchored in blocks.rs;
these facts are the glue below C08: whatever `opt_block` answers is a legal block size for the
block macro, it never panics, and it is the first minimiser of the compression measure.
Helper lemmas live in BB/Lemmas/BlocksLemmas.lean.
-/
import BB.Lemmas.BlocksLemmas

namespace BB.Blocks

/-- the cycle number `measure_blocks` reports is at most the number of cycles run -/
theorem measureBlocks_le (p : Prog) (steps ms : Nat) (h : measureBlocks p steps = some ms) :
    ms ≤ steps := by
  obtain ⟨m, hm, rfl⟩ := Option.map_eq_some_iff.1 h
  obtain ⟨hs, hle⟩ := measGo_steps hm
  rw [show Meas.init.steps = 0 from rfl, Nat.zero_add] at hs
  exact hs ▸ hle (Nat.le_refl 0)

/-- `unroll_tape` indexes the program with `comp[&slot]` (a panic on an undefined slot): after
    `measure_blocks` succeeded this cannot happen, so `opt_block` never panics. -/
theorem optBlock_isSome (p : Prog) (steps : Nat) : (optBlock p steps).isSome = true := by
  unfold optBlock
  cases hms : measureBlocks p steps with
  | none => rfl
  | some ms =>
    obtain ⟨m, hm, _⟩ := Option.map_eq_some_iff.1 hms
    have hu : (unrollGo p ms 0 Tape.init).isSome = true :=
      unrollGo_isSome_of_measGo hm (measureBlocks_le p steps ms hms)
    obtain ⟨t, ht⟩ := Option.isSome_iff_exists.1 hu
    simp only [unrollTape, ht, Option.map_some, Option.isSome_some]

/-- `compr_eff` never exceeds the tape length (so the `usize` subtraction `compr_size -= k` cannot
    wrap), and what it removes is `k` cells for every aligned pair of equal neighbouring chunks. -/
theorem comprEff_eq (tape : List Nat) (k : Nat) (hk : 1 ≤ k) (h2 : 2 * k ≤ tape.length) :
    comprEff tape k + k * ((List.range (comprIters tape.length k)).filter
        (fun j => chunk tape (j * k) k == chunk tape (j * k + k) k)).length = tape.length :=
  have _ := hk
  comprEff_add_pairs tape k h2

/-- **first minimiser**: the block size chosen by the loop of `opt_block` over `1 .. n` has the
    smallest compression measure among them, strictly smaller than every earlier size; when no
    size is tried (tape shorter than 4 cells) the answer is 1. -/
theorem optGo_first_min (tape : List Nat) (n : Nat) :
    let k := (optGo tape n 1 (1, 1 + tape.length)).1
    (n = 0 → k = 1) ∧
    (0 < n → 1 ≤ k ∧ k ≤ n ∧
      (∀ b, 1 ≤ b → b ≤ n → comprEff tape k ≤ comprEff tape b) ∧
      (∀ b, 1 ≤ b → b < k → comprEff tape k < comprEff tape b)) := by
  cases n with
  | zero => exact ⟨fun _ => rfl, fun h => absurd h (Nat.lt_irrefl 0)⟩
  | succ n =>
    -- size 1 always beats the sentinel `1 + len`; from then on the accumulator is a first minimiser
    have h1 : comprEff tape 1 < 1 + tape.length := by have := comprEff_le tape 1; omega
    have hmin : FirstMin tape (1 + 1) 1 :=
      ⟨Nat.le_refl 1, by omega, fun b hb1 hb2 => by rw [show b = 1 by omega]; exact Nat.le_refl _,
        fun b hb1 hb2 => by omega⟩
    obtain ⟨hk1, hk2, hle, hlt⟩ := optGo_firstMin tape n (1 + 1) 1 hmin
    rw [optGo, if_pos h1]
    exact ⟨nofun,
      fun _ => ⟨hk1, by omega, fun b hb1 hb2 => hle b hb1 (by omega), hlt⟩⟩

/-- the answer is a positive block size -/
theorem optBlock_pos (p : Prog) (steps k : Nat) (h : optBlock p steps = some k) : 1 ≤ k := by
  unfold optBlock at h
  split at h
  · cases h; exact Nat.le_refl _
  · split at h
    · cases h
    next tape _ =>
      cases h
      obtain ⟨h0, hpos⟩ := optGo_first_min tape (tape.length / 2 - 1)
      rcases Nat.eq_zero_or_pos (tape.length / 2 - 1) with hn | hn
      · exact Nat.le_of_eq (h0 hn).symm
      · exact (hpos hn).1

/-- the answer is a legal block size for the measured tape: 1, or less than half its length -/
theorem optBlock_legal (p : Prog) (steps k ms : Nat) (cells : List Nat)
    (hm : measureBlocks p steps = some ms) (hu : unrollTape p ms = some cells)
    (h : optBlock p steps = some k) : k = 1 ∨ 2 * k < cells.length := by
  unfold optBlock at h
  simp only [hm, hu, Option.some.injEq] at h
  subst h
  obtain ⟨h0, hpos⟩ := optGo_first_min cells (cells.length / 2 - 1)
  rcases Nat.eq_zero_or_pos (cells.length / 2 - 1) with hn | hn
  · exact Or.inl (h0 hn)
  · have := (hpos hn).2.1
    exact Or.inr (by omega)

/-- non-vacuity: a machine on which the loop really runs (measured tape `[1,1,0,0,1,1]`, sizes 1
    and 2 are tried); here the first minimiser is 1 -/
example : optBlock [((0,0),(1,true,1)), ((0,1),(1,false,1)), ((1,0),(1,false,0)), ((1,1),(0,false,1))] 40 = some 1 := by
  decide +kernel

/-- non-vacuity: a machine ("1RB 1LC  1RC 1RB  1RD 0LE  1LA 1LD  ... 0LA") on which the loop picks
    a size above 1 (`measureBlocks` answers cycle 153) -/
example : optBlock [((0,0),(1,true,1)), ((0,1),(1,false,2)), ((1,0),(1,true,2)), ((1,1),(1,true,1)), ((2,0),(1,true,3)), ((2,1),(0,false,4)), ((3,0),(1,false,0)), ((3,1),(1,false,3)), ((4,1),(0,false,0))] 200 = some 3 := by
  decide +kernel

end BB.Blocks
