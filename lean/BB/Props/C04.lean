/-
C04 — the backward reasoner never refutes something the machine does.
Property theorems only; helper lemmas live in BB/Lemmas/Reason*.lean.
(The definitions `SpanMatch`, `Gamma`, `ErasePoint`, `HaltPoint` of the statements are at the top of
BB/Lemmas/ReasonGamma.lean, because the lemma files need them.)
-/
import BB.Lemmas.ReasonTargets

namespace BB.Reason

open BB

/-! ### Targets cover the events -/

theorem targets_cover_halt (p : Prog) (n : Nat) (c : Cfg) (hrun : RunAt p.toF n c)
    (hh : HaltPoint p.toF c) :
    ∃ cfg ∈ haltConfigs p true, Gamma cfg c := by
  have hb := run_within (PS := (· ≤ p.paramsFix.1)) (PC := (· ≤ p.paramsFix.2)) (Nat.zero_le _)
    (Nat.zero_le _) (fun _ _ _ _ _ hi =>
      let ⟨_, hq, _, hpr⟩ := Tree.Prog.paramsFix_bound (Tree.Prog.mem_of_get hi)
      ⟨hpr, hq⟩) n c hrun
  exact ⟨Config.initHalt c.state c.scan,
    List.mem_map.2 ⟨(c.state, c.scan), mem_haltSlots.2 ⟨hb.1, hb.2.1, hh⟩, rfl⟩,
    rfl, rfl, SpanMatch.nilUnknown, SpanMatch.nilUnknown⟩

theorem targets_cover_erase (p : Prog) (c : Cfg) (he : ErasePoint p.toF c) :
    ∃ cfg ∈ eraseConfigs p, Gamma cfg c := by
  obtain ⟨hnb, c', hstep, hb⟩ := he
  obtain ⟨pr, sh, q, hg, rfl⟩ := step1_eq_some hstep
  obtain ⟨rfl, hsc, hl, hr⟩ := Cfg.erase_move hnb hb
  exact ⟨Config.initBlank c.state c.scan, List.mem_map.2 ⟨(c.state, c.scan),
    mem_eraseSlots.2 ⟨hsc, sh, q, Tree.Prog.mem_of_get hg⟩, rfl⟩,
    rfl, rfl, SpanMatch.nilBlanks hl, SpanMatch.nilBlanks hr⟩

theorem targets_cover_spinout (p : Prog) (c : Cfg) (hs : SpinOutCfg p.toF c) :
    ∃ cfg ∈ zeroReflexiveConfigs p, Gamma cfg c := by
  obtain ⟨hsc, pr, sh, hi, hz⟩ := hs
  refine ⟨Config.initSpinout c.state sh,
    List.mem_map.2 ⟨(c.state, sh), mem_zrShifts.2 ⟨pr, Tree.Prog.mem_of_get hi⟩, rfl⟩, ?_⟩
  cases sh
  · exact ⟨rfl, hsc, SpanMatch.nilBlanks hz, SpanMatch.nilUnknown⟩
  · exact ⟨rfl, hsc, SpanMatch.nilUnknown, SpanMatch.nilBlanks hz⟩

/-! ### One backward step -/

/-- **backstep_sound.** If L0 steps `c → c'` by the instruction `(q, r) ↦ (pr, sh, q')` and `c'` is
    in γ of an abstract configuration whose pull side does not start with an indefinite block, then
    the predecessor filter accepts the step and `c` is in γ of the back-stepped configuration. -/
theorem backstep_sound (p : ProgF) (cfg : Config) (c c' : Cfg) (pr : Nat) (sh : Bool)
    (hi : p c.state c.scan = some (pr, sh, cfg.state)) (hstep : step1 p c = some c')
    (hg : Gamma cfg c') :
    cfg.tape.checkStep sh pr = true ∧
    (cfg.tape.pullsIndef sh = false →
      Gamma ⟨c.state, cfg.tape.backstep sh c.scan, 0, []⟩ c) := by
  cases (step1_eq_of hi).symm.trans hstep
  have hp := isPred_move c pr sh cfg.state
  exact ⟨checkStep_of_pred hp hg, fun h => gammaT_backstep hp hg rfl h⟩

/-- **init_detected.** The initial configuration is in γ of an abstract configuration only if that
    configuration is `blank` in state 0 (which makes `step_configs` answer `init`). -/
theorem init_detected (cfg : Config) (h : Gamma cfg Cfg.init) :
    cfg.state = 0 ∧ cfg.tape.blank = true :=
  gammaT_init h

/-! ### Soundness of `refuted` (repaired model) -/

/- The full statement (kept visible):

   theorem cant_halt_sound (p : Prog) (depth k : Nat) (h0 : (p.get (0,0)).isSome)
       (h : cantHalt p depth true true = .ok (.refuted k)) : ¬ Halts p.toF

   and likewise for erase and spin-out.  It is proved below under the extra hypothesis
   `noUnknownPrune`, see docs/C04_PROOF_NOTES.md: the blank-state pruning against a tape with an
   `unknown` end has no known justification.
   (Further below, `cant_halt_sound` and `cant_spin_out_sound` prove the full statements for every
   table without shadowed duplicate keys, where `noUnknownPrune` is shown to hold always.) -/

/-- `true` when, in the run of `cant_reach` on these target configurations, every configuration
    discarded by blank-state pruning was subsumed by a kept blank tape of its state.  (Defined by an
    instrumented copy of the loop in BB/Lemmas; the definition is part of the statement.)

    Precisely (BB/Lemmas/ReasonInstr.lean): `cantReachI` is a copy of `cantReach` (same answer:
    `cantReachI_fst`) that remembers the blank tapes it kept, not only their states; the flag becomes
    `false` when a configuration is skipped by `isBlank && blanks.contains state` and no kept blank
    tape `y` of the same state satisfies `blankSub y z` for the skipped tape `z`, i.e. on each side:
    `z` ends in `blanks`, or `y` ends in `unknown` and stands for no more cells than `z`
    (`minLenB`).  So, despite the name, a skipped tape with an `unknown` end need not clear the
    flag, and one whose ends are both `blanks` never does. -/
def noUnknownPrune (fixF1 : Bool) (comp : Prog) (depth : Nat) (configs : Configs) : Bool :=
  (cantReachI fixF1 comp depth configs).2

theorem cant_halt_sound_partial (p : Prog) (depth k : Nat) (h0 : (p.get (0, 0)).isSome)
    (h : cantHalt p depth true true = .ok (.refuted k))
    (hp : noUnknownPrune true p depth (haltConfigs p true) = true) : ¬ Halts p.toF := by
  rintro ⟨n, q, s, c, hrun, hq, hs, hnone⟩
  obtain ⟨cfg, hcfg, hG⟩ := targets_cover_halt p n c hrun (by rw [HaltPoint, hq, hs]; exact hnone)
  exact cantReach_sound p depth k _ h hp (haltConfigs_noInit p true h0) n c hrun cfg hcfg hG

/-- erase targets have `blanks` ends, so no side condition is needed -/
theorem cant_blank_sound (p : Prog) (depth k : Nat)
    (h : cantBlank p depth true = .ok (.refuted k)) : ¬ ∃ n, ErasesAt p.toF n := by
  rintro ⟨n, c, c', hrun, hnb, hstep, hb⟩
  obtain ⟨cfg, hcfg, hG⟩ := targets_cover_erase p c ⟨hnb, c', hstep, hb⟩
  exact cantReach_sound p depth k _ h
    (cantReachI_flag (endsB_pruneInv _) (eraseConfigs_endsB p) true depth) (eraseConfigs_noInit p)
    n c hrun cfg hcfg hG

theorem cant_spin_out_sound_partial (p : Prog) (depth k : Nat)
    (h : cantSpinOut p depth true = .ok (.refuted k))
    (hp : noUnknownPrune true p depth (zeroReflexiveConfigs p) = true) : ¬ SpinsOut p.toF := by
  rintro ⟨n, c, hrun, hsp⟩
  obtain ⟨cfg, hcfg, hG⟩ := targets_cover_spinout p c hsp
  exact cantReach_sound p depth k _ h hp (zeroReflexiveConfigs_noInit_of_refuted p depth k h hp)
    n c hrun cfg hcfg hG

/-! ### Soundness without the side condition, for well-formed tables

`Prog.functionalB p` (BB/Lemmas/ReasonDet.lean) is the decidable check
`p.all fun kv => p.get kv.1 == some kv.2`: every listed entry is the one `get` finds, i.e. the
association list has no shadowed duplicate key.  It holds for every strictly sorted list (the
`BTreeMap` invariant, `functionalB_of_sorted`).  For such tables blank-state pruning is always
justified: by determinism of the machine a pruned blank tape has the same spans as the kept blank
tape of its state, so `noUnknownPrune` is `true` and the full statements hold. -/

theorem functionalB_of_sorted (p : Prog)
    (h : List.Pairwise (fun a b => slotLt a.1 b.1 = true) p) : p.functionalB = true := by
  simp only [Prog.functionalB, List.all_eq_true, beq_iff_eq]
  induction p with
  | nil => intro kv hkv; cases hkv
  | cons kv0 rest ih =>
    obtain ⟨k, v⟩ := kv0
    rw [List.pairwise_cons] at h
    intro kv hkv
    rcases List.mem_cons.1 hkv with rfl | hm
    · simp [Prog.get]
    · have hlt := h.1 kv hm
      simp only [slotLt, Bool.or_eq_true, decide_eq_true_eq, Bool.and_eq_true, beq_iff_eq] at hlt
      have hne : (k.1 == kv.1.1 && k.2 == kv.1.2) = false := by
        simp only [Bool.and_eq_false_iff, beq_eq_false_iff_ne, ne_eq]
        rcases hlt with h1 | ⟨h1, h2⟩
        · exact Or.inl (by omega)
        · exact Or.inr (by omega)
      simp only [Prog.get, hne, Bool.false_eq_true, if_false]
      exact ih h.2 kv hm

theorem noUnknownPrune_halt (p : Prog) (hwf : p.functionalB = true) (fixF1 fixF2 : Bool)
    (depth : Nat) : noUnknownPrune fixF1 p depth (haltConfigs p fixF2) = true :=
  cantReachI_flag_coherent hwf (halt_coherent p fixF2) fixF1 depth

theorem noUnknownPrune_spinout (p : Prog) (hwf : p.functionalB = true) (fixF1 : Bool)
    (depth : Nat) : noUnknownPrune fixF1 p depth (zeroReflexiveConfigs p) = true :=
  cantReachI_flag_coherent hwf (spinout_coherent p hwf) fixF1 depth

/-- **cant_halt_sound** (the full statement, for a table without shadowed duplicate keys) -/
theorem cant_halt_sound (p : Prog) (hwf : p.functionalB = true) (depth k : Nat)
    (h0 : (p.get (0, 0)).isSome) (h : cantHalt p depth true true = .ok (.refuted k)) :
    ¬ Halts p.toF :=
  cant_halt_sound_partial p depth k h0 h (noUnknownPrune_halt p hwf true true depth)

/-- **cant_spin_out_sound** (the full statement, for a table without shadowed duplicate keys) -/
theorem cant_spin_out_sound (p : Prog) (hwf : p.functionalB = true) (depth k : Nat)
    (h : cantSpinOut p depth true = .ok (.refuted k)) : ¬ SpinsOut p.toF :=
  cant_spin_out_sound_partial p depth k h (noUnknownPrune_spinout p hwf true depth)

/-! ### Witnesses: the unrepaired model refutes reachable events (findings F1, F2) -/

def progF1 : Prog :=
  [((0,0),(1,true,1)), ((0,1),(1,false,0)), ((1,0),(0,true,2)), ((1,1),(1,true,2)), ((2,0),(1,false,0))]

theorem cant_halt_F1_witness :
    cantHalt progF1 10 false false = .ok (.refuted 9) ∧ HaltsAt progF1.toF 11 2 1 := by
  refine ⟨by decide +kernel, ⟨2, [1, 1], 1, [1, 1]⟩, ?_, rfl, rfl, by decide⟩
  unfold RunAt; decide

def progF2 : Prog := [((0,0),(1,true,1)), ((1,0),(1,false,0))]

theorem cant_halt_F2_witness :
    cantHalt progF2 1 false false = .ok (.refuted 0) ∧ HaltsAt progF2.toF 2 0 1 := by
  refine ⟨by decide, ⟨0, [], 1, [1]⟩, ?_, rfl, rfl, by decide⟩
  unfold RunAt; decide

end BB.Reason
