/-
C09 — the backsymbol macro machine simulates the base machine (repaired split index, `fixF3 = true`),
and the witness that the code as written (`fixF3 = false`) does not (finding F3).

Definitions used by the statements: those of C08 and `StaysFor` (top of BB/Lemmas/MacroDefs.lean),
`bsState`, `bsSpan`, `bsTape`, `bsRe`, `bsExitTape`, `decCfgB`, `CellsBelow` (top of
BB/Lemmas/Backsymbol.lean).  The proofs run as in C08, at the window `backsym_slotWindow`.

`lp : LogicParams` with `lp.kind = .backsymbol`: `k = lp.cells` remembered cells,
`B = lp.backsymbols = C ^ k`.  A macro state is `ms = atRight + 2 * (q * B + span)`; the window has
`k + 1` cells: the scanned cell `mc` (a base colour) and the `k` remembered cells
`decode span`, which lie right of the scanned cell when `atRight = 1`.  The macro tape is mirrored.

Hypotheses (all decidable): `0 < C`; `closedB p S C` (see C08); slot in range:
`ms < 2 * S * B`, `mc < C`.  `k = 0` is allowed.
-/
import BB.Lemmas.Backsymbol

namespace BB.MacroSim

open BB BB.Macros

/-- For a table `t : Prog` the one-level `pureChain` of the model is this `pureInstr`. -/
theorem backsym_pureChain (t : Prog) (params : Nat × Nat) (f : Bool) (k : Nat) (slot : Slot) :
    pureChain t params f [(.backsymbol, k)] slot =
      pureInstr (innerOf t.toF) ⟨.backsymbol, k, params.1, params.2⟩ f slot := rfl

/-- **backsym_instr_some_fixF3.**  If the (repaired) macro instruction of slot `(ms, mc)` is
    `(mc', sh, ms')`, then the base machine started in state `bsState ms` on the end cell (right
    end iff `ms % 2 = 0`) of the `k+1`-cell window holding `bsTape ms mc`, with arbitrary cells
    outside, runs `n ≥ 1` steps with the head in the window at steps `0 .. n-1` (no undefined
    instruction), and step `n` takes the head out of the window on the side OPPOSITE to the macro
    shift `sh` (mirrored tape) in state `bsState ms'`; the old window then holds
    `bsExitTape ms' mc'` = the new remembered cells `bsSpan ms'` next to the head plus the printed
    colour `mc'` at the far end; outside cells are unchanged; `ms' % 2` records the side of the
    remembered cells; the outputs are in range. -/
theorem backsym_instr_some_fixF3 (p : ProgF) (lp : LogicParams) (ms mc mc' ms' : Nat) (sh : Bool)
    (hk : lp.kind = .backsymbol) (hC : 0 < lp.baseColors)
    (hms : ms < 2 * lp.baseStates * lp.backsymbols) (hmc : mc < lp.baseColors)
    (hcl : closedB p lp.baseStates lp.baseColors = true)
    (h : pureInstr (innerOf p) lp true (ms, mc) = .ok (some (mc', sh, ms')))
    (outL outR : List Nat) :
    ∃ n, 1 ≤ n ∧
      RunsIn p (lp.cells + 1) outL outR n
        (enterCfg (bsState lp ms) (bsRe ms) (bsTape lp ms mc) outL outR)
        (exitCfg (bsState lp ms') (!sh) (bsExitTape lp ms' mc') outL outR) ∧
      ms' % 2 = (if sh then 1 else 0) ∧ ms' < 2 * lp.baseStates * lp.backsymbols ∧
      mc' < lp.baseColors := by
  obtain ⟨q', d, t, hi, ⟨hq', hlen, hlt⟩, n, hn, hr⟩ :=
    (backsym_slotWindow hk hC ms mc).of_some (closed_of_closedB hcl)
      ⟨bsState_lt hC hms, bsTape_length lp ms mc, bsTape_lt hC ms hmc⟩ h outL outR
  obtain ⟨x, ms'', hrec, a1, a2, a3, a4, hx⟩ := recon_readback hk d hlen hq' hlt
  rw [hrec] at hi
  simp only [Except.ok.injEq, Prod.mk.injEq] at hi
  obtain ⟨rfl, rfl, rfl⟩ := hi
  rw [a1, a2, Bool.not_not]
  exact ⟨n, hn, hr, a3, a4, hx⟩

/- The full statement for undefined slots (kept visible):

   theorem backsym_instr_none_fixF3 … (no bound on lp.cells) :
     pureInstr (innerOf p) lp true (ms, mc) = .ok none ↔
       (HaltsInside p (lp.cells + 1) outL outR (enterCfg …) ∨ NeverLeaves p (lp.cells + 1) outL outR (enterCfg …))

   Direction `←` is proved for every `k` (`backsym_instr_none_of_fixF3`).  Direction `→` needs
   `sim_lim ≥` the number of window configurations `S * (k+1) * C^(k+1)`; the code's
   `sim_lim = macro_states * macro_colors = 2 * S * C^(k+1)` is smaller as soon as `k ≥ 2`
   (`backsym_simLim_short`), so the pigeonhole argument only gives `k ≤ 1`
   (`backsym_instr_none_fixF3_partial`).  For every `k` the weaker conclusion "halts inside, or is
   still inside after `sim_lim` steps" holds (`backsym_instr_none_weak_fixF3`).  No concrete
   machine that leaves the window after more than `sim_lim` loop iterations was found (exhaustive
   search 2x2, 3x2 `k ≤ 6`, 2x3 `k ≤ 4`, 1xC; sampled 4x2, 5x2, 6x2, 3x3), so no counterexample
   theorem is given. -/

/-- **backsym_instr_none_of_fixF3** (every `k`): a base machine that halts inside the window or
    never leaves it gives an undefined macro slot. -/
theorem backsym_instr_none_of_fixF3 (p : ProgF) (lp : LogicParams) (ms mc : Nat)
    (hk : lp.kind = .backsymbol) (hC : 0 < lp.baseColors)
    (hms : ms < 2 * lp.baseStates * lp.backsymbols) (hmc : mc < lp.baseColors)
    (hcl : closedB p lp.baseStates lp.baseColors = true) (outL outR : List Nat)
    (h : HaltsInside p (lp.cells + 1) outL outR
          (enterCfg (bsState lp ms) (bsRe ms) (bsTape lp ms mc) outL outR) ∨
        NeverLeaves p (lp.cells + 1) outL outR
          (enterCfg (bsState lp ms) (bsRe ms) (bsTape lp ms mc) outL outR)) :
    pureInstr (innerOf p) lp true (ms, mc) = .ok none :=
  (backsym_slotWindow hk hC ms mc).to_none (closed_of_closedB hcl)
    ⟨bsState_lt hC hms, bsTape_length lp ms mc, bsTape_lt hC ms hmc⟩ outL outR h

/-- **backsym_instr_none_weak_fixF3** (every `k`): an undefined macro slot means the base machine
    halts inside the window or keeps the head in it for at least `sim_lim` steps. -/
theorem backsym_instr_none_weak_fixF3 (p : ProgF) (lp : LogicParams) (ms mc : Nat)
    (hk : lp.kind = .backsymbol) (hC : 0 < lp.baseColors)
    (hms : ms < 2 * lp.baseStates * lp.backsymbols) (hmc : mc < lp.baseColors)
    (hcl : closedB p lp.baseStates lp.baseColors = true) (outL outR : List Nat)
    (h : pureInstr (innerOf p) lp true (ms, mc) = .ok none) :
    HaltsInside p (lp.cells + 1) outL outR
        (enterCfg (bsState lp ms) (bsRe ms) (bsTape lp ms mc) outL outR) ∨
      StaysFor p (lp.cells + 1) outL outR lp.simLim
        (enterCfg (bsState lp ms) (bsRe ms) (bsTape lp ms mc) outL outR) :=
  ((backsym_slotWindow hk hC ms mc).of_none (closed_of_closedB hcl)
    ⟨bsState_lt hC hms, bsTape_length lp ms mc, bsTape_lt hC ms hmc⟩ h outL outR).imp_right And.left

/-- **backsym_instr_none_fixF3_partial** (`k ≤ 1`): no instruction ⇔ halts inside or never leaves. -/
theorem backsym_instr_none_fixF3_partial (p : ProgF) (lp : LogicParams) (ms mc : Nat)
    (hk : lp.kind = .backsymbol) (hc : lp.cells ≤ 1) (hC : 0 < lp.baseColors)
    (hms : ms < 2 * lp.baseStates * lp.backsymbols) (hmc : mc < lp.baseColors)
    (hcl : closedB p lp.baseStates lp.baseColors = true) (outL outR : List Nat) :
    pureInstr (innerOf p) lp true (ms, mc) = .ok none ↔
      (HaltsInside p (lp.cells + 1) outL outR
          (enterCfg (bsState lp ms) (bsRe ms) (bsTape lp ms mc) outL outR) ∨
        NeverLeaves p (lp.cells + 1) outL outR
          (enterCfg (bsState lp ms) (bsRe ms) (bsTape lp ms mc) outL outR)) :=
  ⟨fun h => ((backsym_slotWindow hk hC ms mc).of_none (closed_of_closedB hcl)
      ⟨bsState_lt hC hms, bsTape_length lp ms mc, bsTape_lt hC ms hmc⟩ h outL outR).imp_right
      fun h => h.2 (simLim_backsym_enough hk hc),
    backsym_instr_none_of_fixF3 p lp ms mc hk hC hms hmc hcl outL outR⟩

/-- For `k ≥ 2` the code's `sim_lim` is smaller than the number of (state, position, window)
    triples, so it is not justified by pigeonhole. -/
theorem backsym_simLim_short (lp : LogicParams) (hk : lp.kind = .backsymbol) (hc : 2 ≤ lp.cells)
    (hS : 0 < lp.baseStates) (hC : 0 < lp.baseColors) :
    lp.simLim < lp.baseStates * (lp.cells + 1) * lp.baseColors ^ (lp.cells + 1) := by
  rw [simLim_backsym hk, Nat.mul_comm 2]
  exact Nat.mul_lt_mul_of_pos_right (Nat.mul_lt_mul_of_pos_left (by omega) hS) (Nat.pow_pos hC)

/-- **backsym_instr_no_error_fixF3.**  With the repaired split index the backsymbol macro
    instruction is never an error, for every slot, every `k ≥ 0` and every base program. -/
theorem backsym_instr_no_error_fixF3 (p : ProgF) (lp : LogicParams) (slot : Slot) (e : Err)
    (hk : lp.kind = .backsymbol) (hC : 0 < lp.baseColors) :
    pureInstr (innerOf p) lp true slot ≠ .error e :=
  (backsym_slotWindow hk hC slot.1 slot.2).no_error p e

/-- **backsym_macro_step_fixF3.**  One step `c → c'` of the macro machine is `n ≥ 1` base steps from
    `decCfgB c` to `decCfgB c'` (literally equal), the head staying in the `k+1`-cell window until
    the last step; range invariants are kept. -/
theorem backsym_macro_step_fixF3 (p : ProgF) (lp : LogicParams) (hk : lp.kind = .backsymbol)
    (hC : 0 < lp.baseColors) (hcl : closedB p lp.baseStates lp.baseColors = true) (c c' : Cfg)
    (hms : c.state < 2 * lp.baseStates * lp.backsymbols) (hcb : CellsBelow lp.baseColors c)
    (h : step1 (macroF p lp true) c = some c') :
    c'.state < 2 * lp.baseStates * lp.backsymbols ∧ CellsBelow lp.baseColors c' ∧
    ∃ n, 1 ≤ n ∧ RunsIn p (lp.cells + 1) c.right c.left n (decCfgB lp c) (decCfgB lp c') := by
  obtain ⟨mc', sh, ms', hp, rfl⟩ := step1_macroF_some h
  obtain ⟨n, hn, hr, hpar, hlt, hmc'⟩ := backsym_instr_some_fixF3 p lp c.state c.scan mc' ms' sh hk
    hC hms hcb.1 hcl hp c.right c.left
  rw [exitCfg_eq_decCfgB lp c mc' ms' sh hpar] at hr
  exact ⟨by cases sh <;> exact hlt, cellsBelow_move hC hcb hmc' sh ms', n, hn, hr⟩

theorem backsym_macro_none_iff_fixF3 (p : ProgF) (lp : LogicParams) (hk : lp.kind = .backsymbol)
    (hC : 0 < lp.baseColors) (c : Cfg) :
    step1 (macroF p lp true) c = none ↔
      pureInstr (innerOf p) lp true (c.state, c.scan) = .ok none :=
  step1_macroF_none fun e => backsym_instr_no_error_fixF3 p lp _ e hk hC

/-- **backsym_macro_halt_fixF3_partial** (`k ≤ 1`): the macro machine has no step in `c` exactly when
    the base machine, from the decoded configuration, halts inside the window or never leaves it.
    (For every `k`: `step1 … c = none ↔ pureInstr … = .ok none`, then the three theorems above.) -/
theorem backsym_macro_halt_fixF3_partial (p : ProgF) (lp : LogicParams)
    (hk : lp.kind = .backsymbol) (hc : lp.cells ≤ 1) (hC : 0 < lp.baseColors)
    (hcl : closedB p lp.baseStates lp.baseColors = true) (c : Cfg)
    (hms : c.state < 2 * lp.baseStates * lp.backsymbols) (hcb : CellsBelow lp.baseColors c) :
    step1 (macroF p lp true) c = none ↔
      (HaltsInside p (lp.cells + 1) c.right c.left (decCfgB lp c) ∨
        NeverLeaves p (lp.cells + 1) c.right c.left (decCfgB lp c)) :=
  (backsym_macro_none_iff_fixF3 p lp hk hC c).trans
    (backsym_instr_none_fixF3_partial p lp c.state c.scan hk hc hC hms hcb.1 hcl c.right c.left)

/-- **backsym_macro_sim_fixF3.**  If the (repaired) backsymbol macro machine, from the blank tape,
    is in `C` after `N` macro steps, there are base step counts `t 0 = 0 < t 1 < … < t N` such that
    for every `i ≤ N` the macro configuration after `i` macro steps decodes (up to trailing
    blanks) to the base configuration after `t i` base steps. -/
theorem backsym_macro_sim_fixF3 (p : ProgF) (lp : LogicParams) (hk : lp.kind = .backsymbol)
    (hC : 0 < lp.baseColors) (hS : 0 < lp.baseStates)
    (hcl : closedB p lp.baseStates lp.baseColors = true)
    (N : Nat) (C : Cfg) (hrun : RunAt (macroF p lp true) N C) :
    (C.state < 2 * lp.baseStates * lp.backsymbols ∧ CellsBelow lp.baseColors C) ∧
    ∃ t : Nat → Nat, t 0 = 0 ∧ (∀ i, i < N → t i < t (i + 1)) ∧
      ∀ i, i ≤ N → ∃ Ci b,
        RunAt (macroF p lp true) i Ci ∧ RunAt p (t i) b ∧ b ≈c decCfgB lp Ci :=
  sim_run (I := fun c => c.state < 2 * lp.baseStates * lp.backsymbols ∧ CellsBelow lp.baseColors c)
    (dec := decCfgB lp)
    ⟨Nat.mul_pos (Nat.mul_pos (by decide) hS) (backsymbols_pos hC), hC, nofun, nofun⟩
    (init_equiv_decCfgB lp)
    (fun c c' hI h =>
      let ⟨hms', hcb', n, hn, hr⟩ := backsym_macro_step_fixF3 p lp hk hC hcl c c' hI.1 hI.2 h
      ⟨⟨hms', hcb'⟩, n, _, hn, hr.1, Cfg.Equiv.refl _⟩)
    N C hrun

/-! ### Finding F3: the code as written loses the remembered cell -/

/-- `1RB 1LB  1LA 0RA` -/
def bsProg : Prog :=
  [((0,0),(1,true,1)), ((0,1),(1,false,1)), ((1,0),(1,false,0)), ((1,1),(0,true,0))]

/-- one remembered cell -/
def bsLp1 : LogicParams := ⟨.backsymbol, 1, 2, 2⟩

/-- **backsym_F3_witness.**  Base `1RB 1LB  1LA 0RA`, 1 remembered cell, slot `(0, 1)` (state A on
    the right cell of the window `01`): the base machine leaves to the left after 2 steps in state
    A with the window holding `11`.  The repaired split gives macro state `3` (remembered cell
    `1`); the code as written gives macro state `1`, whose remembered cell is `0`. -/
theorem backsym_F3_witness :
    pureInstr (innerOf bsProg.toF) bsLp1 false (0, 1) = .ok (some (1, true, 1)) ∧
    pureInstr (innerOf bsProg.toF) bsLp1 true (0, 1) = .ok (some (1, true, 3)) ∧
    stepN bsProg.toF 2 (enterCfg (bsState bsLp1 0) (bsRe 0) (bsTape bsLp1 0 1) [] []) =
      some (exitCfg 0 false [1, 1] [] []) ∧
    bsSpan bsLp1 3 = [1] ∧ bsSpan bsLp1 1 = [0] := by
  refine ⟨rfl, rfl, by decide, by decide, by decide⟩

/-- **backsym_instr_some_F3_counterexample.**  The conclusion of `backsym_instr_some_fixF3` fails
    for the instruction computed with `fixF3 = false` on that slot. -/
theorem backsym_instr_some_F3_counterexample :
    pureInstr (innerOf bsProg.toF) bsLp1 false (0, 1) = .ok (some (1, true, 1)) ∧
    ¬ ∃ n, 1 ≤ n ∧
      RunsIn bsProg.toF (bsLp1.cells + 1) [] [] n
        (enterCfg (bsState bsLp1 0) (bsRe 0) (bsTape bsLp1 0 1) [] [])
        (exitCfg (bsState bsLp1 1) (!true) (bsExitTape bsLp1 1 1) [] []) := by
  refine ⟨rfl, ?_⟩
  rintro ⟨n, _, hr⟩
  obtain ⟨m, _, hr', _⟩ := backsym_instr_some_fixF3 bsProg.toF bsLp1 0 1 1 3 true rfl (by decide)
    (by decide) (by decide) (by decide) rfl [] []
  have h := (exit_unique hr (exit_not_in_window _ _ _ _ (bsExitTape_length bsLp1 1 1) [] [])
    hr' (exit_not_in_window _ _ _ _ (bsExitTape_length bsLp1 3 1) [] [])).2
  revert h
  decide

/-! ### Non-vacuity -/

/-- `1RB 1LB  1LA ...` -/
def bsProgH : Prog := [((0,0),(1,true,1)), ((0,1),(1,false,1)), ((1,0),(1,false,0))]

def bsLp2 : LogicParams := ⟨.backsymbol, 2, 2, 2⟩

/-- slot `(1, 0)`, two remembered cells: A on the left end of `000` → three steps, out to the left
    in state B, window `110`: instruction `(0, R, 15)` (`15 = 1 + 2 * (1 * 4 + 3)`). -/
example : ∃ n, 1 ≤ n ∧
    RunsIn bsProg.toF 3 [5] [7] n (enterCfg 0 false [0, 0, 0] [5] [7])
      (exitCfg 1 false [1, 1, 0] [5] [7]) ∧ 15 % 2 = 1 ∧ 15 < 2 * 2 * 4 ∧ 0 < 2 :=
  backsym_instr_some_fixF3 bsProg.toF bsLp2 1 0 0 15 true rfl (by decide) (by decide) (by decide)
    (by decide) rfl [5] [7]

/-- slot `(4, 1)`, one remembered cell: B on the right end of `01`, `B1` undefined -/
theorem bsProgH_stuck : HaltsInside bsProgH.toF 2 [] [] (enterCfg 1 true [0, 1] [] []) ∨
    NeverLeaves bsProgH.toF 2 [] [] (enterCfg 1 true [0, 1] [] []) :=
  (backsym_instr_none_fixF3_partial bsProgH.toF bsLp1 4 1 rfl (by decide) (by decide) (by decide)
    (by decide) (by decide) [] []).1 rfl

example : HaltsInside bsProgH.toF 2 [] [] (enterCfg 1 true [0, 1] [] []) ∨
    NeverLeaves bsProgH.toF 2 [] [] (enterCfg 1 true [0, 1] [] []) :=
  bsProgH_stuck

example : pureInstr (innerOf bsProgH.toF) bsLp1 true (4, 1) = .ok none :=
  backsym_instr_none_of_fixF3 bsProgH.toF bsLp1 4 1 rfl (by decide) (by decide) (by decide)
    (by decide) [] [] bsProgH_stuck

/-- two remembered cells: slot `(8, 1)` = B on the right end of `001`, `B1` undefined -/
example : HaltsInside bsProgH.toF 3 [] [] (enterCfg 1 true [0, 0, 1] [] []) ∨
    StaysFor bsProgH.toF 3 [] [] bsLp2.simLim (enterCfg 1 true [0, 0, 1] [] []) :=
  backsym_instr_none_weak_fixF3 bsProgH.toF bsLp2 8 1 rfl (by decide) (by decide) (by decide)
    (by decide) [] [] rfl

example : bsLp2.simLim < 2 * 3 * 2 ^ 3 :=
  backsym_simLim_short bsLp2 rfl (by decide) (by decide) (by decide)

example : pureInstr (innerOf bsProg.toF) bsLp2 true (7, 1) ≠ .error .panic :=
  backsym_instr_no_error_fixF3 bsProg.toF bsLp2 (7, 1) .panic rfl (by decide)

/-- the first macro step of `bsProg` with two remembered cells -/
example : ∃ c', step1 (macroF bsProg.toF bsLp2 true) Cfg.init = some c' ∧
    ∃ n, 1 ≤ n ∧ RunsIn bsProg.toF 3 [] [] n (decCfgB bsLp2 Cfg.init) (decCfgB bsLp2 c') := by
  have h : (step1 (macroF bsProg.toF bsLp2 true) Cfg.init).isSome = true := by decide
  obtain ⟨c', hc'⟩ := Option.isSome_iff_exists.1 h
  exact ⟨c', hc', (backsym_macro_step_fixF3 bsProg.toF bsLp2 rfl (by decide) (by decide) Cfg.init c'
    (by decide) (by decide) hc').2.2⟩

example : step1 (macroF bsProgH.toF bsLp1 true) ⟨4, [], 1, []⟩ = none :=
  (backsym_macro_halt_fixF3_partial bsProgH.toF bsLp1 rfl (by decide) (by decide) (by decide)
    ⟨4, [], 1, []⟩ (by decide) (by decide)).2 bsProgH_stuck

/-- five macro steps of `bsProg` exist, so `backsym_macro_sim_fixF3` applies to them -/
example : ∃ C, RunAt (macroF bsProg.toF bsLp2 true) 5 C ∧
    ∃ t : Nat → Nat, t 0 = 0 ∧ (∀ i, i < 5 → t i < t (i + 1)) ∧
      ∀ i, i ≤ 5 → ∃ Ci b,
        RunAt (macroF bsProg.toF bsLp2 true) i Ci ∧ RunAt bsProg.toF (t i) b ∧
          b ≈c decCfgB bsLp2 Ci := by
  have h : (stepN (macroF bsProg.toF bsLp2 true) 5 Cfg.init).isSome = true := by decide
  obtain ⟨C, hC⟩ := Option.isSome_iff_exists.1 h
  exact ⟨C, hC, (backsym_macro_sim_fixF3 bsProg.toF bsLp2 rfl (by decide) (by decide) (by decide)
    5 C hC).2⟩

end BB.MacroSim
