/-
C06 — closed-position-set analysis never claims a reachable event unreachable.
Property theorems only; the lemmas live in BB/Lemmas/CpsClosed.lean (a closed triple is an
invariant of the run; it also holds the definitions used by the statements: `cellsFrom`,
`windowAt`, `viewOf`, `Covers`, `Goal.Never`, `paramsCover`, `OrderOK`), CpsLoop.lean (a `true`
run ends in a closed triple) and CpsEntry.lean (`cps_run` and the early-true tests).

Reading of the events (DESIGN section 3): halt = `Halts`, blank = the erase event `ErasesAt`,
spin-out = `SpinsOut`.  Only the answer `CpsOut.ok true` / `CpsRes.yes` is a "true" answer;
`panic` and `fuel` are not.
-/
import BB.Lemmas.CpsEntry

namespace BB.Cps

open BB

/-! ### The mathematical core: a closed triple is an invariant of the run -/

/-- **closed_sound.**  If the triple (`seen`, `lspans`, `rspans`) passes the model's closure check
    for radius `rad` (it contains the view of the initial configuration and the all-blank windows,
    every view's push-side window is registered, every successor view licensed by the span maps is
    in `seen`, no view is goal-compatible), then every configuration `c` that the machine reaches
    from the blank tape is covered: its local view is in `seen` and every window of `rad` cells
    further out on either side is licensed by the span maps; hence the goal event never happens. -/
theorem closed_sound (p : Prog) (goal : Goal) (rad : Nat) (seen : List Config)
    (lspans rspans : Spans) (h : closedCheck p goal rad seen lspans rspans = none) :
    (∀ n c, RunAt p.toF n c → Covers rad seen lspans rspans c) ∧ goal.Never p.toF :=
  have hcl := (closedCheck_none_iff ..).1 h
  ⟨covers_run hcl, never_of_closed hcl⟩

/-- **closed_check_sound** (the part of `closed_sound` a driver can use per instance): a triple that
    passes `closedCheck` excludes the goal event. -/
theorem closed_check_sound (p : Prog) (goal : Goal) (rad : Nat) (seen : List Config)
    (lspans rspans : Spans) (h : closedCheck p goal rad seen lspans rspans = none) :
    goal.Never p.toF :=
  never_of_closed ((closedCheck_none_iff ..).1 h)

/-- For the goal `blank` a closed triple excludes more than the erase event: no step of the run
    lands on a blank tape (the "is blank again" reading of DESIGN section 3). -/
theorem closed_check_sound_blankAfter (p : Prog) (rad : Nat) (seen : List Config)
    (lspans rspans : Spans) (h : closedCheck p .blank rad seen lspans rspans = none) :
    ¬ ∃ n q, BlankAfter p.toF n q :=
  no_blankAfter_of_closed ((closedCheck_none_iff ..).1 h)

/-! ### A `true` run ends in a closed triple -/

/-- the work-list orders the driver uses satisfy `OrderOK` -/
theorem orderOK_id : OrderOK id := fun _ _ => Iff.rfl
theorem orderOK_reverse : OrderOK List.reverse := fun _ _ => List.mem_reverse

/-- **cps_true_closed.**  Whatever the limits, the inner fuel and the (membership-preserving)
    work-list order: when `cps_cant_reach` answers true, its final triple passes the closure check
    (the last pass made no update, so it ran with static span maps). -/
theorem cps_true_closed (p : Prog) (rad : Nat) (goal : Goal) (maxLoops maxDepth innerFuel : Nat)
    (order : List Config → List Config) (hord : OrderOK order) (cs : Configs)
    (h : cpsCantReach p rad goal maxLoops maxDepth innerFuel order = .yes cs) :
    closedCheck p goal rad cs.seen cs.lspans cs.rspans = none :=
  (closedCheck_none_iff ..).2 (cpsCantReach_closed hord h)

/-- **cps_run_sound**: `cps_run` (the `any` over the radii `2 .. rad-1`) answers true only if the
    goal event never happens. -/
theorem cps_run_sound (p : Prog) (rad : Nat) (goal : Goal) (maxLoops maxDepth : Nat)
    (order : List Config → List Config) (hord : OrderOK order)
    (h : cpsRun p rad goal maxLoops maxDepth order = .ok true) : goal.Never p.toF :=
  let ⟨_, _, hcl⟩ := cpsRun_closed hord h
  never_of_closed hcl

/-- For the goal `blank`, a true answer of `cps_run` (i.e. a true answer of `cps_cant_blank` that
    does not come from the early-true shortcut) excludes every return to the blank tape. -/
theorem cps_run_blank_sound_blankAfter (p : Prog) (rad : Nat) (maxLoops maxDepth : Nat)
    (order : List Config → List Config) (hord : OrderOK order)
    (h : cpsRun p rad .blank maxLoops maxDepth order = .ok true) :
    ¬ ∃ n q, BlankAfter p.toF n q :=
  let ⟨_, _, hcl⟩ := cpsRun_closed hord h
  no_blankAfter_of_closed hcl

/-! ### The three entry points -/

/-- **cps_cant_halt_sound** (the unrepaired code, `fixF2 = false`): for every radius, if
    `cps_cant_halt` answers true and the table size inferred from the defined keys covers every
    state and colour mentioned in an instruction (`paramsCover`, finding F2), the machine never
    halts. -/
theorem cps_cant_halt_sound (p : Prog) (rad : Nat) (order : List Config → List Config)
    (hord : OrderOK order) (hcov : paramsCover p = true)
    (h : cpsCantHalt p rad false order = .ok true) : ¬ Halts p.toF :=
  entry_sound (goal := .halt) hord (no_halt_of_no_slots p false (Or.inr hcov)) h

/-- **cps_cant_halt_sound_fix** (repaired `halt_slots`, `fixF2 = true`): no side condition. -/
theorem cps_cant_halt_sound_fix (p : Prog) (rad : Nat) (order : List Config → List Config)
    (hord : OrderOK order) (h : cpsCantHalt p rad true order = .ok true) : ¬ Halts p.toF :=
  entry_sound (goal := .halt) hord (no_halt_of_no_slots p true (Or.inl rfl)) h

/-- **cps_cant_blank_sound**: for every radius, if `cps_cant_blank` answers true, no step of the
    machine turns a non-blank tape blank. -/
theorem cps_cant_blank_sound (p : Prog) (rad : Nat) (order : List Config → List Config)
    (hord : OrderOK order) (h : cpsCantBlank p rad order = .ok true) :
    ¬ ∃ n, ErasesAt p.toF n :=
  entry_sound (goal := .blank) hord (no_erase_of_no_slots p) h

/-- **cps_cant_spin_out_sound**: for every radius, if `cps_cant_spin_out` answers true, the
    machine never reaches a spin-out configuration. -/
theorem cps_cant_spin_out_sound (p : Prog) (rad : Nat) (order : List Config → List Config)
    (hord : OrderOK order) (h : cpsCantSpinOut p rad order = .ok true) : ¬ SpinsOut p.toF :=
  entry_sound (goal := .spinout) hord (no_spinout_of_no_slots p) h

/-! ### Non-vacuity: the hypotheses hold on concrete runs that are not early-true -/

/-- `1RB 1LB  0LA ...` -/
def exHalt : Prog := [((0,0),(1,true,1)), ((0,1),(1,false,1)), ((1,0),(0,false,0))]
/-- `1RB 0LA  1LA 0RB` -/
def exBlank : Prog := [((0,0),(1,true,1)), ((0,1),(0,false,0)), ((1,0),(1,false,0)), ((1,1),(0,true,1))]
/-- `1RB 0LA  0LB 1RA` -/
def exSpin : Prog := [((0,0),(1,true,1)), ((0,1),(0,false,0)), ((1,0),(0,false,1)), ((1,1),(1,true,0))]

set_option maxRecDepth 100000 in
example : (exHalt.haltSlots false).isEmpty = false ∧ paramsCover exHalt = true ∧
    cpsCantHalt exHalt 3 false id = .ok true := by decide +kernel

set_option maxRecDepth 100000 in
example : (exHalt.haltSlots true).isEmpty = false ∧ cpsCantHalt exHalt 3 true id = .ok true := by
  decide +kernel

/-- the run on `exBlank` at radius 2 answers true, and its final triple passes the closure check -/
theorem exBlank_closed : ∃ cs, cpsCantReach exBlank 2 .blank = .yes cs ∧
    closedCheck exBlank .blank 2 cs.seen cs.lspans cs.rspans = none := by
  have h : (match cpsCantReach exBlank 2 .blank with
      | .yes cs => closedCheck exBlank .blank 2 cs.seen cs.lspans cs.rspans == none
      | _ => false) = true := by decide +kernel
  revert h
  cases cpsCantReach exBlank 2 .blank with
  | yes cs => exact fun h => ⟨cs, rfl, eq_of_beq h⟩
  | _ => exact nofun

/-- radius limit 3: the one radius tried is 2 -/
theorem exBlank_run : cpsRun exBlank 3 .blank MAX_LOOPS MAX_DEPTH id = .ok true := by
  obtain ⟨cs, h, _⟩ := exBlank_closed
  rw [cpsRun, if_neg (by decide), cpsRunFrom, h]

set_option maxRecDepth 100000 in
example : exBlank.eraseSlots.isEmpty = false ∧ cpsCantBlank exBlank 3 id = .ok true :=
  ⟨by decide, by rw [cpsCantBlank, exBlank_run]; exact ite_self _⟩

set_option maxRecDepth 100000 in
example : exSpin.zrShifts.isEmpty = false ∧ cpsCantSpinOut exSpin 3 id = .ok true := by decide +kernel

set_option maxRecDepth 100000 in
example : cpsRun exBlank 3 .blank MAX_LOOPS MAX_DEPTH id = .ok true := exBlank_run

set_option maxRecDepth 100000 in
example : ∃ cs, cpsCantReach exBlank 2 .blank = .yes cs ∧
    closedCheck exBlank .blank 2 cs.seen cs.lspans cs.rspans = none := exBlank_closed

/-! ### Witness: the unrepaired `cps_cant_halt` claims a halting machine cannot halt (finding F2) -/

/-- `1RB ...  1LA ...` -/
def progF2 : Prog := [((0,0),(1,true,1)), ((1,0),(1,false,0))]

/-- the table inferred from the keys has one colour, so no halt slot is seen: the answer is true for
    every radius although the machine halts at step 2 in slot A1; `paramsCover` excludes it, and the
    repaired test does not answer true -/
theorem cps_cant_halt_F2_witness :
    (∀ rad, cpsCantHalt progF2 rad false id = .ok true) ∧ HaltsAt progF2.toF 2 0 1 ∧
      paramsCover progF2 = false := by
  refine ⟨fun rad => by simp only [cpsCantHalt]; rfl, ⟨⟨0, [], 1, [1]⟩, ?_, rfl, rfl, by decide⟩,
    by decide⟩
  unfold RunAt; decide

theorem cps_cant_halt_F2_repaired : cpsCantHalt progF2 3 true id = .ok false := by decide +kernel

end BB.Cps
