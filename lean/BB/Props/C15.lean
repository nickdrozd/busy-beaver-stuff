/-
C15 — raising a limit never changes an answer already given.

Property theorems only; the lemmas live in BB/Lemmas/Mono{Base,Reason,Segment,Cps}.lean,
BB/Lemmas/ReasonMono.lean and BB/Lemmas/RecMono.lean.  The example programs `progA` .. `progQ`
are defined (with their source text) in BB/Lemmas/MonoBase.lean.

Every theorem is about the entry points the driver calls, for ALL programs (any association list,
parsed or not), ALL pairs of limits `l₁ ≤ l₂`, both values of the repair switches, and (CPS) every
iteration order.  In each model the limit is only the fuel of the outermost loop; the inner fuels
(`runFuel`, `searchFuel`, `innerFuelFor`) are computed from the loop variable of the iteration, not
from the limit, so no hypothesis about them is needed.

The "limit reached" answers are
  reasoner  `.ok .stepLimit`   (NOT `.depthLimit`: that is the MAX_STACK_DEPTH answer, and it is
                                preserved like every other answer),
  segment   `.ok .segmentLimit` (`.depthLimit` = MAX_DEPTH answer, preserved),
  CPS       `.ok false`,
  recurrence `.limit`.

Outcomes that are not answers (panics, model fuel): preserved as well, with one exception, stated
and witnessed below: the panic of the *entry assertion on the limit itself*
(`assert!(segs >= 2)`, `assert!(rad > 1)`) is of course not preserved.  The reasoner has no such
assertion, so there every outcome except `stepLimit` is preserved.
-/
import BB.Lemmas.MonoReason
import BB.Lemmas.MonoSegment
import BB.Lemmas.MonoCps
import BB.Lemmas.RecMono

namespace BB.C15

open BB

/-! ### 1. Backward reasoner (depth limit) -/

/-- **cant_halt.** Any outcome at depth `d₁` other than `step_limit` — an answer `refuted k`
    (same `k`), `init`, `linRec`, `spinout`, `depthLimit`, or the panic `.error _` — is the outcome
    at every depth `d₂ ≥ d₁`; for both values of both repair switches. -/
theorem cantHalt_mono (p : Prog) (d₁ d₂ : Nat) (fixF1 fixF2 : Bool)
    (r : PRes Reason.BackwardResult)
    (h : Reason.cantHalt p d₁ fixF1 fixF2 = r) (hne : r ≠ .ok .stepLimit) (hle : d₁ ≤ d₂) :
    Reason.cantHalt p d₂ fixF1 fixF2 = r :=
  Reason.cantReach_mono' fixF1 p _ d₁ d₂ r h hne hle

/-- **cant_blank.** As `cantHalt_mono`. -/
theorem cantBlank_mono (p : Prog) (d₁ d₂ : Nat) (fixF1 : Bool) (r : PRes Reason.BackwardResult)
    (h : Reason.cantBlank p d₁ fixF1 = r) (hne : r ≠ .ok .stepLimit) (hle : d₁ ≤ d₂) :
    Reason.cantBlank p d₂ fixF1 = r :=
  Reason.cantReach_mono' fixF1 p _ d₁ d₂ r h hne hle

/-- **cant_spin_out.** As `cantHalt_mono`. -/
theorem cantSpinOut_mono (p : Prog) (d₁ d₂ : Nat) (fixF1 : Bool) (r : PRes Reason.BackwardResult)
    (h : Reason.cantSpinOut p d₁ fixF1 = r) (hne : r ≠ .ok .stepLimit) (hle : d₁ ≤ d₂) :
    Reason.cantSpinOut p d₂ fixF1 = r :=
  Reason.cantReach_mono' fixF1 p _ d₁ d₂ r h hne hle

/-- The property in its own words: the larger depth gives the same outcome, or the smaller depth's
    answer was `step_limit`. -/
theorem cantHalt_dichotomy (p : Prog) (d₁ d₂ : Nat) (fixF1 fixF2 : Bool) (hle : d₁ ≤ d₂) :
    Reason.cantHalt p d₂ fixF1 fixF2 = Reason.cantHalt p d₁ fixF1 fixF2 ∨
      Reason.cantHalt p d₁ fixF1 fixF2 = .ok .stepLimit :=
  Decidable.or_iff_not_imp_right.2 fun hne => cantHalt_mono p d₁ d₂ fixF1 fixF2 _ rfl hne hle

theorem cantBlank_dichotomy (p : Prog) (d₁ d₂ : Nat) (fixF1 : Bool) (hle : d₁ ≤ d₂) :
    Reason.cantBlank p d₂ fixF1 = Reason.cantBlank p d₁ fixF1 ∨
      Reason.cantBlank p d₁ fixF1 = .ok .stepLimit :=
  Decidable.or_iff_not_imp_right.2 fun hne => cantBlank_mono p d₁ d₂ fixF1 _ rfl hne hle

theorem cantSpinOut_dichotomy (p : Prog) (d₁ d₂ : Nat) (fixF1 : Bool) (hle : d₁ ≤ d₂) :
    Reason.cantSpinOut p d₂ fixF1 = Reason.cantSpinOut p d₁ fixF1 ∨
      Reason.cantSpinOut p d₁ fixF1 = .ok .stepLimit :=
  Decidable.or_iff_not_imp_right.2 fun hne => cantSpinOut_mono p d₁ d₂ fixF1 _ rfl hne hle

/-- A refutation found at depth `d₁` is returned with the same step number at every depth above. -/
theorem cantHalt_refuted_mono (p : Prog) (d₁ d₂ k : Nat) (fixF1 fixF2 : Bool)
    (h : Reason.cantHalt p d₁ fixF1 fixF2 = .ok (.refuted k)) (hle : d₁ ≤ d₂) :
    Reason.cantHalt p d₂ fixF1 fixF2 = .ok (.refuted k) :=
  cantHalt_mono p d₁ d₂ fixF1 fixF2 _ h nofun hle

theorem cantBlank_refuted_mono (p : Prog) (d₁ d₂ k : Nat) (fixF1 : Bool)
    (h : Reason.cantBlank p d₁ fixF1 = .ok (.refuted k)) (hle : d₁ ≤ d₂) :
    Reason.cantBlank p d₂ fixF1 = .ok (.refuted k) :=
  cantBlank_mono p d₁ d₂ fixF1 _ h nofun hle

theorem cantSpinOut_refuted_mono (p : Prog) (d₁ d₂ k : Nat) (fixF1 : Bool)
    (h : Reason.cantSpinOut p d₁ fixF1 = .ok (.refuted k)) (hle : d₁ ≤ d₂) :
    Reason.cantSpinOut p d₂ fixF1 = .ok (.refuted k) :=
  cantSpinOut_mono p d₁ d₂ fixF1 _ h nofun hle

/-- A panic (the `assert!(*state == 0)` of `get_valid_steps`) at depth `d₁` is a panic at every
    depth above: errors persist. -/
theorem cantHalt_error_mono (p : Prog) (d₁ d₂ : Nat) (fixF1 fixF2 : Bool) (e : PErr)
    (h : Reason.cantHalt p d₁ fixF1 fixF2 = .error e) (hle : d₁ ≤ d₂) :
    Reason.cantHalt p d₂ fixF1 fixF2 = .error e :=
  cantHalt_mono p d₁ d₂ fixF1 fixF2 _ h nofun hle

theorem cantBlank_error_mono (p : Prog) (d₁ d₂ : Nat) (fixF1 : Bool) (e : PErr)
    (h : Reason.cantBlank p d₁ fixF1 = .error e) (hle : d₁ ≤ d₂) :
    Reason.cantBlank p d₂ fixF1 = .error e :=
  cantBlank_mono p d₁ d₂ fixF1 _ h nofun hle

theorem cantSpinOut_error_mono (p : Prog) (d₁ d₂ : Nat) (fixF1 : Bool) (e : PErr)
    (h : Reason.cantSpinOut p d₁ fixF1 = .error e) (hle : d₁ ≤ d₂) :
    Reason.cantSpinOut p d₂ fixF1 = .error e :=
  cantSpinOut_mono p d₁ d₂ fixF1 _ h nofun hle

/-- `1RB 1LA  0RC 1RC  1LA ...`: `step_limit` at depth 9, `refuted(9)` at depth 10, hence at 10000 -/
example : Reason.cantHalt progH 9 = .ok .stepLimit ∧
    Reason.cantHalt progH 10000 = .ok (.refuted 9) :=
  ⟨by decide +kernel,
    cantHalt_refuted_mono progH 10 10000 9 false false (by decide +kernel) (by decide)⟩

/-- the same with both repairs on: `init` from depth 3 -/
example : Reason.cantHalt progA 2 true true = .ok .stepLimit ∧
    Reason.cantHalt progA 10000 true true = .ok .init :=
  ⟨by decide +kernel,
    cantHalt_mono progA 3 10000 true true _ (by decide +kernel) (by decide) (by decide)⟩

/-- `1RB 0RC  1LB 1RC  0LA ...`: `step_limit` at depth 2, `refuted(2)` from depth 3 -/
example : Reason.cantBlank progA 2 = .ok .stepLimit ∧
    Reason.cantBlank progA 10000 = .ok (.refuted 2) :=
  ⟨by decide +kernel, cantBlank_refuted_mono progA 3 10000 2 false (by decide +kernel) (by decide)⟩

example : Reason.cantBlank progA 10000 true = .ok (.refuted 2) :=
  cantBlank_mono progA 3 10000 true _ (by decide +kernel) (by decide) (by decide)

/-- `step_limit` at depth 1, `refuted(1)` from depth 2 -/
example : Reason.cantSpinOut progA 1 = .ok .stepLimit ∧
    Reason.cantSpinOut progA 10000 = .ok (.refuted 1) :=
  ⟨by decide +kernel,
    cantSpinOut_refuted_mono progA 2 10000 1 false (by decide +kernel) (by decide)⟩

example : Reason.cantSpinOut progA 10000 true = .ok (.refuted 1) :=
  cantSpinOut_mono progA 2 10000 true _ (by decide +kernel) (by decide) (by decide)

/-- the dichotomy is not vacuous on either side -/
example : Reason.cantBlank progA 3 = Reason.cantBlank progA 2 ∨
    Reason.cantBlank progA 2 = .ok .stepLimit :=
  cantBlank_dichotomy progA 2 3 false (by decide)

example : Reason.cantHalt progH 12 = Reason.cantHalt progH 10 ∨
    Reason.cantHalt progH 10 = .ok .stepLimit :=
  cantHalt_dichotomy progH 10 12 false false (by decide)

example : Reason.cantSpinOut progA 5 = Reason.cantSpinOut progA 2 ∨
    Reason.cantSpinOut progA 2 = .ok .stepLimit :=
  cantSpinOut_dichotomy progA 2 5 false (by decide)

/-- `1RA ...  1LA 1LA` (state B is never entered): `step_limit` at depth 1, the panic from depth 2
    on (confirmed on the real code: `cant_halt 2..30` all panic). -/
example : Reason.cantHalt progP 1 = .ok .stepLimit ∧
    Reason.cantHalt progP 10000 = .error (.panic "assert!(*state == 0)") :=
  ⟨by decide +kernel,
    cantHalt_error_mono progP 2 10000 false false _ (by decide +kernel) (by decide)⟩

/-- `... 0RA  0LA ...`: `step_limit` at depth 1, the panic from depth 2 on (the same on the real
    code) -/
example : Reason.cantBlank [((0,1),(0,true,0)), ((1,0),(0,false,0))] 1 = .ok .stepLimit ∧
    Reason.cantBlank [((0,1),(0,true,0)), ((1,0),(0,false,0))] 10000
      = .error (.panic "assert!(*state == 0)") :=
  ⟨by decide +kernel, cantBlank_error_mono _ 2 10000 false _ (by decide +kernel) (by decide)⟩

/-- `... ...  ... 1RC  0RC ...`: `step_limit` at depth 1, the panic from depth 2 on (the same on
    the real code) -/
example : Reason.cantSpinOut [((1,1),(1,true,2)), ((2,0),(0,true,2))] 1 = .ok .stepLimit ∧
    Reason.cantSpinOut [((1,1),(1,true,2)), ((2,0),(0,true,2))] 10000
      = .error (.panic "assert!(*state == 0)") :=
  ⟨by decide +kernel, cantSpinOut_error_mono _ 2 10000 false _ (by decide +kernel) (by decide)⟩

/-! ### 2. Finite-segment analysis (segment limit) -/

/-- **segment `cant_halt`.** An answer at `s₁` other than `segment_limit` — `refuted k` (same `k`),
    `halt`, `blank`, `repeat`, `spinout`, `depthLimit` — is the answer at every `s₂ ≥ s₁`. -/
theorem segCantHalt_mono (prog : Prog) (params : Nat × Nat) (s₁ s₂ : Nat)
    (r : Segment.SegmentResult)
    (h : Segment.segCantHalt prog params s₁ = .ok r) (hne : r ≠ .segmentLimit) (hle : s₁ ≤ s₂) :
    Segment.segCantHalt prog params s₂ = .ok r :=
  Segment.segmentCantReach_ok_mono prog params .halt h hne hle

/-- **segment `cant_blank`.** -/
theorem segCantBlank_mono (prog : Prog) (params : Nat × Nat) (s₁ s₂ : Nat)
    (r : Segment.SegmentResult)
    (h : Segment.segCantBlank prog params s₁ = .ok r) (hne : r ≠ .segmentLimit) (hle : s₁ ≤ s₂) :
    Segment.segCantBlank prog params s₂ = .ok r :=
  Segment.segmentCantReach_ok_mono prog params .blank h hne hle

/-- **segment `cant_spin_out`.** -/
theorem segCantSpinOut_mono (prog : Prog) (params : Nat × Nat) (s₁ s₂ : Nat)
    (r : Segment.SegmentResult)
    (h : Segment.segCantSpinOut prog params s₁ = .ok r) (hne : r ≠ .segmentLimit) (hle : s₁ ≤ s₂) :
    Segment.segCantSpinOut prog params s₂ = .ok r :=
  Segment.segmentCantReach_ok_mono prog params .spinout h hne hle

/-- **the wrapper `py_segment_cant_*`** (params derived by `get_comp`), every goal, both values of
    `fixF2`. -/
theorem pySegmentCantReach_mono (prog : Prog) (goal : Segment.Term) (fixF2 : Bool) (s₁ s₂ : Nat)
    (r : Segment.SegmentResult)
    (h : Segment.pySegmentCantReach prog s₁ goal fixF2 = .ok r) (hne : r ≠ .segmentLimit)
    (hle : s₁ ≤ s₂) :
    Segment.pySegmentCantReach prog s₂ goal fixF2 = .ok r :=
  Segment.segmentCantReach_ok_mono prog _ goal h hne hle

/- Outcomes in general (answers, panics, model fuel).  The unrestricted statement

     theorem segmentCantReach_outcome_mono (prog params goal s₁ s₂ r)
         (h : Segment.segmentCantReach prog params s₁ goal = r) (hne : r ≠ .ok .segmentLimit)
         (hle : s₁ ≤ s₂) : Segment.segmentCantReach prog params s₂ goal = r

   is FALSE: `segs < 2` fails the entry assertion (`.error .panic`), `segs = 2` does not
   (`segmentCantReach_outcome_mono_counterexample`).  It holds under `2 ≤ s₁`. -/

/-- every outcome other than `segment_limit` of a call with `segs ≥ 2` — in particular a panic or a
    fuel exhaustion inside the loop — is the outcome for every larger `segs`
    (`segCantHalt/Blank/SpinOut` are this with `goal` fixed, `pySegmentCantReach` with `params`
    computed from the program). -/
theorem segmentCantReach_outcome_mono_partial (prog : Prog) (params : Nat × Nat)
    (goal : Segment.Term) (s₁ s₂ : Nat) (r : Except Segment.Err Segment.SegmentResult)
    (h2 : 2 ≤ s₁)
    (h : Segment.segmentCantReach prog params s₁ goal = r) (hne : r ≠ .ok .segmentLimit)
    (hle : s₁ ≤ s₂) :
    Segment.segmentCantReach prog params s₂ goal = r :=
  h ▸ Segment.segmentCantReach_mono prog params goal h2 hle (h ▸ hne)

theorem pySegmentCantReach_outcome_mono_partial (prog : Prog) (goal : Segment.Term) (fixF2 : Bool)
    (s₁ s₂ : Nat) (r : Except Segment.Err Segment.SegmentResult) (h2 : 2 ≤ s₁)
    (h : Segment.pySegmentCantReach prog s₁ goal fixF2 = r) (hne : r ≠ .ok .segmentLimit)
    (hle : s₁ ≤ s₂) :
    Segment.pySegmentCantReach prog s₂ goal fixF2 = r :=
  segmentCantReach_outcome_mono_partial prog _ goal s₁ s₂ r h2 h hne hle

/-- the entry assertion `segs >= 2`: below 2 every call panics, whatever the program and goal -/
theorem segmentCantReach_lt_two (prog : Prog) (params : Nat × Nat) (goal : Segment.Term) (s : Nat)
    (h : s < 2) : Segment.segmentCantReach prog params s goal = .error .panic := by
  rw [Segment.segmentCantReach, if_pos h]

/-- `1RB ...  1LB 1LC  1RC 0RB`, goal halt: `refuted(2)` at `segs = 2` -/
theorem progB_halt_two : Segment.segmentCantReach progB (3, 2) 2 .halt = .ok (.refuted 2) := by
  decide +kernel

/-- the same program, goal spin-out: the segments of size `2 + 2` and of size `2 + 3` are all
    reached, one of size `2 + 4` is not -/
theorem progB_spinout_rounds :
    Segment.allSegmentsReached (.new progB (3, 2)) (2 + 2) .spinout = .ok (some .reached) ∧
    Segment.allSegmentsReached (.new progB (3, 2)) (2 + 3) .spinout = .ok (some .reached) ∧
    Segment.allSegmentsReached (.new progB (3, 2)) (2 + 4) .spinout = .ok none := by
  decide +kernel

/-- past its two entry tests `segment_cant_reach` is the loop over the segment sizes -/
theorem progB_spinout_loop (n : Nat) : Segment.segmentCantReach progB (3, 2) (n + 2) .spinout =
    Segment.segmentLoop (.new progB (3, 2)) .spinout (n + 1) 2 := by
  rw [Segment.segmentCantReach, if_neg (Nat.not_lt_of_le (Nat.le_add_left 2 n))]
  exact if_neg (by decide +kernel)

/-- `segment_limit` at `segs = 3`, `refuted(4)` at `segs = 4` -/
theorem progB_spinout_three :
    Segment.segmentCantReach progB (3, 2) 3 .spinout = .ok .segmentLimit := by
  obtain ⟨r2, r3, _⟩ := progB_spinout_rounds
  rw [progB_spinout_loop 1, Segment.segmentLoop_of_reached r2, Segment.segmentLoop_of_reached r3]
  rfl

theorem progB_spinout_four :
    Segment.segmentCantReach progB (3, 2) 4 .spinout = .ok (.refuted 4) := by
  obtain ⟨r2, r3, r4⟩ := progB_spinout_rounds
  rw [progB_spinout_loop 2, Segment.segmentLoop_of_reached r2, Segment.segmentLoop_of_reached r3,
    Segment.segmentLoop_of_none r4]

/-- witness: `1RB ...  1LB 1LC  1RC 0RB`, `segs = 1` panics, `segs = 2` answers `refuted(2)`
    (the same on the real code). -/
theorem segmentCantReach_outcome_mono_counterexample :
    ¬ (∀ (prog : Prog) (params : Nat × Nat) (goal : Segment.Term) (s₁ s₂ : Nat)
        (r : Except Segment.Err Segment.SegmentResult),
        Segment.segmentCantReach prog params s₁ goal = r → r ≠ .ok .segmentLimit → s₁ ≤ s₂ →
        Segment.segmentCantReach prog params s₂ goal = r) :=
  fun hall => nomatch progB_halt_two.symm.trans
    (hall progB (3, 2) .halt 1 2 _ (segmentCantReach_lt_two _ _ _ 1 (by decide)) nofun (by decide))

/-- `1RB ...  1LB 1LC  1RC 0RB`: `refuted(2)` at `segs = 2`, hence at 10000 -/
example : Segment.segCantHalt progB (3, 2) 10000 = .ok (.refuted 2) :=
  segCantHalt_mono progB (3, 2) 2 10000 _ progB_halt_two (by decide) (by decide)

/-- `1RB 0RA  1LA 1RB`: `segment_limit` at 2, `blank` from 3 -/
example : Segment.segCantBlank progD (2, 2) 2 = .ok .segmentLimit ∧
    Segment.segCantBlank progD (2, 2) 10000 = .ok .blank :=
  ⟨by decide +kernel,
    segCantBlank_mono progD (2, 2) 3 10000 _ (by decide +kernel) (by decide) (by decide)⟩

/-- `1RB ...  1LB 1LC  1RC 0RB`: `segment_limit` at 3, `refuted(4)` from 4 -/
example : Segment.segCantSpinOut progB (3, 2) 3 = .ok .segmentLimit ∧
    Segment.segCantSpinOut progB (3, 2) 10000 = .ok (.refuted 4) :=
  ⟨progB_spinout_three,
    segCantSpinOut_mono progB (3, 2) 4 10000 _ progB_spinout_four (by decide) (by decide)⟩

example : Segment.pySegmentCantReach progB 10000 .spinout true = .ok (.refuted 4) :=
  pySegmentCantReach_mono progB .spinout true 4 10000 _ progB_spinout_four (by decide) (by decide)

/-- `1RB ...  0RC 0LC  ... ...`: the wrapper panics inside the loop at `segs = 2` (state C is
    missing from the analysed table, finding F2), hence at every `segs ≥ 2` (the same on the real
    code for `segs = 2..6`). -/
example : Segment.pySegmentCantReach progQ 10000 .blank = .error .panic :=
  pySegmentCantReach_outcome_mono_partial progQ .blank false 2 10000 _ (by decide)
    (by decide +kernel) (by decide) (by decide)

example : Segment.segmentCantReach progQ (2, 2) 10000 .blank = .error .panic :=
  segmentCantReach_outcome_mono_partial progQ (2, 2) .blank 2 10000 _ (by decide)
    (by decide +kernel) (by decide) (by decide)

example : Segment.segmentCantReach progB (3, 2) 1 .halt = .error .panic :=
  segmentCantReach_lt_two progB (3, 2) .halt 1 (by decide)

/-! ### 3. Closed position sets (radius limit) -/

/-- **`cps_cant_halt`.** A closed-set proof found with radius limit `r₁` is found with every
    `r₂ ≥ r₁` (both values of `fixF2`, every iteration order of the `HashSet`). -/
theorem cpsCantHalt_true_mono (p : Prog) (fixF2 : Bool) (order : List Cps.Config → List Cps.Config)
    (r₁ r₂ : Nat) (h : Cps.cpsCantHalt p r₁ fixF2 order = .ok true) (hle : r₁ ≤ r₂) :
    Cps.cpsCantHalt p r₂ fixF2 order = .ok true :=
  Cps.entry_true_mono _ p .halt _ _ order h hle

/-- **`cps_cant_blank`.** -/
theorem cpsCantBlank_true_mono (p : Prog) (order : List Cps.Config → List Cps.Config)
    (r₁ r₂ : Nat) (h : Cps.cpsCantBlank p r₁ order = .ok true) (hle : r₁ ≤ r₂) :
    Cps.cpsCantBlank p r₂ order = .ok true :=
  Cps.entry_true_mono _ p .blank _ _ order h hle

/-- **`cps_cant_spin_out`.** -/
theorem cpsCantSpinOut_true_mono (p : Prog) (order : List Cps.Config → List Cps.Config)
    (r₁ r₂ : Nat) (h : Cps.cpsCantSpinOut p r₁ order = .ok true) (hle : r₁ ≤ r₂) :
    Cps.cpsCantSpinOut p r₂ order = .ok true :=
  Cps.entry_true_mono _ p .spinout _ _ order h hle

/-- **`cps_run`** itself, for every value of the inner constants `MAX_LOOPS`, `MAX_DEPTH`. -/
theorem cpsRun_true_mono (p : Prog) (goal : Cps.Goal) (maxLoops maxDepth : Nat)
    (order : List Cps.Config → List Cps.Config) (r₁ r₂ : Nat)
    (h : Cps.cpsRun p r₁ goal maxLoops maxDepth order = .ok true) (hle : r₁ ≤ r₂) :
    Cps.cpsRun p r₂ goal maxLoops maxDepth order = .ok true :=
  Cps.entry_true_mono false p goal maxLoops maxDepth order h hle

/- Outcomes in general: `CpsOut` is `ok true | ok false | panic | fuel`; `ok false` is the
   limit answer.  The unrestricted statement

     theorem cpsCantHalt_outcome_mono (p fixF2 order r₁ r₂ out)
         (h : Cps.cpsCantHalt p r₁ fixF2 order = out) (hne : out ≠ .ok false) (hle : r₁ ≤ r₂) :
         Cps.cpsCantHalt p r₂ fixF2 order = out

   is FALSE for `out = .panic`: `rad ≤ 1` fails `assert!(rad > 1)`, `rad = 2` answers `false`
   and `rad = 3` may answer `true` (`cpsCantHalt_outcome_mono_counterexample`).  It holds under
   `2 ≤ r₁`: a panic or a fuel exhaustion *inside* a run at some radius persists. -/

theorem cpsCantHalt_outcome_mono_partial (p : Prog) (fixF2 : Bool)
    (order : List Cps.Config → List Cps.Config) (r₁ r₂ : Nat) (out : Cps.CpsOut) (h2 : 2 ≤ r₁)
    (h : Cps.cpsCantHalt p r₁ fixF2 order = out) (hne : out ≠ .ok false) (hle : r₁ ≤ r₂) :
    Cps.cpsCantHalt p r₂ fixF2 order = out := by
  subst h; exact Cps.entry_mono _ p .halt _ _ order h2 hle hne

theorem cpsCantBlank_outcome_mono_partial (p : Prog)
    (order : List Cps.Config → List Cps.Config) (r₁ r₂ : Nat) (out : Cps.CpsOut) (h2 : 2 ≤ r₁)
    (h : Cps.cpsCantBlank p r₁ order = out) (hne : out ≠ .ok false) (hle : r₁ ≤ r₂) :
    Cps.cpsCantBlank p r₂ order = out := by
  subst h; exact Cps.entry_mono _ p .blank _ _ order h2 hle hne

theorem cpsCantSpinOut_outcome_mono_partial (p : Prog)
    (order : List Cps.Config → List Cps.Config) (r₁ r₂ : Nat) (out : Cps.CpsOut) (h2 : 2 ≤ r₁)
    (h : Cps.cpsCantSpinOut p r₁ order = out) (hne : out ≠ .ok false) (hle : r₁ ≤ r₂) :
    Cps.cpsCantSpinOut p r₂ order = out := by
  subst h; exact Cps.entry_mono _ p .spinout _ _ order h2 hle hne

theorem cpsRun_outcome_mono_partial (p : Prog) (goal : Cps.Goal) (maxLoops maxDepth : Nat)
    (order : List Cps.Config → List Cps.Config) (r₁ r₂ : Nat) (out : Cps.CpsOut) (h2 : 2 ≤ r₁)
    (h : Cps.cpsRun p r₁ goal maxLoops maxDepth order = out) (hne : out ≠ .ok false)
    (hle : r₁ ≤ r₂) :
    Cps.cpsRun p r₂ goal maxLoops maxDepth order = out :=
  h ▸ Cps.cpsRun_mono p goal maxLoops maxDepth order h2 hle (h ▸ hne)

/-- the dichotomy, for limits that pass the entry assertion -/
theorem cpsCantHalt_dichotomy (p : Prog) (fixF2 : Bool) (order : List Cps.Config → List Cps.Config)
    (r₁ r₂ : Nat) (h2 : 2 ≤ r₁) (hle : r₁ ≤ r₂) :
    Cps.cpsCantHalt p r₂ fixF2 order = Cps.cpsCantHalt p r₁ fixF2 order ∨
      Cps.cpsCantHalt p r₁ fixF2 order = .ok false :=
  Decidable.or_iff_not_imp_right.2 (Cps.entry_mono _ p .halt _ _ order h2 hle)

theorem cpsCantBlank_dichotomy (p : Prog) (order : List Cps.Config → List Cps.Config)
    (r₁ r₂ : Nat) (h2 : 2 ≤ r₁) (hle : r₁ ≤ r₂) :
    Cps.cpsCantBlank p r₂ order = Cps.cpsCantBlank p r₁ order ∨
      Cps.cpsCantBlank p r₁ order = .ok false :=
  Decidable.or_iff_not_imp_right.2 (Cps.entry_mono _ p .blank _ _ order h2 hle)

theorem cpsCantSpinOut_dichotomy (p : Prog) (order : List Cps.Config → List Cps.Config)
    (r₁ r₂ : Nat) (h2 : 2 ≤ r₁) (hle : r₁ ≤ r₂) :
    Cps.cpsCantSpinOut p r₂ order = Cps.cpsCantSpinOut p r₁ order ∨
      Cps.cpsCantSpinOut p r₁ order = .ok false :=
  Decidable.or_iff_not_imp_right.2 (Cps.entry_mono _ p .spinout _ _ order h2 hle)

/-- the entry assertion `rad > 1`, and the empty range `2..2` -/
theorem cpsRun_le_one (p : Prog) (goal : Cps.Goal) (maxLoops maxDepth : Nat)
    (order : List Cps.Config → List Cps.Config) (rad : Nat) (h : rad ≤ 1) :
    Cps.cpsRun p rad goal maxLoops maxDepth order = .panic := by
  rw [Cps.cpsRun, if_pos h]

theorem cpsRun_two (p : Prog) (goal : Cps.Goal) (maxLoops maxDepth : Nat)
    (order : List Cps.Config → List Cps.Config) :
    Cps.cpsRun p 2 goal maxLoops maxDepth order = .ok false :=
  rfl

/-- witness: `1RB ...  1LB 0RB`: `rad = 1` panics, `rad = 2` answers `false`, `rad = 3` answers
    `true` (the same on the real code). -/
theorem cpsCantHalt_outcome_mono_counterexample :
    ¬ (∀ (p : Prog) (fixF2 : Bool) (order : List Cps.Config → List Cps.Config) (r₁ r₂ : Nat)
        (out : Cps.CpsOut),
        Cps.cpsCantHalt p r₁ fixF2 order = out → out ≠ .ok false → r₁ ≤ r₂ →
        Cps.cpsCantHalt p r₂ fixF2 order = out) :=
  fun hall => absurd (hall progC false id 1 3 .panic (by decide +kernel) nofun (by decide))
    (by decide +kernel)

/-- `1RB ...  1LB 0RB`: `false` at radius limit 2, `true` from 3 -/
example : Cps.cpsCantHalt progC 2 = .ok false ∧ Cps.cpsCantHalt progC 10000 = .ok true :=
  ⟨by decide +kernel, cpsCantHalt_true_mono progC false id 3 10000 (by decide +kernel) (by decide)⟩

/-- with `fixF2` and the reversed work-list order -/
example : Cps.cpsCantHalt progC 10000 true List.reverse = .ok true :=
  cpsCantHalt_true_mono progC true List.reverse 3 10000 (by decide +kernel) (by decide)

/-- `1RB 0RC  1LB 1RC  0LA ...`: `false` at 2, `true` from 3 -/
example : Cps.cpsCantBlank progA 2 = .ok false ∧ Cps.cpsCantBlank progA 10000 = .ok true :=
  ⟨by decide +kernel, cpsCantBlank_true_mono progA id 3 10000 (by decide +kernel) (by decide)⟩

example : Cps.cpsCantSpinOut progA 2 = .ok false ∧ Cps.cpsCantSpinOut progA 10000 = .ok true :=
  ⟨by decide +kernel, cpsCantSpinOut_true_mono progA id 3 10000 (by decide +kernel) (by decide)⟩

/-- `cps_run` with small inner constants -/
example : Cps.cpsRun progC 10000 .halt 50 1000 id = .ok true :=
  cpsRun_true_mono progC .halt 50 1000 id 3 10000 (by decide +kernel) (by decide)

example : Cps.cpsCantHalt progC 10000 = .ok true :=
  cpsCantHalt_outcome_mono_partial progC false id 3 10000 _ (by decide) (by decide +kernel)
    (by decide) (by decide)

example : Cps.cpsCantBlank progA 10000 = .ok true :=
  cpsCantBlank_outcome_mono_partial progA id 3 10000 _ (by decide) (by decide +kernel) (by decide)
    (by decide)

example : Cps.cpsCantSpinOut progA 10000 = .ok true :=
  cpsCantSpinOut_outcome_mono_partial progA id 3 10000 _ (by decide) (by decide +kernel) (by decide)
    (by decide)

/-- the general form on `cps_run` with small inner constants and the reversed order -/
example : Cps.cpsRun progC 10000 .halt 50 1000 List.reverse = .ok true :=
  cpsRun_outcome_mono_partial progC .halt 50 1000 List.reverse 3 10000 _ (by decide)
    (by decide +kernel) (by decide) (by decide)

example : Cps.cpsCantHalt progC 5 = Cps.cpsCantHalt progC 3 ∨ Cps.cpsCantHalt progC 3 = .ok false :=
  cpsCantHalt_dichotomy progC false id 3 5 (by decide) (by decide)

example : Cps.cpsCantBlank progA 3 = Cps.cpsCantBlank progA 2 ∨
    Cps.cpsCantBlank progA 2 = .ok false :=
  cpsCantBlank_dichotomy progA id 2 3 (by decide) (by decide)

example : Cps.cpsCantSpinOut progA 3 = Cps.cpsCantSpinOut progA 2 ∨
    Cps.cpsCantSpinOut progA 2 = .ok false :=
  cpsCantSpinOut_dichotomy progA id 2 3 (by decide) (by decide)

example : Cps.cpsRun progC 1 .halt 50 1000 id = .panic :=
  cpsRun_le_one progC .halt 50 1000 id 1 (by decide)

/-! ### 4. Quick recurrence check (cycle limit) -/

/-- **`quick_term_or_rec`.** A verdict other than `limit` (`recur`, `spinout`, `undefined slot`) is
    unchanged by a larger cycle limit: the limit is the fuel of `recLoop`. -/
theorem quickTermOrRec_mono (p : Prog) (l₁ l₂ : Nat) (h : l₁ ≤ l₂)
    (hne : quickTermOrRec p l₁ ≠ .limit) : quickTermOrRec p l₂ = quickTermOrRec p l₁ :=
  recLoop_mono p hne (Nat.sub_le_sub_right h 1)

/-- `1RB ...  1LB 1LC  1RC 0RB`: `limit` with 3 cycles, `recur` with 50, hence with 10000 -/
example : quickTermOrRec progB 3 = .limit ∧ quickTermOrRec progB 10000 = .recur := by
  refine ⟨by decide +kernel, ?_⟩
  have h50 : quickTermOrRec progB 50 = .recur := by decide +kernel
  rw [quickTermOrRec_mono progB 50 10000 (by decide) (by rw [h50]; decide), h50]

end BB.C15
