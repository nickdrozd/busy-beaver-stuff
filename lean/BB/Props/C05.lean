/-
C05 — segment analysis verdicts are true of the real machine.
Property theorems only; helper lemmas live in BB/Lemmas/Seg*.lean.
(The definitions `Span.unroll`, `Config.toCfg`, `ExactAt`, `InitExact`, `paramsCover` used by the
statements live at the top of BB/Lemmas/SegTape.lean; `CfgOK`, `TodoOK` in SegSearchStep.lean.)
-/
import BB.Lemmas.SegBlankGoal

namespace BB.Segment

open BB

/-! ### Positive verdicts

The four theorems are the cases of `segmentCantReach_verdict`.  They hold for every program (any
association list), every explicit `params`, every segment limit and every goal: the verdicts
`halt`, `spinout`, `repeat` can be returned whatever the goal is (an exact configuration that
halts / spins out / repeats ends the search). -/

/-- **seg_halt_true.** If the segment analysis (any goal) answers that the machine halts, the real
    machine, started on the blank tape, reaches an undefined instruction. -/
theorem seg_halt_true (prog : Prog) (params : Nat × Nat) (segs : Nat) (goal : Term)
    (h : segmentCantReach prog params segs goal = .ok .halt) : Halts prog.toF :=
  segmentCantReach_verdict prog params segs goal _ h

/-- **seg_blank_true.** If the analysis answers `blank`, the real machine's tape is all blank after
    some `n ≥ 1` steps. -/
theorem seg_blank_true (prog : Prog) (params : Nat × Nat) (segs : Nat) (goal : Term)
    (h : segmentCantReach prog params segs goal = .ok .blank) :
    ∃ n q, BlankAfter prog.toF n q :=
  segmentCantReach_verdict prog params segs goal _ h

/-- **seg_spinout_true.** If the analysis answers `spinout`, the real machine reaches a spin-out
    configuration. -/
theorem seg_spinout_true (prog : Prog) (params : Nat × Nat) (segs : Nat) (goal : Term)
    (h : segmentCantReach prog params segs goal = .ok .spinout) : SpinsOut prog.toF :=
  segmentCantReach_verdict prog params segs goal _ h

/-- **seg_repeat_forever.** If the analysis answers `repeat`, the real machine runs forever without
    halting. -/
theorem seg_repeat_forever (prog : Prog) (params : Nat × Nat) (segs : Nat) (goal : Term)
    (h : segmentCantReach prog params segs goal = .ok .repeat) : NeverHalts prog.toF :=
  segmentCantReach_verdict prog params segs goal _ h

/-- **init_exact.** The invariant behind the four theorems, on one iteration of the search loop
    (`searchStep` = one `while let` iteration of `all_segments_reached`): if the configuration taken
    from the stack and every pending configuration are well formed and satisfy `InitExact` — a set
    `init` flag means: cell for cell inside the window, blank outside, the configuration of the real
    machine after some number of steps — then so does every pending configuration afterwards.
    (Initially the stack is empty, and the initial configurations satisfy it at time 0.) -/
theorem init_exact (ap : AnalyzedProg) (goal : Term) (fuel : Nat) (config : Config)
    (configs configs' : Configs) (hok : CfgOK ap.prog config) (hc : TodoOK ap.prog configs)
    (h : searchStep ap goal fuel config configs = .ok (.cont configs')) : TodoOK ap.prog configs' := by
  have := searchStep_spec ap goal fuel config configs hok hc
  rwa [h] at this

/-! ### Non-vacuity: each verdict occurs -/

/-- `1RB ...  1LA ...` -/
def progHalt : Prog := [((0,0),(1,true,1)), ((1,0),(1,false,0))]
/-- `1RB ...  0RB ...` -/
def progSpin : Prog := [((0,0),(1,true,1)), ((1,0),(0,true,1))]
/-- `1LB 0LA  0RA ...` -/
def progBlank : Prog := [((0,0),(1,false,1)), ((0,1),(0,false,0)), ((1,0),(0,true,0))]
/-- `1RB 1LB  1LB 1RA` -/
def progRepeat : Prog :=
  [((0,0),(1,true,1)), ((0,1),(1,false,1)), ((1,0),(1,false,1)), ((1,1),(1,true,0))]

set_option maxRecDepth 100000 in
example : segCantHalt progHalt (2, 2) 2 = .ok .halt := by decide +kernel
set_option maxRecDepth 100000 in
example : segCantSpinOut progSpin (2, 2) 2 = .ok .spinout := by decide +kernel
set_option maxRecDepth 100000 in
example : segCantBlank progBlank (2, 2) 2 = .ok .blank := by decide +kernel
set_option maxRecDepth 100000 in
example : segCantSpinOut progRepeat (2, 2) 2 = .ok .repeat := by decide +kernel

/-! ### Soundness of `refuted`

`seg_refuted_sound` is the statement for all goals; the three theorems per goal are its cases.
Hypothesis `paramsCover prog params` (decidable, BB/Lemmas/SegTape.lean): `params` has at least
state 0 and colour 0, and every state / colour occurring in a key *or inside an instruction* of
the program is below `params`.  No bound on `segs`; the program is any association list. -/

/-- **seg_refuted_sound (halt).** If the segment analysis with explicit, covering `params` answers
    `refuted` for the goal halt, the real machine never reaches an undefined instruction. -/
theorem seg_refuted_sound_halt (prog : Prog) (params : Nat × Nat) (segs k : Nat)
    (hpc : paramsCover prog params = true)
    (h : segCantHalt prog params segs = .ok (.refuted k)) : ¬ Halts prog.toF := by
  rintro ⟨n, _, _, c, hr, rfl, rfl, hn⟩
  exact refuted_no_event hpc h ⟨n, c, hr, hn⟩

/-- **seg_refuted_sound (spin-out).** If the analysis with covering `params` answers `refuted` for
    the goal spin-out, the real machine never reaches a spin-out configuration. -/
theorem seg_refuted_sound_spinout (prog : Prog) (params : Nat × Nat) (segs k : Nat)
    (hpc : paramsCover prog params = true)
    (h : segCantSpinOut prog params segs = .ok (.refuted k)) : ¬ SpinsOut prog.toF :=
  refuted_no_event hpc h

/-- **seg_blank_never_refuted.** For the goal blank the analysis *never* answers `refuted` — for
    any program, any `params`, any limit.  (The initial positions are tried in order; position
    `seg - 1` can only enter `blanks[0]` when it is tried itself, and at that moment all `seg`
    positions are in the union of the `blanks` sets, so `check_reached_blank` answers `reached`
    and the next segment size is tried, until a positive verdict or a limit.)  So a refutation of
    "blank" by this analysis is vacuously sound, and the analysis cannot refute blanking. -/
theorem seg_blank_never_refuted (prog : Prog) (params : Nat × Nat) (segs k : Nat) :
    segCantBlank prog params segs ≠ .ok (.refuted k) :=
  blank_never_refuted prog params segs k

/-- **seg_refuted_sound (blank).** Held to the erase event as the design requires; true because the
    hypothesis never holds (`seg_blank_never_refuted`), hence no `example` for it. -/
theorem seg_refuted_sound_blank (prog : Prog) (params : Nat × Nat) (segs k : Nat)
    (h : segCantBlank prog params segs = .ok (.refuted k)) : ¬ ∃ n, ErasesAt prog.toF n :=
  absurd h (seg_blank_never_refuted prog params segs k)

/-- what the answer `refuted` for a goal claims about the real machine (a refutation of `blank` is
    held to the erase event) -/
def RefutedClaim (p : ProgF) : Term → Prop
  | .halt => ¬ Halts p
  | .blank => ¬ ∃ n, ErasesAt p n
  | .spinout => ¬ SpinsOut p

/-- **seg_refuted_sound**, all goals at once: `RefutedClaim p goal` is `¬ Halts p`,
    `¬ ∃ n, ErasesAt p n`, `¬ SpinsOut p` for the goals halt, blank, spin-out. -/
theorem seg_refuted_sound (prog : Prog) (params : Nat × Nat) (segs k : Nat) (goal : Term)
    (hpc : paramsCover prog params = true)
    (h : segmentCantReach prog params segs goal = .ok (.refuted k)) :
    RefutedClaim prog.toF goal := by
  cases goal with
  | halt => exact seg_refuted_sound_halt prog params segs k hpc h
  | spinout => exact seg_refuted_sound_spinout prog params segs k hpc h
  | blank => exact seg_refuted_sound_blank prog params segs k h

/-- **The repaired wrapper is sound.** With `fixF2 = true` the string wrapper's parameters cover the
    program (`paramsCover_fix`), so its `refuted` needs no hypothesis at all. -/
theorem py_segment_fixed_sound (prog : Prog) (segs k : Nat) (goal : Term)
    (h : pySegmentCantReach prog segs goal true = .ok (.refuted k)) :
    RefutedClaim prog.toF goal :=
  seg_refuted_sound prog _ segs k goal (paramsCover_fix prog) h

/-- `0LB ...  1LA 0RB`: the halting slot `A1` is never reached -/
def progNoHalt : Prog := [((0,0),(0,false,1)), ((1,0),(1,false,0)), ((1,1),(0,true,1))]
/-- `1LB 0LA  1RB 1LB` -/
def progNoSpin : Prog :=
  [((0,0),(1,false,1)), ((0,1),(0,false,0)), ((1,0),(1,true,1)), ((1,1),(1,false,1))]

set_option maxRecDepth 100000 in
example : paramsCover progNoHalt (2, 2) = true ∧
    segCantHalt progNoHalt (2, 2) 3 = .ok (.refuted 2) := by decide +kernel
set_option maxRecDepth 100000 in
example : paramsCover progNoSpin (2, 2) = true ∧
    segCantSpinOut progNoSpin (2, 2) 3 = .ok (.refuted 3) := by decide +kernel

/-- why `paramsCover` asks for at least one state and one colour: with the empty table size the
    analysis finds no halting slot although the (empty) program halts at once -/
theorem seg_refuted_needs_positive_params :
    segCantHalt [] (0, 0) 2 = .ok (.refuted 0) ∧ HaltsAt (Prog.toF []) 0 0 0 :=
  ⟨by decide +kernel, ⟨Cfg.init, rfl, rfl, rfl, rfl⟩⟩

/-! ### Witness for finding F2: the string wrapper's table size -/

/-- **F2 witness.** For `1RB ...  1LA ...` the unrepaired wrapper derives `params = (2, 1)` from the
    defined keys only — colour 1, which the program prints, is not covered — finds no halting slot
    and answers `refuted 0`, although the machine halts after 2 steps (in state A on colour 1).
    With `fixF2` the answer is `halt`. -/
theorem seg_cant_halt_F2_witness :
    paramsCover progHalt (getCompParams progHalt) = false ∧
    pySegmentCantReach progHalt 2 .halt = .ok (.refuted 0) ∧ HaltsAt progHalt.toF 2 0 1 ∧
    pySegmentCantReach progHalt 2 .halt true = .ok .halt := by
  refine ⟨by decide +kernel, by decide +kernel, ⟨⟨0, [], 1, [1]⟩, ?_, rfl, rfl, by decide⟩,
    by decide +kernel⟩
  unfold RunAt; decide

end BB.Segment
