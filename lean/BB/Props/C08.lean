/-
C08 — the block macro machine simulates the base machine exactly.

The definitions used by the statements (`innerOf`, `closedB`, `embed`, `InWindow`, `enterCfg`,
`exitCfg`, `RunsIn`, `HaltsInside`, `NeverLeaves`, `macroF`, `decL`, `decR`, `decCfg`) are at the
top of BB/Lemmas/MacroDefs.lean.  The instruction theorems are the kind-free `SlotWindow` lemmas
(BB/Lemmas/MacroMachine.lean: decode, `runSimulator`, encode) at the block's window
`block_slotWindow`; the machine theorems follow from them, the run by `sim_run`.

The macro is the stateless `pureInstr` over a base program `p : ProgF`
(`innerOf p = fun s => .ok (p s.1 s.2)`); its tie to the stateful `MacroProg` object is C16.
`lp : LogicParams` with `lp.kind = .block`: `k = lp.cells` cells per block, built with
`params = (lp.baseStates, lp.baseColors)`.

Hypotheses common to the theorems (all decidable):
  * `1 ≤ lp.cells`                                 (k ≥ 1)
  * `0 < lp.baseColors` (and `0 < lp.baseStates` for runs from the blank tape)
  * `closedB p lp.baseStates lp.baseColors = true`: on states `< S` and colours `< C` the base
    program prints only colours `< C` and enters only states `< S`, i.e. the macro was built with
    the `params` of its program
  * `ms < 2 * lp.baseStates`                        (the macro state is in range)
No hypothesis on the macro colour is needed: `decode` reads the `k` low digits.
-/
import BB.Lemmas.MacroMachine

namespace BB.MacroSim

open BB BB.Macros

/-- For a table `t : Prog` the one-level `pureChain` of the model is this `pureInstr`. -/
theorem block_pureChain (t : Prog) (params : Nat × Nat) (f : Bool) (k : Nat) (slot : Slot) :
    pureChain t params f [(.block, k)] slot =
      pureInstr (innerOf t.toF) ⟨.block, k, params.1, params.2⟩ f slot := rfl

/-- `closedB` says what it should. -/
theorem closedB_iff (p : ProgF) (S C : Nat) :
    closedB p S C = true ↔
      ∀ q s pr sh q', q < S → s < C → p q s = some (pr, sh, q') → pr < C ∧ q' < S :=
  ⟨closed_of_closedB, closedB_of_closed⟩

/-- **block_instr_some.**  If the macro instruction of slot `(ms, mc)` is `(mc', d, ms')`, then the
    base machine started in state `ms / 2` with the head on the left (`ms % 2 = 0`) or right
    (`ms % 2 = 1`) end cell of a `k`-cell window holding `decode mc`, with ARBITRARY cells `outL`,
    `outR` outside, runs `n ≥ 1` steps such that: at steps `0 .. n-1` the head is in the window
    (and no instruction is undefined), and step `n` puts the head on the first cell outside, on
    side `d`, in state `ms' / 2`, the window then holding `decode mc'` and `outL`, `outR` being
    unchanged.  `ms' % 2` is the end of the NEIGHBOURING block the head is then on: leaving to the
    right (`d = true`) it is on the neighbour's left end (`0`), leaving to the left on its right
    end (`1`).  The outputs are in range again. -/
theorem block_instr_some (p : ProgF) (lp : LogicParams) (fixF3 : Bool) (ms mc mc' ms' : Nat)
    (d : Bool) (hk : lp.kind = .block) (hc : 1 ≤ lp.cells) (hC : 0 < lp.baseColors)
    (hms : ms < 2 * lp.baseStates) (hcl : closedB p lp.baseStates lp.baseColors = true)
    (h : pureInstr (innerOf p) lp fixF3 (ms, mc) = .ok (some (mc', d, ms')))
    (outL outR : List Nat) :
    ∃ n, 1 ≤ n ∧
      RunsIn p lp.cells outL outR n
        (enterCfg (ms / 2) (ms % 2 == 1) (decode lp.baseColors lp.cells mc) outL outR)
        (exitCfg (ms' / 2) d (decode lp.baseColors lp.cells mc') outL outR) ∧
      ms' % 2 = (if d then 0 else 1) ∧ ms' < 2 * lp.baseStates ∧
      mc' < lp.baseColors ^ lp.cells := by
  obtain ⟨q', d', t, hi, ⟨hq', hlen, hlt⟩, n, hn, hr⟩ :=
    (block_slotWindow fixF3 hk hc ms mc).of_some (closed_of_closedB hcl)
      ⟨Nat.div_lt_of_lt_mul hms, decode_length _ _ _, decode_lt _ _ _ hC⟩ h outL outR
  rw [pureReconstructOutputs_block hk] at hi
  simp only [Except.ok.injEq, Prod.mk.injEq] at hi
  obtain ⟨rfl, rfl, rfl⟩ := hi
  obtain ⟨a1, a2, a3⟩ := two_mul_add (e := if d' then 0 else 1) (by cases d' <;> decide) hq'
  rw [a1, decode_encode hlen hlt]
  exact ⟨n, hn, hr, a2, a3, hlen ▸ (encode_lt_and_decode _ _ hlt).1⟩

/-- **block_instr_none.**  The macro machine has no instruction for slot `(ms, mc)` exactly when the
    base machine, entering that block in that state from that side, halts inside it (stands in the
    window on an undefined instruction) or never leaves it.  The direction `→` is where `sim_lim`
    matters: `lp.simLim = S * k * C ^ k` is the number of (state, position, window) triples, so by
    pigeonhole a run still inside after that many loop iterations repeats a configuration. -/
theorem block_instr_none (p : ProgF) (lp : LogicParams) (fixF3 : Bool) (ms mc : Nat)
    (hk : lp.kind = .block) (hc : 1 ≤ lp.cells) (hC : 0 < lp.baseColors)
    (hms : ms < 2 * lp.baseStates) (hcl : closedB p lp.baseStates lp.baseColors = true)
    (outL outR : List Nat) :
    pureInstr (innerOf p) lp fixF3 (ms, mc) = .ok none ↔
      (HaltsInside p lp.cells outL outR
          (enterCfg (ms / 2) (ms % 2 == 1) (decode lp.baseColors lp.cells mc) outL outR) ∨
        NeverLeaves p lp.cells outL outR
          (enterCfg (ms / 2) (ms % 2 == 1) (decode lp.baseColors lp.cells mc) outL outR)) := by
  have hw := block_slotWindow fixF3 hk hc ms mc
  have hcl' := closed_of_closedB hcl
  have h0 : Fits lp.baseStates lp.baseColors lp.cells (ms / 2) (decode lp.baseColors lp.cells mc) :=
    ⟨Nat.div_lt_of_lt_mul hms, decode_length _ _ _, decode_lt _ _ _ hC⟩
  exact ⟨fun h => (hw.of_none hcl' h0 h outL outR).imp_right
      fun h => h.2 (Nat.le_of_eq (simLim_block hk).symm),
    hw.to_none hcl' h0 outL outR⟩

/-- **block_instr_no_error.**  For `k ≥ 1` the block macro instruction is never an error
    (no panic, no `usize` underflow), for EVERY slot and every base program.
    (For `k = 0` a right-edge slot underflows `cells - 1`.) -/
theorem block_instr_no_error (p : ProgF) (lp : LogicParams) (fixF3 : Bool) (slot : Slot) (e : Err)
    (hk : lp.kind = .block) (hc : 1 ≤ lp.cells) :
    pureInstr (innerOf p) lp fixF3 slot ≠ .error e :=
  (block_slotWindow fixF3 hk hc slot.1 slot.2).no_error p e

/-- **block_macro_step.**  One step `c → c'` of the macro machine `macroF p lp` (an L0 machine over
    macro states and colours) is `n ≥ 1` steps of the base machine from `decCfg c` to a
    configuration equal, up to trailing blanks (`≈c`), to `decCfg c'`; during the first `n`
    configurations the head stays in the current block; the macro state stays in range. -/
theorem block_macro_step (p : ProgF) (lp : LogicParams) (fixF3 : Bool) (hk : lp.kind = .block)
    (hc : 1 ≤ lp.cells) (hC : 0 < lp.baseColors)
    (hcl : closedB p lp.baseStates lp.baseColors = true) (c c' : Cfg)
    (hms : c.state < 2 * lp.baseStates) (h : step1 (macroF p lp fixF3) c = some c') :
    c'.state < 2 * lp.baseStates ∧
    ∃ n b', 1 ≤ n ∧
      RunsIn p lp.cells (decL lp.baseColors lp.cells c.left) (decR lp.baseColors lp.cells c.right)
        n (decCfg lp c) b' ∧
      b' ≈c decCfg lp c' := by
  obtain ⟨mc', d, ms', hp, rfl⟩ := step1_macroF_some h
  obtain ⟨n, hn, hr, hpar, hlt, _⟩ := block_instr_some p lp fixF3 c.state c.scan mc' ms' d hk hc hC
    hms hcl hp (decL lp.baseColors lp.cells c.left) (decR lp.baseColors lp.cells c.right)
  exact ⟨by cases d <;> exact hlt, n, _, hn, hr, exitCfg_equiv_decCfg lp hc c mc' ms' d hpar⟩

/-- **block_macro_halt.**  The macro machine has no step in `c` exactly when the base machine, from
    the decoded configuration, halts inside the current block or never leaves it. -/
theorem block_macro_halt (p : ProgF) (lp : LogicParams) (fixF3 : Bool) (hk : lp.kind = .block)
    (hc : 1 ≤ lp.cells) (hC : 0 < lp.baseColors)
    (hcl : closedB p lp.baseStates lp.baseColors = true) (c : Cfg)
    (hms : c.state < 2 * lp.baseStates) :
    step1 (macroF p lp fixF3) c = none ↔
      (HaltsInside p lp.cells (decL lp.baseColors lp.cells c.left)
          (decR lp.baseColors lp.cells c.right) (decCfg lp c) ∨
        NeverLeaves p lp.cells (decL lp.baseColors lp.cells c.left)
          (decR lp.baseColors lp.cells c.right) (decCfg lp c)) :=
  (step1_macroF_none fun e => block_instr_no_error p lp fixF3 _ e hk hc).trans
    (block_instr_none p lp fixF3 c.state c.scan hk hc hC hms hcl _ _)

/-- **block_macro_sim.**  If the macro machine, from the blank tape, is in `C` after `N` macro
    steps, there are base step counts `t 0 = 0 < t 1 < … < t N` such that for every `i ≤ N` the
    macro configuration after `i` macro steps decodes (up to trailing blanks) to the base
    configuration after `t i` base steps: the macro run visits, in order, only configurations of
    the base run.  Also the macro state stays `< 2 * S`. -/
theorem block_macro_sim (p : ProgF) (lp : LogicParams) (fixF3 : Bool) (hk : lp.kind = .block)
    (hc : 1 ≤ lp.cells) (hC : 0 < lp.baseColors) (hS : 0 < lp.baseStates)
    (hcl : closedB p lp.baseStates lp.baseColors = true)
    (N : Nat) (C : Cfg) (hrun : RunAt (macroF p lp fixF3) N C) :
    C.state < 2 * lp.baseStates ∧
    ∃ t : Nat → Nat, t 0 = 0 ∧ (∀ i, i < N → t i < t (i + 1)) ∧
      ∀ i, i ≤ N → ∃ Ci b,
        RunAt (macroF p lp fixF3) i Ci ∧ RunAt p (t i) b ∧ b ≈c decCfg lp Ci :=
  sim_run (I := fun c => c.state < 2 * lp.baseStates) (dec := decCfg lp)
    (Nat.mul_pos (by decide) hS) (init_equiv_decCfg lp hc)
    (fun c c' hms h =>
      let ⟨hms', n, b', hn, hr, he⟩ := block_macro_step p lp fixF3 hk hc hC hcl c c' hms h
      ⟨hms', n, b', hn, hr.1, he⟩)
    N C hrun

/-! ### Non-vacuity: the hypotheses hold on concrete inputs -/

/-- `1RB 1LB  1LA 0RA` -/
def exProg : Prog :=
  [((0,0),(1,true,1)), ((0,1),(1,false,1)), ((1,0),(1,false,0)), ((1,1),(0,true,0))]

/-- `1RB 1LB  1LA ...` -/
def exProgH : Prog := [((0,0),(1,true,1)), ((0,1),(1,false,1)), ((1,0),(1,false,0))]

/-- `0RB ...  0LA ...`: bounces for ever between two blank cells -/
def exProgL : Prog := [((0,0),(0,true,1)), ((1,0),(0,false,0))]

def exLp : LogicParams := ⟨.block, 2, 2, 2⟩

/-- slot `(0,0)`: A on the left end of `00` → three base steps, leaves to the left with `11` in
    state B: instruction `(3, L, 3)`. -/
example : ∃ n, 1 ≤ n ∧
    RunsIn exProg.toF 2 [5, 7] [9] n (enterCfg 0 false [0, 0] [5, 7] [9])
      (exitCfg 1 false [1, 1] [5, 7] [9]) ∧ 3 % 2 = 1 ∧ 3 < 4 ∧ 3 < 2 ^ 2 :=
  block_instr_some exProg.toF exLp false 0 0 3 3 false rfl (by decide) (by decide) (by decide)
    (by decide) rfl [5, 7] [9]

example : ¬ InWindow 2 [5, 7] [9] (exitCfg 1 false [1, 1] [5, 7] [9]) :=
  exit_not_in_window 2 1 false [1, 1] rfl [5, 7] [9]

/-- an undefined base slot met inside the block: macro slot `(2, 3)` (B on the left end of `11`) -/
theorem exProgH_stuck : HaltsInside exProgH.toF 2 [] [] (enterCfg 1 false [1, 1] [] []) ∨
    NeverLeaves exProgH.toF 2 [] [] (enterCfg 1 false [1, 1] [] []) :=
  (block_instr_none exProgH.toF exLp false 2 3 rfl (by decide) (by decide) (by decide)
    (by decide) [] []).1 rfl

example : HaltsInside exProgH.toF 2 [] [] (enterCfg 1 false [1, 1] [] []) ∨
    NeverLeaves exProgH.toF 2 [] [] (enterCfg 1 false [1, 1] [] []) :=
  exProgH_stuck

/-- never leaving: macro slot `(0, 0)` of the bouncer -/
example : HaltsInside exProgL.toF 2 [] [] (enterCfg 0 false [0, 0] [] []) ∨
    NeverLeaves exProgL.toF 2 [] [] (enterCfg 0 false [0, 0] [] []) :=
  (block_instr_none exProgL.toF exLp false 0 0 rfl (by decide) (by decide) (by decide)
    (by decide) [] []).1 rfl

example : pureInstr (innerOf exProg.toF) exLp false (1, 2) ≠ .error .panic :=
  block_instr_no_error exProg.toF exLp false (1, 2) .panic rfl (by decide)

/-- the first macro step of `exProg` with 2-cell blocks -/
example : ∃ n b', 1 ≤ n ∧ RunsIn exProg.toF 2 [] [] n (decCfg exLp Cfg.init) b' ∧
    b' ≈c decCfg exLp ⟨3, [], 0, [3]⟩ :=
  (block_macro_step exProg.toF exLp false rfl (by decide) (by decide) (by decide) Cfg.init
    ⟨3, [], 0, [3]⟩ (by decide) (by decide)).2

example : step1 (macroF exProgH.toF exLp false) ⟨2, [], 3, []⟩ = none :=
  (block_macro_halt exProgH.toF exLp false rfl (by decide) (by decide) (by decide) ⟨2, [], 3, []⟩
    (by decide)).2 exProgH_stuck

/-- five macro steps of `exProg` exist, so `block_macro_sim` applies to them -/
example : ∃ C, RunAt (macroF exProg.toF exLp false) 5 C ∧
    ∃ t : Nat → Nat, t 0 = 0 ∧ (∀ i, i < 5 → t i < t (i + 1)) ∧
      ∀ i, i ≤ 5 → ∃ Ci b,
        RunAt (macroF exProg.toF exLp false) i Ci ∧ RunAt exProg.toF (t i) b ∧
          b ≈c decCfg exLp Ci := by
  have h : (stepN (macroF exProg.toF exLp false) 5 Cfg.init).isSome = true := by decide
  obtain ⟨C, hC⟩ := Option.isSome_iff_exists.1 h
  exact ⟨C, hC, (block_macro_sim exProg.toF exLp false rfl (by decide) (by decide) (by decide)
    (by decide) 5 C hC).2⟩

end BB.MacroSim
