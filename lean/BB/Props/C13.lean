/-
C13 — program text and compiled form round-trip.
The property theorems, about a `Table` (a list of rows with its text); the lemmas are in
BB/Lemmas/Parse.lean and speak of the list of rows, `Table.text_eq` and `Table.WF.fromChars` connect
the two.
-/
import BB.Lemmas.Parse

namespace BB

/-- A table as the list of its rows; `Table.WF t S C` says that it is rectangular, `S ≥ 1` rows of
    `C ≥ 1` cells each. -/
structure Table where
  rows : List (List (Option Instr))
deriving Repr

def Table.WF (t : Table) (S C : Nat) : Prop :=
  0 < S ∧ 0 < C ∧ S ≤ 26 ∧ C ≤ 10 ∧ t.rows.length = S ∧
  (∀ r ∈ t.rows, r.length = C ∧ ∀ c ∈ r, CellOk c)

/-- the text of a table in the standard notation: cells separated by one space, rows by two -/
def Table.text (t : Table) : List Char :=
  joinWith [' ', ' '] (t.rows.map fun r => joinWith [' '] (r.map fun c =>
    match c with
    | none => ['.', '.', '.']
    | some (co, sh, q) => [Char.ofNat (48 + co), if sh then 'R' else 'L', Char.ofNat (65 + q)]))

/-- cell (i, j) of a table (`none` outside) -/
def Table.cell (t : Table) (i j : Nat) : Option Instr := ((t.rows.getD i []).getD j none)

/-- **Tokens: instructions.** print-then-parse and parse-then-print are the identity on every
    instruction token with a one-digit colour and a letter A..Z. -/
theorem instr_token_roundtrip (c : Nat) (sh : Bool) (q : Nat) (hc : c < 10) (hq : q < 26) :
    ∃ s, showInstr (some (c, sh, q)) = .ok s ∧ readInstr s = .ok (some (c, sh, q)) ∧
      s = [Char.ofNat (48 + c), if sh then 'R' else 'L', Char.ofNat (65 + q)] :=
  have hg : CellOk (some (c, sh, q)) := ⟨hc, hq⟩
  ⟨_, Parse.showInstr_good _ hg, Parse.readInstr_tok _ hg, rfl⟩

theorem undef_token_roundtrip :
    showInstr none = .ok ['.', '.', '.'] ∧ readInstr ['.', '.', '.'] = .ok none :=
  ⟨rfl, rfl⟩

/-- **Tokens: slots and state letters.** -/
theorem slot_token_roundtrip (q c : Nat) (hq : q < 26) (hc : c < 10) :
    ∃ s, showSlot (q, c) = .ok s ∧ readSlot s = .ok (q, c) := by
  refine ⟨Char.ofNat (65 + q) :: [Char.ofNat (48 + c)], ?_, ?_⟩
  · simp only [showSlot, Parse.showState_letter q hq, Parse.natDigits_lt10 c hc]
  · simp only [readSlot, Parse.readState_letter q hq, Parse.readColor_digit c hc]

theorem state_token_roundtrip (q : Nat) (hq : q < 26) :
    ∃ ch, showState q = .ok ch ∧ readState ch = .ok q ∧ ch = Char.ofNat (65 + q) :=
  ⟨_, Parse.showState_letter q hq, Parse.readState_letter q hq, rfl⟩

theorem Table.text_eq (t : Table) : t.text = Parse.tableText t.rows := rfl

/-- The parser follows the text of a well-formed table.  The bounds `S ≤ 26`, `C ≤ 10` are not
    used: every cell being printable is what counts. -/
theorem Table.WF.fromChars {t : Table} {S C : Nat} (h : t.WF S C) :
    Prog.fromChars t.text = .ok (Parse.insertRows t.rows 0 []) := by
  obtain ⟨hS, hC, _, _, hlen, hrows⟩ := h
  rw [t.text_eq]
  exact Parse.fromChars_tableText t.rows (List.ne_nil_of_length_pos (hlen ▸ hS)) fun r hr =>
    ⟨List.ne_nil_of_length_pos ((hrows r hr).1 ▸ hC), (hrows r hr).2⟩

/-- **Parsing puts every instruction at the slot given by its row and column.** -/
theorem from_slots (t : Table) (S C : Nat) (h : t.WF S C) :
    ∃ p, Prog.fromChars t.text = .ok p ∧ ∀ i j, p.get (i, j) = t.cell i j :=
  ⟨_, h.fromChars, Parse.get_parsed t.rows⟩

/-- **Text → table → text.** Parsing a well-formed text and printing it with its table size gives
    back the same text. -/
theorem show_from (t : Table) (S C : Nat) (h : t.WF S C) :
    ∃ p, Prog.fromChars t.text = .ok p ∧ p.showChars (some (S, C)) = .ok t.text :=
  ⟨_, h.fromChars, t.text_eq ▸ Parse.showChars_insertRows t.rows S C h.2.2.2.2.1 h.2.2.2.2.2⟩

/-- **Table → text → table.** Printing a compiled table (as produced by parsing: any table is) and
    parsing it again gives back a table with the same contents at every slot. -/
theorem from_show (t : Table) (S C : Nat) (h : t.WF S C) :
    ∃ p s p', Prog.fromChars t.text = .ok p ∧ p.showChars (some (S, C)) = .ok s ∧
      Prog.fromChars s = .ok p' ∧ p' = p := by
  obtain ⟨p, hp, hs⟩ := show_from t S C h
  exact ⟨p, t.text, p, hp, hs, hp, rfl⟩

/-- a compiled table as the code holds it: keys strictly increasing (BTreeMap order), all keys
    inside the S x C rectangle, entries printable -/
def Prog.WFIn (p : Prog) (S C : Nat) : Prop :=
  List.Pairwise (fun a b => slotLt a.1 b.1 = true) p ∧
  ∀ kv ∈ p, kv.1.1 < S ∧ kv.1.2 < C ∧ CellOk (some kv.2)

/-- **Compiled table → text → the same compiled table.** Printing an arbitrary compiled table with
    its size and parsing the text gives back the same association list. -/
theorem from_show_prog (p : Prog) (S C : Nat) (hS : 0 < S) (hC : 0 < C) (h : p.WFIn S C) :
    ∃ s, p.showChars (some (S, C)) = .ok s ∧ Prog.fromChars s = .ok p := by
  have hin : ∀ kv ∈ p, kv.1.1 < S ∧ kv.1.2 < C := fun kv hm => ⟨(h.2 kv hm).1, (h.2 kv hm).2.1⟩
  have hgood := Parse.goodRows_rowsOf p S C hC fun kv hm => (h.2 kv hm).2.2
  have hne : Parse.rowsOf p S C ≠ [] :=
    mt List.map_eq_nil_iff.1 (mt List.range_eq_nil.1 (Nat.ne_of_gt hS))
  refine ⟨_, Parse.showChars_rowsOf p S C fun r hr => (hgood r hr).2, ?_⟩
  rw [Parse.fromChars_tableText _ hne hgood, Parse.insertRows_rowsOf p S C h.1 hin]

/- Non-vacuity: a concrete 2x2 table. -/
example : (Table.mk [[some (1, true, 1), none], [some (1, false, 0), some (0, true, 1)]]).WF 2 2 := by
  refine ⟨by decide, by decide, by decide, by decide, rfl, ?_⟩
  intro r hr
  simp at hr
  rcases hr with rfl | rfl <;> simp [CellOk]

example : String.ofList (Table.mk [[some (1, true, 1), none], [some (1, false, 0), some (0, true, 1)]]).text
    = "1RB ...  1LA 0RB" := by rfl

/- Non-vacuity of `Prog.WFIn`: the program parsed from "1RB ...  1LA 0RB" is a compiled 2x2 table. -/
example : ∃ p, Prog.fromStr "1RB ...  1LA 0RB" = .ok p ∧
    p = [((0, 0), (1, true, 1)), ((1, 0), (1, false, 0)), ((1, 1), (0, true, 1))] ∧ p.WFIn 2 2 := by
  -- the literal is turned into its characters first, so that the parser runs on a plain list
  refine ⟨_, by simp only [Prog.fromStr, String.reduceToList]; rfl, rfl, ?_⟩
  refine ⟨by decide, ?_⟩
  intro kv hkv
  simp at hkv
  rcases hkv with rfl | rfl | rfl <;> simp [CellOk]

end BB
