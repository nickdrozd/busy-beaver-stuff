/-
C14 — the connectivity filter only discards genuinely disconnected programs.
The theorems about well-formed input all rest on `isConnected_spec` (BB/Lemmas/GraphSearch.lean):
there the function answers whether the listed edges pass the test `Passes`.
(The definitions `Edge`, `Reach`, `Path`, `StronglyConnected`, `HasExit`, `wf`, `noShadow`,
`WalkGenerated`, `UsesAllStatesForever` of the statements live at the top of
BB/Lemmas/GraphConn.lean.)
-/
import BB.Lemmas.GraphSearch
import BB.Lemmas.Refine

namespace BB.Graph

open BB

/-- `1RB 1LB  1LA 1LC  1RC 0LC` (first `UNCONNECTED` test of graph.rs) -/
def progU3 : Prog :=
  [((0,0),(1,true,1)), ((0,1),(1,false,1)), ((1,0),(1,false,0)), ((1,1),(1,false,2)),
   ((2,0),(1,true,2)), ((2,1),(0,false,2))]

/-- `1RB 0LB  0LC 0RD  1RD 1LB  1LE 0RA  ... 1LA` (second `CONNECTED` test of graph.rs) -/
def progC5 : Prog :=
  [((0,0),(1,true,1)), ((0,1),(0,false,1)), ((1,0),(0,false,2)), ((1,1),(0,true,3)),
   ((2,0),(1,true,3)), ((2,1),(1,false,1)), ((3,0),(1,false,4)), ((3,1),(0,true,0)),
   ((4,1),(1,false,0))]

/-- **isConnected_false_cause.** On a program whose entries only mention states `< n` (`n ≥ 1`),
    the answer `false` means what the property says: some state `< n` has no way out (no defined
    instruction to a different state), or the last state `n - 1` cannot get back to state 0.
    In particular the bounded loop (`n` pops) never runs out of fuel with an unexplored path left. -/
theorem isConnected_false_cause (p : Prog) (n : Nat) (hn : 1 ≤ n) (hwf : wf p n = true)
    (h : isConnected p n = .ok false) :
    (∃ q, q < n ∧ ¬ HasExit p q) ∨ ¬ Path p (n - 1) 0 :=
  not_passes fun hp => (isConnected_false_iff_not_passes hn hwf).mp h (hp.mono (edgeL_of_edge p))

example : wf progU3 3 = true ∧ isConnected progU3 3 = .ok false := by decide +kernel

/- The statement asked for (kept visible; FALSE for `n = 1`, see the counterexample below):

   theorem isConnected_false_sound (p : Prog) (n : Nat) (hn : 1 ≤ n) (hwf : wf p n = true)
       (h : isConnected p n = .ok false) : ¬ StronglyConnected p n
-/

/-- **isConnected_false_sound_partial.** For `n ≥ 2` states the answer `false` implies that the
    transition graph on the states `0..n-1` is not strongly connected. -/
theorem isConnected_false_sound_partial (p : Prog) (n : Nat) (hn : 2 ≤ n) (hwf : wf p n = true)
    (h : isConnected p n = .ok false) : ¬ StronglyConnected p n :=
  fun hsc => (isConnected_false_iff_not_passes (Nat.lt_of_succ_lt hn) hwf).mp h
    ((passes_of_strong hn hsc).mono (edgeL_of_edge p))

example : 2 ≤ 3 ∧ wf progU3 3 = true ∧ isConnected progU3 3 = .ok false := by decide +kernel

/-- With one state the filter rejects everything (a single state has no exit to a *different*
    state), although the one-vertex graph is trivially strongly connected. -/
theorem isConnected_false_sound_counterexample :
    wf [((0,0),(1,true,0))] 1 = true ∧ isConnected [((0,0),(1,true,0))] 1 = .ok false ∧
      StronglyConnected [((0,0),(1,true,0))] 1 := by
  refine ⟨by decide +kernel, by decide +kernel, ?_⟩
  intro a b ha hb
  rw [Nat.lt_one_iff.mp ha, Nat.lt_one_iff.mp hb]
  exact .refl 0

/-- **strong_of_uses_all_states.** (L0) If the run from the blank tape visits each of the states
    `0..n-1` at arbitrarily late times, the transition graph on them is strongly connected. -/
theorem strong_of_uses_all_states (p : Prog) (n : Nat) (h : UsesAllStatesForever p n) :
    StronglyConnected p n := by
  intro a b ha hb
  obtain ⟨t1, c1, _, hr1, rfl⟩ := h a ha 0
  obtain ⟨t2, c2, hle, hr2, rfl⟩ := h b hb t1
  obtain ⟨d, rfl⟩ := Nat.le.dest hle
  obtain ⟨c1', hr1', hd⟩ := stepN_prefix hr2
  cases hr1.symm.trans hr1'
  exact stepN_path p d c1 c2 hd

/-- **isConnected_false_loses_nothing.** Discarding on `false` loses no machine that uses all its
    states forever (`n ≥ 2`). -/
theorem isConnected_false_loses_nothing (p : Prog) (n : Nat) (hn : 2 ≤ n) (hwf : wf p n = true)
    (h : isConnected p n = .ok false) : ¬ UsesAllStatesForever p n :=
  fun hu => isConnected_false_sound_partial p n hn hwf h (strong_of_uses_all_states p n hu)

example : 2 ≤ 3 ∧ wf progU3 3 = true ∧ isConnected progU3 3 = .ok false := by decide +kernel

/-- **isConnected_panic_free.** For `n ≥ 1` and a program that only mentions states `< n`, neither
    `exitpoints[&k]` panics nor `states - 1` overflows: the function returns a Boolean. -/
theorem isConnected_panic_free (p : Prog) (n : Nat) (hn : 1 ≤ n) (hwf : wf p n = true) :
    ∃ b, isConnected p n = .ok b :=
  (isConnected_spec p n hn hwf).imp fun _ h => h.1

example : 1 ≤ 5 ∧ wf progC5 5 = true := by decide +kernel

/-- `states - 1` overflows exactly when `states = 0` (for every program). -/
theorem isConnected_overflow_iff (p : Prog) (n : Nat) : isConnected p n = .overflow ↔ n = 0 := by
  refine ⟨fun h => Classical.byContradiction fun hn => ?_, ?_⟩
  · simp only [isConnected, beq_iff_eq, if_neg hn] at h
    split at h
    · cases h
    · split at h
      · cases h
      · exact search_ne_overflow _ _ _ _ h
  · rintro rfl
    unfold isConnected
    exact if_neg (Nat.not_lt_zero _)

/-- Without well-formedness the index panics do happen: a missing key for the last state
    (`exitpoints[&(states - 1)]`), and a missing key for a popped state (`exitpoints[&state]`). -/
theorem isConnected_panic_witness :
    isConnected [((0,0),(1,true,2)), ((2,0),(1,true,0))] 2 = .panic ∧
    isConnected [((0,0),(1,true,1)), ((1,0),(1,true,2))] 2 = .panic := by decide +kernel

/-- **isConnected_true_iff.** For every well-formed table without shadowed keys and `n ≥ 1`, the
    answer is `true` exactly when every state `< n` has an exit to a different state and the last
    state reaches state 0.  (This is all the function checks; it is weaker than strong
    connectivity, see `isConnected_true_not_strong_witness`.) -/
theorem isConnected_true_iff (p : Prog) (n : Nat) (hn : 1 ≤ n) (hwf : wf p n = true)
    (hns : noShadow p = true) :
    isConnected p n = .ok true ↔ (∀ q, q < n → HasExit p q) ∧ Path p (n - 1) 0 :=
  (isConnected_true_iff_passes hn hwf).trans
    ⟨Passes.mono (edge_of_edgeL hns), Passes.mono (edgeL_of_edge p)⟩

example : 1 ≤ 5 ∧ wf progC5 5 = true ∧ noShadow progC5 = true := by decide +kernel

/-- **isConnected_of_strong.** No strongly connected program on `n ≥ 2` states is discarded. -/
theorem isConnected_of_strong (p : Prog) (n : Nat) (hn : 2 ≤ n) (hwf : wf p n = true)
    (hsc : StronglyConnected p n) : isConnected p n = .ok true :=
  (isConnected_true_iff_passes (Nat.lt_of_succ_lt hn) hwf).mpr
    ((passes_of_strong hn hsc).mono (edgeL_of_edge p))

/-- **walkGenerated_chain.** What `WalkGenerated` contributes, as a property of the graph alone:
    each state reaches the next one. -/
theorem walkGenerated_chain (p : Prog) (n : Nat) (w : List Nat) (hw : WalkGenerated p n w = true)
    (k : Nat) (hk : k + 1 < n) : Path p k (k + 1) := by
  obtain ⟨_, _, hns, hhead, hchain, hord, hlast⟩ := walkGenerated_iff.mp hw
  cases w with
  | nil => cases hhead
  | cons a xs =>
    cases hhead
    have hlast : n - 1 ∈ xs := (List.mem_cons.mp hlast).resolve_left
      (Nat.sub_ne_zero_of_lt (Nat.lt_of_le_of_lt (Nat.le_add_left 1 k) hk))
    exact (ordered_chain p hchain hord (.refl 0) hlast (Nat.zero_le k)
      (Nat.lt_sub_of_add_lt hk)).mono (edge_of_edgeL hns)

/-- **isConnected_true_iff_strong_of_chain.** Under the graph-level hypothesis that each state `k`
    reaches state `k + 1` (which strong connectivity itself implies, so it is the weakest
    possible), the answer is `true` exactly when the transition graph is strongly connected. -/
theorem isConnected_true_iff_strong_of_chain (p : Prog) (n : Nat) (hn : 2 ≤ n)
    (hwf : wf p n = true) (hns : noShadow p = true)
    (hchain : ∀ k, k + 1 < n → Path p k (k + 1)) :
    isConnected p n = .ok true ↔ StronglyConnected p n :=
  ⟨fun h =>
      strong_of_chain hchain ((isConnected_true_iff p n (Nat.le_of_succ_le hn) hwf hns).mp h).2,
    isConnected_of_strong p n hn hwf⟩

/-- **isConnected_true_of_walk.** For a program generated along a walk `w` from state 0 that
    introduces the states in increasing order and mentions the last state (as tree generation
    does; `WalkGenerated` also contains `2 ≤ n`, `wf` and `noShadow`), the answer is `true` exactly
    when the transition graph is strongly connected. -/
theorem isConnected_true_of_walk (p : Prog) (n : Nat) (w : List Nat)
    (hw : WalkGenerated p n w = true) :
    isConnected p n = .ok true ↔ StronglyConnected p n :=
  have ⟨hn, hwf, hns, _⟩ := walkGenerated_iff.mp hw
  isConnected_true_iff_strong_of_chain p n hn hwf hns (walkGenerated_chain p n w hw)

example : WalkGenerated progC5 5 [0, 1, 2, 3, 4] = true ∧ isConnected progC5 5 = .ok true := by
  decide +kernel

/-- a walk-generated table that the filter rejects (both sides of the equivalence false) -/
example : WalkGenerated progU3 3 [0, 1, 2] = true ∧ isConnected progU3 3 = .ok false := by
  decide +kernel

/-- the hypotheses of `isConnected_of_strong` are satisfiable -/
example : 2 ≤ 5 ∧ wf progC5 5 = true ∧ StronglyConnected progC5 5 :=
  ⟨by decide, by decide +kernel,
    (isConnected_true_of_walk progC5 5 [0, 1, 2, 3, 4] (by decide +kernel)).mp (by decide +kernel)⟩

example : 2 ≤ 5 ∧ wf progC5 5 = true ∧ noShadow progC5 = true ∧
    ∀ k, k + 1 < 5 → Path progC5 k (k + 1) :=
  ⟨by decide, by decide +kernel, by decide +kernel,
    walkGenerated_chain progC5 5 [0, 1, 2, 3, 4] (by decide +kernel)⟩

/-- The order of introduction matters.  `A: →B,→D  B: →C  C: →B  D: →A` on 4 states: well-formed,
    no shadowed keys, every state is reachable from A, every state has an exit, D reaches A — the
    filter answers `true` — but B and C never get back to A.  (No walk from A introduces D after C,
    so this table is not walk-generated.) -/
theorem isConnected_true_not_strong_witness :
    let p : Prog := [((0,0),(1,true,1)), ((0,1),(1,true,3)), ((1,0),(1,true,2)),
                     ((2,0),(1,true,1)), ((3,0),(1,true,0))]
    wf p 4 = true ∧ noShadow p = true ∧ isConnected p 4 = .ok true ∧ ¬ StronglyConnected p 4 := by
  intro p
  refine ⟨by decide +kernel, by decide +kernel, by decide +kernel, fun hsc => ?_⟩
  -- no listed entry leaves the set {B, C}
  exact not_path_of_closed p (fun x => x == 1 || x == 2) (by decide +kernel) (a := 1) (b := 0)
    rfl rfl (hsc 1 0 (by decide) (by decide))

/-- With a single state the filter rejects every well-formed table, so neither
    `isConnected_false_sound` nor the `←` direction of the equivalence extends to `n = 1`. -/
theorem isConnected_one_state (p : Prog) (hwf : wf p 1 = true) : isConnected p 1 = .ok false :=
  (isConnected_false_iff_not_passes Nat.one_pos hwf).mpr fun h =>
    have ⟨_, hx, hx0⟩ := h.1 0 Nat.one_pos
    hx0 (Nat.lt_one_iff.mp (edgeL_lt hwf hx).2)

example : wf [((0,0),(1,true,0))] 1 = true := by decide +kernel

end BB.Graph
