/-
C03 — every rule application is a run of real machine steps.

"Whenever the accelerated run replaces simulation by applying a proved rule some number of times,
the configuration after the application is one the real machine actually reaches from the
configuration before it, passing through no halt or spin-out on the way, and no block of the tape
is ever driven to zero or below by it."

The rule prover generalises from four observations; no universal soundness theorem for its rules
is true.  What is machine-checked is each individual application: the real run reports
`(state q, tape before, tape after, times)` through a hook, and the check re-validates it with
`checkApp p q before after budget` (BB/Model/Validate.lean), which re-runs the plain run-length
simulator (`plainStep`, the loop body of `run_quick_machine`, verified in C01) from `before` until
it stands in state `q` on the tape `after`.  The theorems below make that validator trustworthy:
an `ok` answer IS a run of the L0 machine (BB/Spec.lean).

Property theorems only; the lemmas live in the modules imported below and, for the symbolic
validation, in those they import.  Definitions used by the statements: `Tape.toCfg` (Model/Tape.lean: the
L0 configuration a (state, run-length tape) pair denotes), `Tape.Pos` (Lemmas/Canon.lean: every
block has at least one cell), `Tape.Canon` (Lemmas/Canon.lean: moreover adjacent blocks differ in
colour and the far-end block of each side is not blank; decidable, `Tape.canonB`), `plainIter`
(Lemmas/Validate.lean: `n` cycles of the plain simulator).

Hypotheses.  `before.Pos` is needed for everything (a block of count 0 makes the run-length tape
mean something else than its cells).  The clause "no spin-out on the way" needs `before.Canon`:
`check_app_canon_needed` is a witness.  Every tape of the real run is canonical (C12 for the
steps, `apply_rule_canon` below for the rule applications), and the driver op `checkapp` reports
`canon=` for the `before` it was given.
-/
import BB.Lemmas.Validate
import BB.Lemmas.ValidateRule
import BB.Lemmas.SymValidate
import BB.Lemmas.TapeParse

namespace BB

/-- **check_app_sound.**  When `checkApp` answers `ok cycles steps` for an application reported in
    state `q` from tape `before` (all counts positive) to tape `after`:
    * at least one plain cycle was needed and not more than the budget, and `steps ≥ cycles ≥ 1`;
    * the L0 machine started on the cells of `before` in state `q` is, after exactly `steps`
      steps, on the cells of `after` in state `q` (up to trailing blanks, `≈c`);
    * each of the `steps` configurations before that (the first one included) has a defined
      instruction: no halt on the way;
    * `after` has no block of count 0. -/
theorem check_app_sound (p : Prog) (q : Nat) (before after : Tape) (budget cycles steps : Nat)
    (hpos : before.Pos) (h : checkApp p q before after budget = .ok cycles steps) :
    1 ≤ cycles ∧ cycles ≤ budget ∧ cycles ≤ steps ∧
      (∃ c', stepN p.toF steps (before.toCfg q) = some c' ∧ c' ≈c after.toCfg q) ∧
      (∀ j, j < steps → ∃ c, stepN p.toF j (before.toCfg q) = some c ∧
        (p.toF c.state c.scan).isSome) ∧
      after.Pos := by
  obtain ⟨h1, h2, h3, hrun, hp, _⟩ := checkApp_sound p q before after budget cycles steps hpos h
  refine ⟨h1, h2, h3, hrun.1, fun j hj => ?_, hp⟩
  obtain ⟨c, hc, hw⟩ := hrun.2 j hj
  exact ⟨c, hc, hw.1⟩

/-- **check_app_no_spinout.**  If moreover `before` is canonical, none of the `steps`
    configurations on the way (the first one included) is a spin-out configuration, and `after` is
    canonical again. -/
theorem check_app_no_spinout (p : Prog) (q : Nat) (before after : Tape)
    (budget cycles steps : Nat) (hcan : before.Canon)
    (h : checkApp p q before after budget = .ok cycles steps) :
    (∀ j c, j < steps → stepN p.toF j (before.toCfg q) = some c → ¬ SpinOutCfg p.toF c) ∧
      after.Canon := by
  obtain ⟨_, _, _, hrun, _, hc⟩ :=
    checkApp_sound p q before after budget cycles steps hcan.pos h
  refine ⟨fun j c hj hcj => ?_, hc hcan⟩
  obtain ⟨c1, hc1, hw⟩ := hrun.2 j hj
  rw [hcj] at hc1
  simp only [Option.some.injEq] at hc1
  subst hc1
  exact hw.2 hcan

/-- **check_app_canon_needed.**  Canonicity of `before` cannot be dropped from
    `check_app_no_spinout`: with a blank block at the far end (`[0] 0^2`, all counts positive) the
    validator accepts a run whose first configuration is a spin-out configuration.  (Not a tape of
    the real run: those are canonical.) -/
theorem check_app_canon_needed :
    let p : Prog := [((0, 0), (1, true, 0))]
    let before : Tape := ⟨0, [], [⟨0, 2⟩]⟩
    let after : Tape := ⟨0, [⟨1, 3⟩], []⟩
    checkApp p 0 before after 10 = .ok 1 3 ∧ before.Pos ∧ ¬ before.Canon ∧
      SpinOutCfg p.toF (before.toCfg 0) := by
  refine ⟨by decide, by decide, by decide, rfl, 1, true, rfl, ?_⟩
  exact (allZeroB_iff _).1 (by decide)

/-- **check_app_complete** (sanity: the validator is not vacuous).  If `n` cycles of the plain
    simulator, `1 ≤ n ≤ budget`, lead from `(q, before)` to `(q, after)` without meeting an
    undefined instruction or a spin-out, and `after` has no block of count 0, then `checkApp`
    answers `ok` (with the first such cycle count). -/
theorem check_app_complete (p : Prog) (q : Nat) (before after : Tape) (budget n : Nat)
    (hafter : after.Pos) (hn : 1 ≤ n) (hb : n ≤ budget)
    (h : plainIter p n q before = some (q, after)) :
    ∃ cycles steps, checkApp p q before after budget = .ok cycles steps ∧ cycles ≤ n := by
  cases n with
  | zero => exact absurd hn (Nat.not_succ_le_zero 0)
  | succ m =>
    obtain ⟨c, S, hC, hle⟩ := checkAppLoop_complete p q after budget m 0 0 q before hb h
    rw [Nat.zero_add] at hC
    exact ⟨c, S, by rw [checkApp_eq, if_pos hafter, hC], hle⟩

/-- **apply_rule_positive** (C11's `apply_keeps_positive`, in the vocabulary of C01).  The model's
    `applyRule` never drives a block to zero or below: if every block had at least one cell before
    an application, every block has afterwards.  (`(keys rule).Nodup`: a `BTreeMap` has distinct
    keys; every rule made by `makeRule` has, C11 `make_rule_sorted`.) -/
theorem apply_rule_positive (t t' : Tape) (rule : Rule) (times : Nat)
    (hnd : (RuleArith.keys rule).Nodup) (h : applyRule t rule = .ok (some times, t'))
    (hp : t.Pos) : t'.Pos :=
  (Tape.pos_iff_allPositive t').2
    (RuleArith.applyRule_keeps_positive hnd h ((Tape.pos_iff_allPositive t).1 hp))

/-- **apply_rule_canon.**  A rule application keeps the tape canonical (colours are untouched,
    counts stay positive): the hypothesis `before.Canon` of `check_app_no_spinout` holds all along
    the accelerated run. -/
theorem apply_rule_canon (t t' : Tape) (rule : Rule) (times : Nat)
    (hnd : (RuleArith.keys rule).Nodup) (h : applyRule t rule = .ok (some times, t'))
    (hc : t.Canon) : t'.Canon :=
  hc.of_sameShape (RuleArith.applyRule_some hnd h).2.2.2
    (apply_rule_positive t t' rule times hnd h hc.pos)

/-! ### Non-vacuity

The 2-state 4-colour champion `1RB 2LA 1RA 1RA  1LB 1LA 3RB ...`; the first rule application of
its accelerated run (cycle 228, state A, 6 times): `1 3^19 [3] 2^22` to `1 3 [3] 2^52`.  The
validator needs 72 plain cycles = 1356 machine steps. -/

def exC03Prog : Prog :=
  [((0,0),(1,true,1)), ((0,1),(2,false,0)), ((0,2),(1,true,0)), ((0,3),(1,true,0)),
   ((1,0),(1,false,1)), ((1,1),(1,false,0)), ((1,2),(3,true,1))]
def exC03Before : Tape := ⟨3, [⟨3,19⟩,⟨1,1⟩], [⟨2,22⟩]⟩
def exC03After : Tape := ⟨3, [⟨3,1⟩,⟨1,1⟩], [⟨2,52⟩]⟩

theorem exC03_ok : checkApp exC03Prog 0 exC03Before exC03After 1000 = .ok 72 1356 := by
  decide +kernel
theorem exC03_iter : plainIter exC03Prog 72 0 exC03Before = some (0, exC03After) := by
  decide +kernel

example : checkApp exC03Prog 0 exC03Before exC03After 1000 = .ok 72 1356 := exC03_ok
example := check_app_sound exC03Prog 0 exC03Before exC03After 1000 72 1356 (by decide) exC03_ok
example := check_app_no_spinout exC03Prog 0 exC03Before exC03After 1000 72 1356 (by decide) exC03_ok
/-- a wrong `after` (one cell too many) is not accepted -/
example : checkApp exC03Prog 0 exC03Before ⟨3, [⟨3,1⟩,⟨1,1⟩], [⟨2,53⟩]⟩ 200 = .overBudget := by
  decide +kernel
/-- an `after` with a block driven to zero is refused outright -/
example : checkApp exC03Prog 0 exC03Before ⟨3, [⟨3,0⟩,⟨1,1⟩], [⟨2,52⟩]⟩ 200 = .notCanon := by decide
example : plainIter exC03Prog 72 0 exC03Before = some (0, exC03After) := exC03_iter
example := check_app_complete exC03Prog 0 exC03Before exC03After 1000 72 (by decide) (by decide)
  (by decide) exC03_iter
/-- the rule `L0-3 R0+5` applied to `exC03Before`: 6 times, giving `exC03After` -/
def exC03Rule : Rule := [((false, 0), .plus (-3)), ((true, 0), .plus 5)]
example : applyRule exC03Before exC03Rule = .ok (some 6, exC03After) := by decide
example : exC03After.Pos ∧ exC03After.Canon :=
  ⟨apply_rule_positive exC03Before exC03After exC03Rule 6 (by decide) (by decide) (by decide),
   apply_rule_canon exC03Before exC03After exC03Rule 6 (by decide) (by decide) (by decide)⟩

end BB

/-! ### Symbolic validation: rule applications of any size

`checkApp` costs as many plain cycles as the application replaces.  `Sym.validateApp`
(BB/Model/SymRule.lean) validates the RULE instead: the changed block counts become linear forms
`c + xᵢ`, one period of the rule is run once by the symbolic version `symStep` of the plain
simulator cycle (every decision must be determined by colours and constant parts, for all
`xᵢ ≥ 0`), and the application made `times` times follows by induction over the periods, with the
exact number of machine steps `Σ_{j<times} f(x + j·δ)` (`totalSteps`).  The cost does not depend on
`times`.  The theorems say that an accepted application IS a run of the L0 machine. -/

namespace BB.Sym

/-- **sym_step_sound** (the core).  If one symbolic cycle is determined, then for EVERY valuation
    of the variables the plain simulator, run on the instantiated tape, takes exactly that cycle:
    same next state, the instantiated next tape, the instantiated number of base steps. -/
theorem sym_step_sound (p : Prog) (q : Nat) (s : STape) (q' : Nat) (s' : STape) (k : Form)
    (hpos : s.posB = true) (h : symStep p q s = .next q' s' k) (v : Val) :
    plainStep p q (s.inst v) = .next q' (s'.inst v) (k.eval v) ∧ s'.posB = true :=
  symStep_sound p q s q' s' k hpos h v

/-- **sym_period_sound.**  A validated period holds for every valuation: from the instantiated
    tape in state `q` the L0 machine reaches, in exactly `f.eval v ≥ 1` steps, the same state on the
    instantiated shifted tape; every configuration on the way has a defined instruction, and - when
    the instantiated start tape is canonical - none is a spin-out configuration and the end tape is
    canonical again. -/
theorem sym_period_sound (p : Prog) (q : Nat) (s target : STape) (dl dr : List Int)
    (budget cycles : Nat) (f : Form) (h : symPeriod p q s dl dr budget = some (cycles, f))
    (ht : s.shift dl dr = some target) (v : Val) :
    1 ≤ f.eval v ∧ (s.inst v).Pos ∧ (target.inst v).Pos ∧
      RunVia p.toF (OnWay p.toF (s.inst v).Canon) ((s.inst v).toCfg q) (f.eval v)
        ((target.inst v).toCfg q) ∧
      ((s.inst v).Canon → (target.inst v).Canon) :=
  symPeriod_sound p q s target dl dr budget cycles f h ht v

/-- **validate_app_sound.**  If the symbolic validator accepts a reported application
    `(q, before) → (q, after)` made `times` times and answers `n`, the L0 machine started on the
    cells of `before` in state `q` is, after exactly `n ≥ 1` steps, on the cells of `after` in state
    `q`; every configuration on the way has a defined instruction; if `before` is canonical none of
    them is a spin-out configuration and `after` is canonical.  No bound on `times`. -/
theorem validate_app_sound (p : Prog) (q : Nat) (before after : Tape) (times budget n : Nat)
    (h : validateApp p q before after times budget = some n) :
    1 ≤ n ∧ before.Pos ∧ after.Pos ∧
      RunVia p.toF (OnWay p.toF before.Canon) (before.toCfg q) n (after.toCfg q) ∧
      (before.Canon → after.Canon) :=
  validateApp_sound p q before after times budget n h

/-! Non-vacuity: the application of C03's example (6 times) validated symbolically - the same
1356 machine steps as `checkApp` counts; and an application of the same rule made 633 times
(6 096 423 machine steps), validated at the same cost. -/

example : validateApp exC03Prog 0 exC03Before exC03After 6 1000 = some 1356 := by decide +kernel
example := validate_app_sound exC03Prog 0 exC03Before exC03After 6 1000 1356 (by decide +kernel)
example : validateApp exC03Prog 0 ⟨3, [⟨3,1900⟩,⟨1,1⟩], [⟨2,22⟩]⟩ ⟨3, [⟨3,1⟩,⟨1,1⟩], [⟨2,3187⟩]⟩
    633 1000 = some 6096423 := by decide +kernel
/-- the rule itself: one period `1 3^(4+x) [3] 2^(22+y)` to `1 3^(1+x) [3] 2^(27+y)` takes 12
    symbolic cycles -/
example : (symPeriod exC03Prog 0
    ⟨3, [⟨3, Form.var 4 0⟩, ⟨1, Form.const 1⟩], [⟨2, Form.var 22 1⟩]⟩ [-3, 0] [5] 1000).map (·.1)
    = some 12 := by decide +kernel
/-- a wrong `times` (the differences are not divisible) or a wrong `after` is refused -/
example : validateApp exC03Prog 0 exC03Before exC03After 5 1000 = none := by decide +kernel
example : validateApp exC03Prog 0 exC03Before ⟨3, [⟨3,1⟩,⟨1,1⟩], [⟨2,58⟩]⟩ 6 1000 = none := by
  decide +kernel

end BB.Sym

/-! ### The input path of the validators: printed tapes are read back exactly

The driver hands the tapes reported by the real code to `checkApp` / `Sym.validateApp` as the
`Display` strings of the Rust `Tape` (`Tape.show`, BB/Model/Tape.lean: left span far-to-near,
`[scan]`, right span near-to-far, one blank between tokens; a block is `c` for count 1, `c..` for
count 0, `c^n` otherwise) and reads them with `Tape.parse` (BB/Model/Validate.lean).  The two are
inverse to each other on EVERY tape: no hypothesis on colours (two and more digits included), on
counts (0 and 1 included) or on the spans (either may be empty).  So the tape the validators judge
is the tape that was printed.  Helper lemmas: BB/Lemmas/TapeParse.lean (technical core
`TapeParse.parseNat_D`: `parseNat?` inverts decimal printing). -/

namespace BB

/-- **tape_parse_show.** Parsing the printed form of a tape gives the tape back, for EVERY tape
    (any colours, any counts, count 0 included). -/
theorem tape_parse_show (t : Tape) : Tape.parse t.show = some t := by
  unfold Tape.parse
  rw [TapeParse.splitOne_show, TapeParse.tapeToks, TapeParse.parseTapeToks_left]
  simp only [List.reverse_reverse, List.append_nil, TapeParse.parseBlocks_map]

/-- **tape_show_injective.** Hence two tapes that print alike are the same tape. -/
theorem tape_show_injective (a b : Tape) (h : a.show = b.show) : a = b := by
  have ha := tape_parse_show a
  rw [h, tape_parse_show b] at ha
  exact (Option.some.inj ha).symm

/-! Non-vacuity: a tape with a count-0 block (`7..`), a count-1 block (`1`), multi-digit counts
(`3^1900`, `2^22`) and a two-digit colour (`12^5`); and the two corner tapes with empty spans. -/

example : (⟨3, [⟨3, 1900⟩, ⟨1, 1⟩, ⟨7, 0⟩], [⟨2, 22⟩, ⟨12, 5⟩]⟩ : Tape).show
    = "7.. 1 3^1900 [3] 2^22 12^5" := by decide +kernel
example : Tape.parse "7.. 1 3^1900 [3] 2^22 12^5"
    = some ⟨3, [⟨3, 1900⟩, ⟨1, 1⟩, ⟨7, 0⟩], [⟨2, 22⟩, ⟨12, 5⟩]⟩ := by decide +kernel
example : Tape.parse (⟨3, [⟨3, 1900⟩, ⟨1, 1⟩, ⟨7, 0⟩], [⟨2, 22⟩, ⟨12, 5⟩]⟩ : Tape).show
    = some ⟨3, [⟨3, 1900⟩, ⟨1, 1⟩, ⟨7, 0⟩], [⟨2, 22⟩, ⟨12, 5⟩]⟩ := tape_parse_show _
example : Tape.parse (Tape.init 0).show = some (Tape.init 0) := tape_parse_show _
example : (Tape.init 0).show = "[0]" := by decide +kernel
/-- the parser is not total: what is not a printed tape is refused -/
example : Tape.parse "1^ [0]" = none ∧ Tape.parse "1 2" = none ∧ Tape.parse "1  [0]" = none := by
  decide +kernel

end BB
