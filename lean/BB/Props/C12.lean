/-
C12 — the compressed tape stays canonical and its observers tell the truth.
Property theorems only; helper lemmas live in BB/Lemmas.
(The first half of the property, `Tape.canon_init`, `Tape.canon_step`, `Tape.canon_runOps`, is in
BB/Lemmas/Canon.lean; `C12_canon_reachable` restates the last of them for the blank tape.)
(`trimZ` = remove trailing blanks, `rleCells` = run-length encoding of a cell list, both defined in
BB/Lemmas/Unroll.lean.)
-/
import BB.Lemmas.Unroll

namespace BB

/-- **Canonical invariant over all histories** (re-export). -/
theorem C12_canon_reachable (ops : List (Bool × Nat × Bool)) : ((Tape.init 0).runOps ops).Canon :=
  Tape.canon_runOps (Tape.canon_init 0) ops

/-- A canonical span *is* the run-length encoding of its cells. -/
theorem rle_unroll (s : Span) (h : Span.Canon s) : rleCells (trimZ (Span.unroll s)) = s :=
  h.rle_trim_unroll

/-- **Equality is cell equality**: two canonical spans are equal exactly when they hold the same
    cells. -/
theorem canon_eq_iff (a b : Span) (ha : Span.Canon a) (hb : Span.Canon b) :
    a = b ↔ SameCells (Span.unroll a) (Span.unroll b) :=
  ⟨fun h => h ▸ SameCells.refl _, ha.eq_of_sameCells hb⟩

theorem tape_eq_iff (t u : Tape) (ht : t.Canon) (hu : u.Canon) (q : Nat) :
    t = u ↔ t.toCfg q ≈c u.toCfg q := by
  constructor
  · rintro rfl; exact Cfg.Equiv.refl _
  · rintro ⟨-, hs, hl, hr⟩
    obtain ⟨ts, tl, tr⟩ := t
    obtain ⟨us, ul, ur⟩ := u
    have h1 : tl = ul := ht.1.eq_of_sameCells hu.1 hl
    have h2 : tr = ur := ht.2.eq_of_sameCells hu.2 hr
    have h3 : ts = us := hs
    rw [h1, h2, h3]

/-- **Observers.** `marks` is the number of non-blank cells (no hypothesis needed). -/
theorem marks_truth (t : Tape) (q : Nat) : t.marks = (t.toCfg q).marks :=
  t.marks_toCfg q

theorem blank_truth (t : Tape) (h : t.Canon) (q : Nat) : t.blank = true ↔ (t.toCfg q).Blank :=
  Tape.blank_iff h q

theorem atEdge_truth (t : Tape) (h : t.Canon) (d : Bool) :
    t.atEdge d = true ↔
      t.scan = 0 ∧ AllZero (if d then Span.unroll t.rspan else Span.unroll t.lspan) :=
  Tape.atEdge_iff h d

/-- block counts, block number, span lengths and signature are what one reads off the cells -/
theorem counts_truth (t : Tape) (h : t.Canon) :
    t.counts = (Span.counts (rleCells (trimZ (Span.unroll t.lspan))),
                Span.counts (rleCells (trimZ (Span.unroll t.rspan)))) := by
  rw [h.1.rle_trim_unroll, h.2.rle_trim_unroll]; rfl

theorem spanLens_truth (t : Tape) (h : t.Canon) :
    t.spanLens = ((rleCells (trimZ (Span.unroll t.lspan))).length,
                  (rleCells (trimZ (Span.unroll t.rspan))).length)
    ∧ t.blocks = (rleCells (trimZ (Span.unroll t.lspan))).length
                 + (rleCells (trimZ (Span.unroll t.rspan))).length := by
  rw [h.1.rle_trim_unroll, h.2.rle_trim_unroll]; exact ⟨rfl, rfl⟩

theorem signature_truth (t : Tape) (h : t.Canon) :
    t.signature = ⟨t.scan, Span.signature (rleCells (trimZ (Span.unroll t.lspan))),
                          Span.signature (rleCells (trimZ (Span.unroll t.rspan)))⟩ := by
  rw [h.1.rle_trim_unroll, h.2.rle_trim_unroll]; rfl

/-- `sig_compatible` is: same scan, at least as many blocks on each side, and the colours of the
    first blocks agree with the signature's. -/
theorem sigCompatible_iff (t : Tape) (sig : Signature) :
    t.sigCompatible sig = true ↔
      t.scan = sig.scan ∧ sig.lspan.length ≤ t.lspan.length ∧ sig.rspan.length ≤ t.rspan.length ∧
      (∀ i (hi : i < sig.lspan.length) (hj : i < t.lspan.length), (t.lspan[i]).color = (sig.lspan[i]).color) ∧
      (∀ i (hi : i < sig.rspan.length) (hj : i < t.rspan.length), (t.rspan[i]).color = (sig.rspan[i]).color) := by
  simp only [Tape.sigCompatible, Bool.and_eq_true, beq_iff_eq, decide_eq_true_eq, ge_iff_le,
    Span.sigCompatible_iff, and_assoc]

/- Non-vacuity: a reachable, non-trivial canonical tape. -/
example : ((Tape.init 0).runOps [(true, 1, false), (true, 1, false), (false, 2, false), (false, 0, true)]).Canon :=
  C12_canon_reachable _

end BB
