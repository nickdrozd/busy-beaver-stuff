/-
C10 — tree generation enumerates exactly the normal-form programs, once each.
Property theorems only; helper lemmas live in BB/Lemmas/TreeGen*.lean.

The definitions of the statements are, with doc comments, in BB/Lemmas/TreeGenDefs.lean:
  `Interleaving`  merges of the per-task harvests (what the parallel harvest can produce),
  `Avail`, `SpecFrom`, `SpecRaw`, `UsesLast`, `SpecEmits`  the declarative generation process,
  `Node`, `ProcFrom`, `ProcEmits`  the same process with the code's availability counters,
  `InTable`  all entries inside the `S × C` table,
  `SizeOk`  the size guard.
(`WalkGenerated` is C14's, BB/Lemmas/GraphConn.lean.)

All theorems are for ALL table sizes, both halt flags and ALL step limits.  Where the real code can
panic (overflow-checked build), the theorems are stated for a successful call
(`buildTreeSeq … = .ok l`), `tree_ok` shows that `SizeOk` suffices for success and
`tree_error_iff` says exactly when the call fails.
-/
import BB.Lemmas.TreeGenBuild
import BB.Lemmas.TreeGenWalk

namespace BB.Tree

open BB

/-- **tree_ok.** If `states * colors` fits `u64` and `states * colors ≥ 3 + halt` (the slot budget
    `states * colors - 1 - (1 + halt)` does not underflow and is at least one), `build_tree` does
    not panic, for any step limit. -/
theorem tree_ok (S C : Nat) (halt : Bool) (lim : Nat) (h : SizeOk S C halt) :
    ∃ l, buildTreeSeq S C halt lim = .ok l :=
  (buildTreeLists_ok_of_sizeOk lim h).elim fun ls hls =>
    ⟨_, (buildTreeSeq_ok_iff S C halt lim _).mpr ⟨ls, hls, rfl⟩⟩

example : SizeOk 2 2 true ∧ SizeOk 5 2 false ∧ SizeOk 1 4 true := by decide

/-- **tree_error_iff.** Exactly when `build_tree` fails: `states * colors` overflows `u64`; or the
    budget underflows (`1 ≤ states * colors < 2 + halt`; with `states * colors = 0` there is no
    task at all and the call returns without output); or the budget is exactly zero
    (`states * colors = 2 + halt`, i.e. 1x2, 2x1 without and 1x3, 3x1 with the halt flag) and the
    step limit is at least 2, because then a task reaches an undefined slot and
    `remaining_slots - 1` underflows. -/
theorem tree_error_iff (S C : Nat) (halt : Bool) (lim : Nat) :
    (∃ e, buildTreeSeq S C halt lim = .error e) ↔
      u64Size ≤ S * C ∨ (1 ≤ S * C ∧ S * C < 2 + (if halt then 1 else 0)) ∨
      (S * C = 2 + (if halt then 1 else 0) ∧ 2 ≤ lim) := by
  rw [← buildTreeLists_error_iff]
  unfold buildTreeSeq
  cases buildTreeLists S C halt lim with
  | error e => simp
  | ok ls => simp

/-- the zero-budget failure on a size with `states * colors ≥ 3` -/
example : buildTreeSeq 3 1 true 2 = .error (.overflow "remaining_slots - 1") := by rfl

/-- **tree_counters.** A successful call emits exactly the results of the process with the
    availability *counters* of the code (`growAvail`: a counter grows by one iff it is below its
    maximum and one more than the larger of the reached slot's index and the latest instruction's
    index equals it). -/
theorem tree_counters (S C : Nat) (halt : Bool) (lim : Nat) (l : List Prog)
    (hok : buildTreeSeq S C halt lim = .ok l) (p : Prog) :
    p ∈ l ↔ ProcEmits S C halt lim p := by
  rw [buildTreeSeq_ok hok, List.mem_flatMap]
  unfold ProcEmits roots
  constructor
  · rintro ⟨i, hi, hp⟩
    obtain ⟨h1, h2⟩ := mem_branchL_iff.mp hp
    exact ⟨⟨i, mem_makeInstrs.mp hi, h1⟩, h2⟩
  · rintro ⟨⟨i, hi, h1⟩, h2⟩
    exact ⟨i, mem_makeInstrs.mpr hi, mem_branchL_iff.mpr ⟨h1, h2⟩⟩

/-- **avail_counters_declarative.** On every node of the process the two readings of "available"
    agree: the counters after their update offer exactly the instructions of `Avail`. -/
theorem avail_counters_declarative (S C : Nat) (halt : Bool) (lim : Nat) (p : Prog) :
    ProcEmits S C halt lim p ↔ SpecEmits S C halt lim p := by
  have hav (i : Instr) : (i.2.2 < min 3 S ∧ i.1 < min 3 C) ↔ Avail S C prog0 i := by
    unfold Avail
    rw [maxState_prog0, maxColor_prog0, ← lt_min_two_add, ← lt_min_two_add, Nat.min_comm S,
      Nat.min_comm C]
  exact and_congr_left' (exists_congr fun i =>
    (and_congr_right fun hi => procFrom_iff_specFrom (nodeInv_root hi) _ _).trans
      (and_congr_left' (hav i)))

/-- **tree_complete_sound.** A successful call emits exactly the programs that the declarative
    process `SpecEmits` produces: start from `A0 ↦ 1RB` executed on the blank tape; each time
    the run (cycles counted from the configuration at the slot filled last, at most `lim`)
    reaches an undefined slot and the budget allows, fill it with any instruction whose state and
    colour are inside the table and at most one more than the largest mentioned so far; the
    result is emitted when the run ends otherwise or the budget is spent, provided it mentions the
    last state and the last colour. -/
theorem tree_complete_sound (S C : Nat) (halt : Bool) (lim : Nat) (l : List Prog)
    (hok : buildTreeSeq S C halt lim = .ok l) (p : Prog) :
    p ∈ l ↔ SpecEmits S C halt lim p :=
  (tree_counters S C halt lim l hok p).trans (avail_counters_declarative S C halt lim p)

example : ∃ l, buildTreeSeq 2 2 true 2 = .ok l := tree_ok 2 2 true 2 (by decide)

/-- **tree_nodup.** No program is emitted twice — for every size on which the call succeeds
    (no further guard is needed: two choices at an undefined slot give tables that differ at that
    slot for ever). -/
theorem tree_nodup (S C : Nat) (halt : Bool) (lim : Nat) (l : List Prog)
    (hok : buildTreeSeq S C halt lim = .ok l) : l.Nodup := by
  rw [buildTreeSeq_ok hok]
  exact roots_flatMap_nodup S C halt lim

/-- **schedule_indep.** Every interleaving of the per-task harvests (each task's harvest is
    sequential; the tasks run in any order on any number of threads) is a permutation of the
    sequential harvest: same programs, none twice.
    Trusted: the harvester's `push` is mutually exclusive (Rust `Mutex`), so the parallel harvest
    *is* an interleaving of the per-task harvests. -/
theorem schedule_indep (S C : Nat) (halt : Bool) (lim : Nat) (ls : List (List Prog))
    (l out : List Prog) (hls : buildTreeLists S C halt lim = .ok ls)
    (hl : buildTreeSeq S C halt lim = .ok l) (hout : Interleaving ls out) :
    out.Perm l ∧ out.Nodup ∧ ∀ p, p ∈ out ↔ p ∈ l := by
  obtain ⟨ls', hls', rfl⟩ := (buildTreeSeq_ok_iff S C halt lim l).mp hl
  cases hls.symm.trans hls'
  have hp := hout.perm
  exact ⟨hp, hp.nodup_iff.mpr (tree_nodup S C halt lim _ hl), fun p => hp.mem_iff⟩

/-- the sequential harvest is an interleaving (the hypothesis of `schedule_indep` is satisfiable),
    and an interleaving keeps each task's order -/
theorem interleaving_flatten {α : Type} (ls : List (List α)) : Interleaving ls ls.flatten :=
  Interleaving.flatten ls

theorem interleaving_sublist {α : Type} (ls : List (List α)) (out : List α)
    (h : Interleaving ls out) : ∀ l ∈ ls, l.Sublist out := by
  induction h with
  | nil ls hnil => intro l hl; rw [hnil l hl]; exact List.Sublist.refl _
  | pick pre x l post out _ ih =>
    simp only [List.forall_mem_append, List.forall_mem_cons] at ih ⊢
    exact ⟨fun m hm => (ih.1 m hm).cons _, ih.2.1.cons_cons _, fun m hm => (ih.2.2 m hm).cons _⟩

example : Interleaving [[1, 2], [3]] [1, 3, 2] :=
  .pick [] 1 [2] [[3]] _ (.pick [[2]] 3 [] [] _ (.pick [] 2 [] [[]] _ (.nil _ (by simp))))

/-- **tree_error_iff_task.** The call fails exactly when some task fails (a panic in any task
    makes `build_tree` panic, whatever the schedule). -/
theorem tree_error_iff_task (S C : Nat) (halt : Bool) (lim : Nat) :
    (∃ e, buildTreeLists S C halt lim = .error e) ↔
      ∃ i ∈ makeInstrs (min 3 S) (min 3 C), ∃ e, buildTask S C halt lim i = .error e :=
  buildTreeLists_error_iff_task S C halt lim

/-- **leaf_filter.** Every emitted program has an instruction into a state `≥ S - 1` and an
    instruction printing a colour `≥ C - 1`; and every result of the process that has both is
    emitted. -/
theorem leaf_filter (S C : Nat) (halt : Bool) (lim : Nat) (l : List Prog)
    (hok : buildTreeSeq S C halt lim = .ok l) :
    (∀ p ∈ l, UsesLast S C p) ∧ (∀ p, SpecRaw S C halt lim p → UsesLast S C p → p ∈ l) :=
  ⟨fun p hp => ((tree_complete_sound S C halt lim l hok p).mp hp).2,
   fun p h1 h2 => (tree_complete_sound S C halt lim l hok p).mpr ⟨h1, h2⟩⟩

/-! ### Inside the table; different as tables (`S, C ≥ 2`) -/

/-- a program of the 2x2 tree with halt slot, limit 2 (used in the examples below) -/
def prog22 : Prog := [((0, 0), (1, true, 1)), ((0, 1), (0, false, 0)), ((1, 0), (0, false, 0))]

/-- the hypotheses of the theorems of this section are satisfiable -/
example : 2 ≤ 2 ∧ ∃ l, buildTreeSeq 2 2 true 2 = .ok l ∧ prog22 ∈ l := ⟨by decide, _, rfl, by decide⟩

/-- **tree_inTable.** For `S, C ≥ 2` every emitted program lies inside the `S × C` table (key
    states and next states `< S`, key colours and printed colours `< C`), its entries are strictly
    sorted by key (the `BTreeMap` invariant) and no key occurs twice. -/
theorem tree_inTable (S C : Nat) (halt : Bool) (lim : Nat) (l : List Prog) (hS : 2 ≤ S)
    (hC : 2 ≤ C) (hok : buildTreeSeq S C halt lim = .ok l) (p : Prog) (hp : p ∈ l) :
    InTable S C p ∧ List.Pairwise (fun a b => slotLt a.1 b.1 = true) p ∧
      ∀ kv ∈ p, p.get kv.1 = some kv.2 :=
  have ok := specRaw_tableOk hS hC ((tree_complete_sound S C halt lim l hok p).mp hp).1
  ⟨ok.inTable, ok.sorted, ok.noShadow⟩

/-- **leaf_filter_exact.** For `S, C ≥ 2` every emitted program has an instruction into the last
    state `S - 1` and an instruction printing the last colour `C - 1`. -/
theorem leaf_filter_exact (S C : Nat) (halt : Bool) (lim : Nat) (l : List Prog) (hS : 2 ≤ S)
    (hC : 2 ≤ C) (hok : buildTreeSeq S C halt lim = .ok l) (p : Prog) (hp : p ∈ l) :
    (∃ kv ∈ p, kv.2.2.2 = S - 1) ∧ (∃ kv ∈ p, kv.2.1 = C - 1) :=
  usesLast_exact (tree_inTable S C halt lim l hS hC hok p hp).1
    ((tree_complete_sound S C halt lim l hok p).mp hp).2

/-- **tree_table_inj.** For `S, C ≥ 2` two emitted programs that agree on every slot of the
    `S × C` table are the same program: the emitted programs are pairwise different as tables (as
    printed), not only as key-value lists (`tree_nodup`). -/
theorem tree_table_inj (S C : Nat) (halt : Bool) (lim : Nat) (l : List Prog) (hS : 2 ≤ S)
    (hC : 2 ≤ C) (hok : buildTreeSeq S C halt lim = .ok l) (p p' : Prog) (hp : p ∈ l)
    (hp' : p' ∈ l) (h : ∀ q c, q < S → c < C → p.get (q, c) = p'.get (q, c)) : p = p' :=
  (specRaw_tableOk hS hC ((tree_complete_sound S C halt lim l hok p).mp hp).1).ext
    (specRaw_tableOk hS hC ((tree_complete_sound S C halt lim l hok p').mp hp').1) h

/-- Outside `S, C ≥ 2` this fails.  With one state the emitted programs still contain a row for
    state `B` (from `A0 ↦ 1RB`), which lies outside the 1x3 table: two different emitted programs
    agree on the whole table and print the same. -/
theorem tree_table_inj_counterexample_1x3 :
    let p : Prog := [((0, 0), (1, true, 1)), ((0, 1), (2, false, 0)), ((1, 0), (0, false, 0))]
    let p' : Prog := [((0, 0), (1, true, 1)), ((0, 1), (2, false, 0)), ((1, 0), (1, false, 0))]
    ∃ l, buildTreeSeq 1 3 false 2 = .ok l ∧ p ∈ l ∧ p' ∈ l ∧ p ≠ p' ∧
      (∀ q, q < 1 → ∀ c, c < 3 → p.get (q, c) = p'.get (q, c)) ∧
      p.show (some (1, 3)) = p'.show (some (1, 3)) :=
  ⟨_, rfl, by decide, by decide, by decide, by decide, by decide⟩

/-- With one colour the emitted programs contain entries for the scanned colour 1 (printed by
    `A0 ↦ 1RB`), outside the 3x1 table. -/
theorem tree_table_inj_counterexample_3x1 :
    let p : Prog := [((0, 0), (1, true, 1)), ((0, 1), (0, false, 2)), ((1, 0), (0, false, 0))]
    let p' : Prog := [((0, 0), (1, true, 1)), ((0, 1), (0, true, 2)), ((1, 0), (0, false, 0))]
    ∃ l, buildTreeSeq 3 1 false 2 = .ok l ∧ p ∈ l ∧ p' ∈ l ∧ p ≠ p' ∧
      (∀ q, q < 3 → ∀ c, c < 1 → p.get (q, c) = p'.get (q, c)) ∧
      p.show (some (3, 1)) = p'.show (some (3, 1)) :=
  ⟨_, rfl, by decide, by decide, by decide, by decide, by decide⟩

/-- **walkGenerated_of_mem.** For `S, C ≥ 2` every emitted program is `WalkGenerated` for some
    walk `w` (the states visited by the runs of the generation process, followed by the next state
    of the instruction inserted last), so C14's `isConnected_true_of_walk` applies to tree output:
    on it the connectivity filter answers `true` exactly for the strongly connected programs. -/
theorem walkGenerated_of_mem (S C : Nat) (halt : Bool) (lim : Nat) (l : List Prog) (hS : 2 ≤ S)
    (hC : 2 ≤ C) (hok : buildTreeSeq S C halt lim = .ok l) (p : Prog) (hp : p ∈ l) :
    ∃ w, Graph.WalkGenerated p S w = true :=
  specEmits_walkGenerated hS hC ((tree_complete_sound S C halt lim l hok p).mp hp)

example : Graph.WalkGenerated prog22 2 [0, 1, 0] = true := by decide

end BB.Tree
