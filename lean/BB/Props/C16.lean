/-
C16 — lazily compiled macro programs are history-independent.
Property theorems only; the lemmas live in BB/Lemmas/MacroHist*.lean.

The definitions the statements use live (with doc comments) at the top of
BB/Lemmas/MacroHistDefs.lean (`progFn`, `ColorsLt`, `progColorsLt`, `CacheInv`, `handedOut`,
`slotColor`, `ownLegal`, `slotLegal`, `legalSeq`, `answers`, `pureAnswers`, `Mono`, `Agree`,
`AnsLegal`, `HistIndep`, `MLS`, `MLC`, `MInv`, `Inv`), BB/Lemmas/MacroHistSeq.lean (`mlsB`, `mlcB`,
`slotLegal2`, `getInstrsTwo`, `slotsOf`, `pickAnswers`, `AnswersAre`, `freshMacro`, `fixOk`) and
BB/Lemmas/MacroHistTable.lean (`pure1`, `pure2`, `Inv2`).

Model: BB/Model/Macros.lean.  A macro object is a value `m : MacroProg σ`; `get_instr` is
`MacroProg.getInstr get m slot fixF3 : Res (Option Instr × MacroProg σ)` (answer and new state);
`getInstrs` runs a list of queries.  The stateless reference is `pureInstr` (`pure1 p lp fix` over a
base table `p`, `pure2` for a macro over a macro).

Side conditions that appear below, all decidable:
  * `0 < lp.baseColors`                      at least one base colour;
  * `progColorsLt p lp.baseColors`           the table prints only colours `< base_colors`
                                              (necessary: `get_instr_bigcolor_witness`);
  * `fixOk lp fixF3`                         block macro, or backsymbol macro with the repaired split
                                              index (necessary: `get_instr_history_dependent_F3_witness`);
  * `lpi.macroColors ≤ lpo.baseColors`       (nesting) the outer macro has at least the inner macro's
                                              colours (necessary: `get_instr_nested_base_params_witness`);
  * `legalSeq .. slotLegal m qs`             every queried slot looks up a colour that was handed out
                                              by this object before (or is 0) and, for the backsymbol
                                              macro, scans a base colour; otherwise the real code
                                              panics (`get_instr_not_handed_out_panics`).

Non-interference of two objects: in this model two macro objects are two VALUES; `getInstr` takes
one of them and returns its successor, so a query to one object cannot read or change the other —
there is nothing to prove, it is the shape of the model (the Rust objects own their `RefCell`s and
only share the immutable `&P`).  What is proved instead is `get_instr_two_objects`: running an
arbitrary interleaving of queries to two objects gives each object exactly the answers and the
final state it gets when run alone on its own queries.
-/
import BB.Lemmas.MacroHistTable

namespace BB.Macros

/-! ## 1. The invariant -/

/-- **inv_init.** A freshly built macro object over the base table `p` satisfies `Inv`
    (memo empty; `color_to_tape = {0 ↦ blank}`; `tape_to_color` empty). -/
theorem inv_init (p : Prog) (kind : LogicKind) (cells : Nat) (params : Nat × Nat) (fixF3 : Bool)
    (hb : 0 < params.2) :
    Inv p ⟨kind, cells, params.1, params.2⟩ fixF3 (MacroProg.new p (Logic.new kind cells params)) :=
  MInv.init ⟨kind, cells, params.1, params.2⟩ p rfl hb hb

/-- `inv_init` for `make_block_macro` -/
theorem inv_init_block (p : Prog) (params : Nat × Nat) (blocks : Nat) (fixF3 : Bool)
    (hb : 0 < params.2) :
    Inv p ⟨.block, blocks, params.1, params.2⟩ fixF3 (makeBlockMacro p params blocks) :=
  MInv.init ⟨.block, blocks, params.1, params.2⟩ p rfl hb hb

/-- `inv_init` for `make_backsymbol_macro` -/
theorem inv_init_backsymbol (p : Prog) (params : Nat × Nat) (backsymbols : Nat) (fixF3 : Bool)
    (hb : 0 < params.2) :
    Inv p ⟨.backsymbol, backsymbols, params.1, params.2⟩ fixF3
      (makeBacksymbolMacro p params backsymbols) :=
  MInv.init ⟨.backsymbol, backsymbols, params.1, params.2⟩ p rfl hb hb

/-- **inv_step (block).** A legal `get_instr` of a block macro object that satisfies `Inv` and
    returns (does not panic): the new state satisfies `Inv`, the answer is `pureInstr` of the slot,
    no handed-out colour is forgotten, and the slot the answer leads to (state entered, colour
    printed) is legal in the new state.  Holds for the code as it is (`fixF3` arbitrary). -/
theorem inv_step_block (p : Prog) (lp : LogicParams) (fixF3 : Bool) (hk : lp.kind = .block)
    (hb : 0 < lp.baseColors) (hcol : progColorsLt p lp.baseColors = true)
    (m : MacroProg Prog) (hI : Inv p lp fixF3 m) (slot : Slot) (hl : slotLegal m slot = true)
    (a : Option Instr) (m' : MacroProg Prog)
    (hget : MacroProg.getInstr compGet m slot fixF3 = .ok (a, m')) :
    Inv p lp fixF3 m' ∧ pure1 p lp fixF3 slot = .ok a ∧
      (∀ c, handedOut m c = true → handedOut m' c = true) ∧
      (∀ pr sh nx, a = some (pr, sh, nx) → slotLegal m' (nx, pr) = true) :=
  inv_step (histIndep_comp p _ hb (progColorsLt_sound p _ hcol)) hb (by simp only [fixOk, hk]) hI hl
    hget

/-- **inv_step (backsymbol), PARTIAL: only for the repaired split index `fixF3 = true`.**
    For `fixF3 = false` (the code as it is) the invariant is broken by the first left exit: a tape
    of length `cells - 1` enters the cache (`get_instr_history_dependent_F3_witness`). -/
theorem inv_step_backsymbol_fixF3_partial (p : Prog) (lp : LogicParams)
    (hk : lp.kind = .backsymbol)
    (hb : 0 < lp.baseColors) (hcol : progColorsLt p lp.baseColors = true)
    (m : MacroProg Prog) (hI : Inv p lp true m) (slot : Slot) (hl : slotLegal m slot = true)
    (a : Option Instr) (m' : MacroProg Prog)
    (hget : MacroProg.getInstr compGet m slot true = .ok (a, m')) :
    Inv p lp true m' ∧ pure1 p lp true slot = .ok a ∧
      (∀ c, handedOut m c = true → handedOut m' c = true) ∧
      (∀ pr sh nx, a = some (pr, sh, nx) → slotLegal m' (nx, pr) = true) :=
  inv_step (histIndep_comp p _ hb (progColorsLt_sound p _ hcol)) hb (by simp only [fixOk, hk]) hI hl
    hget

/-! ## 2. Answers are a function of base program, parameters and slot -/

/-- **get_instr_pure (block).** For every base table, every block size, every sequence of queries
    to a fresh block macro object in which each queried colour was handed out before (or is 0):
    the list of answers — up to and including the first error, if any — is exactly what the
    stateless reference `pureInstr` gives slot by slot.  Hence no answer depends on the other
    queries, their order or their number. -/
theorem get_instr_pure_block (p : Prog) (params : Nat × Nat) (blocks : Nat) (fixF3 : Bool)
    (hb : 0 < params.2) (hcol : progColorsLt p params.2 = true) (qs : List Slot)
    (hl : legalSeq (macroGet compGet fixF3) slotLegal (makeBlockMacro p params blocks) qs = true) :
    answers (getInstrs (macroGet compGet fixF3) (makeBlockMacro p params blocks) qs) =
      pureAnswers (pure1 p ⟨.block, blocks, params.1, params.2⟩ fixF3) qs :=
  (histIndep_one p ⟨.block, blocks, params.1, params.2⟩ fixF3 hb hcol rfl).answers_eq
    slotLegal_sound (MInv.init _ p rfl hb hb) qs hl

/- The full statement for the backsymbol macro (kept visible) is FALSE for the code as it is:

   theorem get_instr_pure_backsymbol (p) (params) (k) (hb) (hcol) (qs)
       (hl : legalSeq (macroGet compGet false) slotLegal (makeBacksymbolMacro p params k) qs = true) :
       answers (getInstrs (macroGet compGet false) (makeBacksymbolMacro p params k) qs) =
         pureAnswers (pure1 p ⟨.backsymbol, k, params.1, params.2⟩ false) qs

   see `get_instr_history_dependent_F3_witness`. -/

/-- **get_instr_pure (backsymbol), PARTIAL: for the repaired split index `fixF3 = true`.** -/
theorem get_instr_pure_backsymbol_fixF3_partial (p : Prog) (params : Nat × Nat) (backsymbols : Nat)
    (hb : 0 < params.2) (hcol : progColorsLt p params.2 = true) (qs : List Slot)
    (hl : legalSeq (macroGet compGet true) slotLegal
      (makeBacksymbolMacro p params backsymbols) qs = true) :
    answers (getInstrs (macroGet compGet true) (makeBacksymbolMacro p params backsymbols) qs) =
      pureAnswers (pure1 p ⟨.backsymbol, backsymbols, params.1, params.2⟩ true) qs :=
  (histIndep_one p ⟨.backsymbol, backsymbols, params.1, params.2⟩ true hb hcol rfl).answers_eq
    slotLegal_sound (MInv.init _ p rfl hb hb) qs hl

/-- **No error on legal sequences (block, size ≥ 1).** The run returns, the final state satisfies
    `Inv`, and every answer is the (error-free) `pureInstr` of its slot.  (With `blocks = 0` the
    window is empty and the real code underflows `cells - 1` for right-edge slots; that case is
    covered by `get_instr_pure_block`, where the reference errs in the same way.) -/
theorem get_instr_total_block (p : Prog) (params : Nat × Nat) (blocks : Nat) (fixF3 : Bool)
    (hb : 0 < params.2) (hcells : 0 < blocks) (hcol : progColorsLt p params.2 = true)
    (qs : List Slot)
    (hl : legalSeq (macroGet compGet fixF3) slotLegal (makeBlockMacro p params blocks) qs = true) :
    ∃ as m', getInstrs (macroGet compGet fixF3) (makeBlockMacro p params blocks) qs = .ok (as, m') ∧
      Inv p ⟨.block, blocks, params.1, params.2⟩ fixF3 m' ∧
      AnswersAre (pure1 p ⟨.block, blocks, params.1, params.2⟩ fixF3) qs as :=
  (histIndep_one p ⟨.block, blocks, params.1, params.2⟩ fixF3 hb hcol rfl).total slotLegal_sound
    (pureInstr_ok _ (progFn_ok p) _ fixF3 hb hcells rfl) (MInv.init _ p rfl hb hb) qs hl

/-- **No error on legal sequences (backsymbol), PARTIAL: `fixF3 = true`.** -/
theorem get_instr_total_backsymbol_fixF3_partial (p : Prog) (params : Nat × Nat)
    (backsymbols : Nat) (hb : 0 < params.2) (hcol : progColorsLt p params.2 = true)
    (qs : List Slot)
    (hl : legalSeq (macroGet compGet true) slotLegal
      (makeBacksymbolMacro p params backsymbols) qs = true) :
    ∃ as m', getInstrs (macroGet compGet true) (makeBacksymbolMacro p params backsymbols) qs =
        .ok (as, m') ∧
      Inv p ⟨.backsymbol, backsymbols, params.1, params.2⟩ true m' ∧
      AnswersAre (pure1 p ⟨.backsymbol, backsymbols, params.1, params.2⟩ true) qs as :=
  (histIndep_one p ⟨.backsymbol, backsymbols, params.1, params.2⟩ true hb hcol rfl).total
    slotLegal_sound (pureInstr_ok _ (progFn_ok p) _ true hb (Nat.succ_pos _) rfl)
    (MInv.init _ p rfl hb hb) qs hl

/-- **The illegal case.** A slot whose looked-up colour (`slotColor`: the slot's colour for the
    block macro, the back-span component of the slot's state for the backsymbol macro) was never
    handed out by this object: `get_instr` panics (`color_to_tape_cache[&color]`, or division by
    zero when `base_colors = 0`).  Any inner program, any `fixF3`; `m` only has to satisfy the
    invariant (which says that memoised slots were legal). -/
theorem get_instr_not_handed_out_panics {σ : Type} (get : GetFn σ)
    (f : Slot → Res (Option Instr)) (lp : LogicParams) (fixF3 : Bool) (IInv : σ → Prop)
    (LS LC : σ → Nat → Prop) (m : MacroProg σ) (hI : MInv f lp fixF3 IInv LS LC m) (slot : Slot)
    (hl : ownLegal m slot = false) : MacroProg.getInstr get m slot fixF3 = .error .panic :=
by
  have hmemo : m.instrs.get slot = none := by
    cases hg : m.instrs.get slot with
    | none => rfl
    | some i => rw [(hI.memo slot i hg).2.1] at hl; cases hl
  have hdec := m.logic.deconstructInputs_panic slot <| by
    simpa only [ownLegal, handedOut, Option.isSome_eq_false_iff, Option.isNone_iff_eq_none] using hl
  simp only [MacroProg.getInstr, hmemo, MacroProg.calculateInstr, hdec]

/-- **get_instr_order_irrelevant.** Two legal query sequences to two objects built from the same
    table and parameters (e.g. both fresh; block macro, or backsymbol macro with `fixF3 = true`),
    both returning: wherever the same slot `s` occurs — position `i` of the first, `j` of the
    second — the answers are the same, namely `pureInstr` of `s`. -/
theorem get_instr_order_irrelevant (p : Prog) (lp : LogicParams) (fixF3 : Bool)
    (hb : 0 < lp.baseColors) (hcol : progColorsLt p lp.baseColors = true)
    (hfix : fixOk lp fixF3 = true) (qs1 qs2 : List Slot)
    (hl1 : legalSeq (macroGet compGet fixF3) slotLegal (freshMacro p lp) qs1 = true)
    (hl2 : legalSeq (macroGet compGet fixF3) slotLegal (freshMacro p lp) qs2 = true)
    (as1 as2 : List (Option Instr)) (m1 m2 : MacroProg Prog)
    (h1 : getInstrs (macroGet compGet fixF3) (freshMacro p lp) qs1 = .ok (as1, m1))
    (h2 : getInstrs (macroGet compGet fixF3) (freshMacro p lp) qs2 = .ok (as2, m2))
    (i j : Nat) (s : Slot) (hi : qs1[i]? = some s) (hj : qs2[j]? = some s) :
    ∃ a, as1[i]? = some a ∧ as2[j]? = some a ∧ pure1 p lp fixF3 s = .ok a :=
  have H := histIndep_one p lp fixF3 hb hcol hfix
  have hI : Inv p lp fixF3 (freshMacro p lp) := MInv.init lp p rfl hb hb
  (H.answersAre slotLegal_sound hI hl1 h1).2.same_slot (H.answersAre slotLegal_sound hI hl2 h2).2
    hi hj

/-- **get_instr_repeat.** In one legal returning query sequence, two positions that query the
    same slot get the same answer. -/
theorem get_instr_repeat (p : Prog) (lp : LogicParams) (fixF3 : Bool)
    (hb : 0 < lp.baseColors) (hcol : progColorsLt p lp.baseColors = true)
    (hfix : fixOk lp fixF3 = true) (qs : List Slot)
    (hl : legalSeq (macroGet compGet fixF3) slotLegal (freshMacro p lp) qs = true)
    (as : List (Option Instr)) (m' : MacroProg Prog)
    (h : getInstrs (macroGet compGet fixF3) (freshMacro p lp) qs = .ok (as, m'))
    (i j : Nat) (s : Slot) (hi : qs[i]? = some s) (hj : qs[j]? = some s) :
    ∃ a, as[i]? = some a ∧ as[j]? = some a :=
  let ⟨a, h1, h2, _⟩ := get_instr_order_irrelevant p lp fixF3 hb hcol hfix qs qs hl hl as as m' m'
    h h i j s hi hj
  ⟨a, h1, h2⟩

/-! ### Witnesses -/

/-- `1RB 1LB  1LA 0RA` -/
def progF3 : Prog :=
  [((0, 0), (1, true, 1)), ((0, 1), (1, false, 1)), ((1, 0), (1, false, 0)), ((1, 1), (0, true, 0))]

/-- **F3: the backsymbol macro of the code as it is (`fixF3 = false`) is history-dependent.**
    `1RB 1LB  1LA 0RA`, parameters (2, 2), one backsymbol cell: slot `(1, 0)` is answered
    `(1, R, 5)` by a fresh object but `(1, L, 4)` after slot `(0, 1)` was queried; both sequences
    are legal.  (Confirmed on the real code.) -/
theorem get_instr_history_dependent_F3_witness :
    legalSeq (macroGet compGet false) slotLegal (makeBacksymbolMacro progF3 (2, 2) 1)
      [(0, 1), (1, 0)] = true ∧
    legalSeq (macroGet compGet false) slotLegal (makeBacksymbolMacro progF3 (2, 2) 1) [(1, 0)] = true ∧
    progColorsLt progF3 2 = true ∧
    answers (getInstrs (macroGet compGet false) (makeBacksymbolMacro progF3 (2, 2) 1)
      [(0, 1), (1, 0)]) = .ok [some (1, true, 1), some (1, false, 4)] ∧
    answers (getInstrs (macroGet compGet false) (makeBacksymbolMacro progF3 (2, 2) 1) [(1, 0)]) =
      .ok [some (1, true, 5)] := by decide +kernel

/-- `0RA 2RA  1LA ...` read with 2 colours: the table prints colour 2 -/
def progBig : Prog := [((0, 0), (0, true, 0)), ((0, 1), (2, true, 0)), ((1, 0), (1, false, 0))]

/-- **`progColorsLt` is necessary.** The table `0RA 2RA  1LA ...` with `params = (2, 2)` (it prints
    colour 2), block size 2: slots `(2, 0)` and `(3, 0)` produce the blocks `[1, 0]` and `[0, 2]`,
    both of positional value 2; macro colour 2 means whichever was produced last, so the answer to
    slot `(0, 2)` (`none` or `(4, R, 0)`) depends on the order of the two earlier queries.  Both
    sequences are legal.  (The real code accepts such `params`: they are passed by the caller.) -/
theorem get_instr_bigcolor_witness :
    progColorsLt progBig 2 = false ∧
    legalSeq (macroGet compGet false) slotLegal (makeBlockMacro progBig (2, 2) 2)
      [(2, 0), (3, 0), (0, 2)] = true ∧
    legalSeq (macroGet compGet false) slotLegal (makeBlockMacro progBig (2, 2) 2)
      [(3, 0), (2, 0), (0, 2)] = true ∧
    answers (getInstrs (macroGet compGet false) (makeBlockMacro progBig (2, 2) 2)
      [(2, 0), (3, 0), (0, 2)]) = .ok [some (2, false, 1), some (2, true, 0), none] ∧
    answers (getInstrs (macroGet compGet false) (makeBlockMacro progBig (2, 2) 2)
      [(3, 0), (2, 0), (0, 2)]) = .ok [some (2, true, 0), some (2, false, 1), some (4, true, 0)] := by
  decide +kernel

/-! ## 3. Colours decode to the cells that produced them -/

/-- `encode (decode c) = c` for `c < base ^ cells` -/
theorem encode_decode (base cells c : Nat) (hc : c < base ^ cells) :
    encode base (decode base cells c) = c := by
  induction cells generalizing c with
  | zero => rw [Nat.lt_one_iff.1 hc]; rfl
  | succ n ih =>
    rw [decode_succ, encode_snoc, ih _ (Nat.div_lt_of_lt_mul (Nat.mul_comm .. ▸ hc))]
    exact Nat.div_add_mod' c base

/-- `decode (encode t) = t` for tapes with entries `< base` -/
theorem decode_encode (base : Nat) (t : MTape) (ht : ∀ x ∈ t, x < base) :
    decode base t.length (encode base t) = t :=
  (encode_lt_and_decode base t ht).2

/-- the colour of an in-range tape is `< base ^ length` -/
theorem encode_lt (base : Nat) (t : MTape) (ht : ∀ x ∈ t, x < base) :
    encode base t < base ^ t.length :=
  (encode_lt_and_decode base t ht).1

/-- **handed_out_decodes.** In every state satisfying `Inv`, a handed-out colour `c` is cached
    with a tape `t` (so `color_to_tape c` does not panic) of length `cells` with entries
    `< base_colors`; `t` is the positional decoding of `c`, `c` is the positional value of `t`,
    `c < base_colors ^ cells`, and (unless `c = 0`, whose entry is the initial one) `tape_to_color t`
    is a cache hit returning `c`.  By `inv_step_*`, the colour in an answer IS the positional value
    of the tape the simulator produced (`pureReconstructOutputs`), and is handed out. -/
theorem handed_out_decodes (p : Prog) (lp : LogicParams) (fixF3 : Bool) (m : MacroProg Prog)
    (hI : Inv p lp fixF3 m) (c : Nat) (hc : handedOut m c = true) :
    ∃ t, m.logic.converter.colorToTape c = .ok t ∧ t = decode lp.baseColors lp.cells c ∧
      encode lp.baseColors t = c ∧ c < lp.baseColors ^ lp.cells ∧ t.length = lp.cells ∧
      (∀ x ∈ t, x < lp.baseColors) ∧
      (c ≠ 0 → (m.logic.converter.tapeToColor t) = (c, m.logic.converter)) :=
by
  obtain ⟨t, ht⟩ := (handedOut_iff m c).1 hc
  obtain ⟨hd, hlt⟩ := hI.cache.decode ht
  obtain ⟨hlen, hr, he⟩ := hI.cache.c2t c t ht
  refine ⟨t, by simp only [TapeColorConverter.colorToTape, ht], hd, he, hlt, hlen, hr, fun hc0 => ?_⟩
  rcases hI.cache.c2t_t2c c t ht with h | h
  · exact absurd h hc0
  · simp only [TapeColorConverter.tapeToColor, h]

/-! ## 4. Nesting -/

/-- **Lifting one level.** If the inner stateful program `get` is history-independent with stateless
    answers `f` (in the sense of `HistIndep`: invariant `IInv`, legal states `LS`, legal colours
    `LC`), its legal colours are `< lp.baseColors`, and the macro is a block macro or has the
    repaired split, then the macro object over it is history-independent with stateless answers
    `pureInstr f lp fixF3`, invariant `MInv ..`, legal states `MLS LS` and legal colours `MLC LC`.
    Iterating this gives `pureChain`-style references for every nesting depth. -/
theorem macro_histIndep_lift {σ : Type} (get : GetFn σ) (f : Slot → Res (Option Instr))
    (IInv : σ → Prop) (LS LC : σ → Nat → Prop) (lp : LogicParams) (fixF3 : Bool)
    (H : HistIndep get f IInv LS LC)
    (hbound : ∀ st c, IInv st → LC st c → c < lp.baseColors) (hb : 0 < lp.baseColors)
    (hfix : fixOk lp fixF3 = true) :
    HistIndep (macroGet get fixF3) (pureInstr f lp fixF3) (MInv f lp fixF3 IInv LS LC)
      (MLS LS) (MLC LC) ∧
    (∀ m c, MInv f lp fixF3 IInv LS LC m → MLC LC m c → c < lp.macroColors) :=
  ⟨macro_histIndep H hbound hb (fixOk_imp hfix), fun m c hI hc => macro_bound hbound m c hI hc⟩

/-- a base table is history-independent (the base case of the lifting) -/
theorem base_histIndep (p : Prog) (base : Nat) (hb : 0 < base)
    (hcol : progColorsLt p base = true) :
    HistIndep compGet (progFn p) (fun st => st = p) TrueLeg (LtLeg base) :=
  histIndep_comp p base hb (progColorsLt_sound p base hcol)

/-- **A macro over any inner program whose answers do not depend on its state** (`hpure`: in every
    state `st` the answer to `s` is `f s`, errors included, with some new state): legal query
    sequences to a fresh macro object are answered as `pureInstr f lp` answers them. -/
theorem get_instr_pure_stateless_inner {σ : Type} (get : GetFn σ) (f : Slot → Res (Option Instr))
    (hpure : ∀ st s, Agree (get st s) (pureGet f () s) (fun _ _ => True))
    (lp : LogicParams) (fixF3 : Bool) (hb : 0 < lp.baseColors) (hcol : ColorsLt f lp.baseColors)
    (hfix : fixOk lp fixF3 = true) (st0 : σ) (qs : List Slot)
    (hl : legalSeq (macroGet get fixF3) slotLegal (freshMacro st0 lp) qs = true) :
    answers (getInstrs (macroGet get fixF3) (freshMacro st0 lp) qs) =
      pureAnswers (pureInstr f lp fixF3) qs :=
  (macro_histIndep (lp := lp)
      (histIndep_of_stateless get f TrueInv (fun c => c < lp.baseColors) hb hcol
        fun st s _ => hpure st s)
      (fun _ _ _ h => h) hb (fixOk_imp hfix)).answers_eq
    slotLegal_sound (MInv.init lp st0 trivial hb hb) qs hl

/-- **Macro over macro over a base table.** Inner parameters `lpi`, outer parameters `lpo` with
    `lpi.macroColors ≤ lpo.baseColors` (true when the outer macro is built with the inner macro's
    `params()`); each level a block macro or repaired backsymbol macro.  Legal (`slotLegal2`) query
    sequences to the fresh nested object are answered as the two-level stateless reference
    `pure2` answers them, errors included. -/
theorem get_instr_pure_nested (p : Prog) (lpi lpo : LogicParams) (fixF3 : Bool)
    (hbi : 0 < lpi.baseColors) (hcol : progColorsLt p lpi.baseColors = true)
    (hle : lpi.macroColors ≤ lpo.baseColors)
    (hfixi : fixOk lpi fixF3 = true) (hfixo : fixOk lpo fixF3 = true) (qs : List Slot)
    (hl : legalSeq (macroGet (macroGet compGet fixF3) fixF3) slotLegal2
      (freshMacro (freshMacro p lpi) lpo) qs = true) :
    answers (getInstrs (macroGet (macroGet compGet fixF3) fixF3)
      (freshMacro (freshMacro p lpi) lpo) qs) = pureAnswers (pure2 p lpi lpo fixF3) qs :=
  (histIndep_two p lpi lpo fixF3 hbi hcol hle hfixi hfixo).answers_eq
    (slotLegal2_sound p lpi lpo fixF3) (inv2_init p lpi lpo fixF3 hbi hcol hle hfixi) qs hl

/-- `0RA ...  1RA ...` -/
def progNest : Prog := [((0, 0), (0, true, 0)), ((1, 0), (1, true, 0))]

/-- **`lpi.macroColors ≤ lpo.baseColors` is necessary: nesting with the BASE params at both levels
    (as the repository's tests and `machine.rs` do) is history-dependent.**  `0RA ...  1RA ...`,
    block macro of size 2 over block macro of size 2, both built with `params = (2, 2)`: the inner
    macro has 4 colours, the outer one encodes blocks of them in base 2, so different blocks get
    the same outer colour.  Slot `(1, 2)` is answered `(2, R, 0)` or `none` depending on the order
    of the two earlier queries `(5, 0)`, `(6, 0)`; both sequences are legal (`slotLegal2`).  Holds
    for `fixF3 = false` and `true` alike (no backsymbol macro involved).  (Confirmed on the real
    code.) -/
theorem get_instr_nested_base_params_witness :
    legalSeq (macroGet (macroGet compGet false) false) slotLegal2
      (makeBlockMacro (makeBlockMacro progNest (2, 2) 2) (2, 2) 2) [(5, 0), (6, 0), (1, 2)] = true ∧
    legalSeq (macroGet (macroGet compGet false) false) slotLegal2
      (makeBlockMacro (makeBlockMacro progNest (2, 2) 2) (2, 2) 2) [(6, 0), (5, 0), (1, 2)] = true ∧
    progColorsLt progNest 2 = true ∧
    answers (getInstrs (macroGet (macroGet compGet false) false)
      (makeBlockMacro (makeBlockMacro progNest (2, 2) 2) (2, 2) 2) [(5, 0), (6, 0), (1, 2)]) =
      .ok [some (2, true, 0), some (2, true, 0), some (2, true, 0)] ∧
    answers (getInstrs (macroGet (macroGet compGet false) false)
      (makeBlockMacro (makeBlockMacro progNest (2, 2) 2) (2, 2) 2) [(6, 0), (5, 0), (1, 2)]) =
      .ok [some (2, true, 0), some (2, true, 0), none] := by decide +kernel

/-- `pureChain` (every level built with the BASE params, as the repository's tests do) is `pure1`
    / `pure2` with those parameters -/
theorem pureChain_eq (p : Prog) (params : Nat × Nat) (fixF3 : Bool) (k1 k2 : LogicKind)
    (c1 c2 : Nat) :
    pureChain p params fixF3 [(k1, c1)] = pure1 p ⟨k1, c1, params.1, params.2⟩ fixF3 ∧
    pureChain p params fixF3 [(k2, c2), (k1, c1)] =
      pure2 p ⟨k1, c1, params.1, params.2⟩ ⟨k2, c2, params.1, params.2⟩ fixF3 :=
  ⟨rfl, rfl⟩

/-! ## 5. Two objects -/

/-- **get_instr_two_objects.** Any interleaving `qs` of queries to two stateful programs (tag
    `false` = first, `true` = second), e.g. two macro objects over the same base table: the
    interleaved run returns iff both runs alone return, and then each program gave exactly the
    answers, and ends in exactly the state, of its run alone on its own slots. -/
theorem get_instr_two_objects {σ τ : Type} (g1 : GetFn σ) (g2 : GetFn τ) (a : σ) (b : τ)
    (qs : List (Bool × Slot)) :
    (∀ as a' b', getInstrsTwo g1 g2 (a, b) qs = .ok (as, (a', b')) →
      getInstrs g1 a (slotsOf false qs) = .ok (pickAnswers false qs as, a') ∧
      getInstrs g2 b (slotsOf true qs) = .ok (pickAnswers true qs as, b')) ∧
    (∀ as1 as2 a' b', getInstrs g1 a (slotsOf false qs) = .ok (as1, a') →
      getInstrs g2 b (slotsOf true qs) = .ok (as2, b') →
      ∃ as, getInstrsTwo g1 g2 (a, b) qs = .ok (as, (a', b'))) :=
  ⟨fun as a' b' h => getInstrsTwo_ok g1 g2 qs a b as a' b' h,
   fun as1 as2 a' b' h1 h2 => getInstrsTwo_of_alone g1 g2 qs a b as1 as2 a' b' h1 h2⟩

/-- **Two macro objects over one base table, interleaved.** If the queries addressed to each object
    are legal for it (alone), every answer of the interleaved run is `pureInstr` of its slot with
    the parameters of the object it was addressed to. -/
theorem get_instr_two_objects_pure (p : Prog) (lp1 lp2 : LogicParams) (fixF3 : Bool)
    (hb1 : 0 < lp1.baseColors) (hb2 : 0 < lp2.baseColors)
    (hcol1 : progColorsLt p lp1.baseColors = true) (hcol2 : progColorsLt p lp2.baseColors = true)
    (hfix1 : fixOk lp1 fixF3 = true) (hfix2 : fixOk lp2 fixF3 = true)
    (qs : List (Bool × Slot))
    (hl1 : legalSeq (macroGet compGet fixF3) slotLegal (freshMacro p lp1) (slotsOf false qs) = true)
    (hl2 : legalSeq (macroGet compGet fixF3) slotLegal (freshMacro p lp2) (slotsOf true qs) = true)
    (as : List (Option Instr)) (m1 m2 : MacroProg Prog)
    (hrun : getInstrsTwo (macroGet compGet fixF3) (macroGet compGet fixF3)
      (freshMacro p lp1, freshMacro p lp2) qs = .ok (as, (m1, m2))) :
    AnswersAre (pure1 p lp1 fixF3) (slotsOf false qs) (pickAnswers false qs as) ∧
    AnswersAre (pure1 p lp2 fixF3) (slotsOf true qs) (pickAnswers true qs as) :=
  have ⟨h1, h2⟩ := getInstrsTwo_ok _ _ qs _ _ as m1 m2 hrun
  ⟨((histIndep_one p lp1 fixF3 hb1 hcol1 hfix1).answersAre slotLegal_sound
      (MInv.init lp1 p rfl hb1 hb1) hl1 h1).2,
   ((histIndep_one p lp2 fixF3 hb2 hcol2 hfix2).answersAre slotLegal_sound
      (MInv.init lp2 p rfl hb2 hb2) hl2 h2).2⟩

/-! ## Non-vacuity: the hypotheses of each theorem hold on a concrete non-trivial input

`progF3 = 1RB 1LB  1LA 0RA`. -/

/-- query sequences used below: repetitions, and slots whose colour (3) / state (10, 15) were
    handed out by earlier answers -/
def qsBlock : List Slot := [(0, 0), (1, 0), (2, 0), (3, 0), (3, 3), (0, 3), (3, 3), (0, 0)]
def qsBack : List Slot := [(0, 0), (1, 0), (0, 1), (1, 1), (10, 0), (15, 1), (0, 0)]

-- inv_init, inv_init_block, inv_init_backsymbol: `0 < params.2`
example : (0 : Nat) < ((2, 2) : Nat × Nat).2 := by decide

-- inv_step_block
example : progColorsLt progF3 2 = true ∧
    slotLegal (makeBlockMacro progF3 (2, 2) 2) (1, 0) = true ∧
    ∃ a m', MacroProg.getInstr compGet (makeBlockMacro progF3 (2, 2) 2) (1, 0) false = .ok (a, m') :=
  ⟨by decide, by decide +kernel, exists_ok_of_toBool (by decide +kernel)⟩

-- inv_step_backsymbol_fixF3_partial
example : slotLegal (makeBacksymbolMacro progF3 (2, 2) 2) (1, 1) = true ∧
    ∃ a m', MacroProg.getInstr compGet (makeBacksymbolMacro progF3 (2, 2) 2) (1, 1) true =
      .ok (a, m') :=
  ⟨by decide +kernel, exists_ok_of_toBool (by decide +kernel)⟩

-- get_instr_pure_block, get_instr_total_block
example : progColorsLt progF3 2 = true ∧
    legalSeq (macroGet compGet false) slotLegal (makeBlockMacro progF3 (2, 2) 2) qsBlock = true := by
  decide +kernel

-- get_instr_pure_backsymbol_fixF3_partial, get_instr_total_backsymbol_fixF3_partial
example : legalSeq (macroGet compGet true) slotLegal (makeBacksymbolMacro progF3 (2, 2) 2) qsBack =
    true := by decide +kernel

-- get_instr_not_handed_out_panics (the fresh object satisfies the invariant by `inv_init_block`)
example : ownLegal (makeBlockMacro progF3 (2, 2) 2) (0, 3) = false := by decide

-- get_instr_order_irrelevant: the same two slots in both orders
example :
    legalSeq (macroGet compGet false) slotLegal (freshMacro progF3 ⟨.block, 2, 2, 2⟩)
      [(0, 0), (3, 0), (0, 3)] = true ∧
    legalSeq (macroGet compGet false) slotLegal (freshMacro progF3 ⟨.block, 2, 2, 2⟩)
      [(3, 0), (0, 0), (0, 3)] = true ∧
    (∃ as m, getInstrs (macroGet compGet false) (freshMacro progF3 ⟨.block, 2, 2, 2⟩)
      [(0, 0), (3, 0), (0, 3)] = .ok (as, m)) ∧
    (∃ as m, getInstrs (macroGet compGet false) (freshMacro progF3 ⟨.block, 2, 2, 2⟩)
      [(3, 0), (0, 0), (0, 3)] = .ok (as, m)) ∧
    ([(0, 0), (3, 0), (0, 3)] : List Slot)[2]? = some (0, 3) ∧
    ([(3, 0), (0, 0), (0, 3)] : List Slot)[2]? = some (0, 3) :=
  ⟨by decide +kernel, by decide +kernel, exists_ok_of_toBool (by decide +kernel),
    exists_ok_of_toBool (by decide +kernel), rfl, rfl⟩

-- get_instr_repeat: `qsBlock` queries `(3, 3)` at positions 4 and 6
example : qsBlock[4]? = some (3, 3) ∧ qsBlock[6]? = some (3, 3) ∧
    ∃ as m, getInstrs (macroGet compGet false) (freshMacro progF3 ⟨.block, 2, 2, 2⟩) qsBlock =
      .ok (as, m) :=
  ⟨rfl, rfl, exists_ok_of_toBool (by decide +kernel)⟩

-- handed_out_decodes: colour 3 after the first query
example : ∃ a m', MacroProg.getInstr compGet (makeBlockMacro progF3 (2, 2) 2) (0, 0) false =
    .ok (a, m') ∧ handedOut m' 3 = true :=
  ⟨_, _, rfl, by decide⟩

-- macro_histIndep_lift: its hypotheses are the conclusion of `base_histIndep`
example : HistIndep compGet (progFn progF3) (fun st => st = progF3) TrueLeg (LtLeg 2) ∧
    (∀ (st : Prog) (c : Nat), st = progF3 → LtLeg 2 st c → c < 2) :=
  ⟨base_histIndep progF3 2 (by decide) (by decide), fun _ _ _ h => h⟩

-- get_instr_pure_stateless_inner: the inner program is the table wrapped as a `GetFn Unit`
example : (∀ (st : Unit) s, Agree (pureGet (progFn progF3) st s) (pureGet (progFn progF3) () s)
      (fun _ _ => True)) ∧
    ColorsLt (progFn progF3) 2 ∧
    legalSeq (macroGet (pureGet (progFn progF3)) false) slotLegal
      (freshMacro () ⟨.block, 2, 2, 2⟩) qsBlock = true :=
  ⟨fun _ _ => ⟨(), rfl, trivial⟩, progColorsLt_sound _ _ (by decide), by decide +kernel⟩

-- get_instr_pure_nested: block-of-block and backsymbol-of-block, outer built with the inner params
example : (⟨.block, 2, 2, 2⟩ : LogicParams).macroColors ≤ (⟨.block, 2, 4, 4⟩ : LogicParams).baseColors ∧
    legalSeq (macroGet (macroGet compGet true) true) slotLegal2
      (freshMacro (freshMacro progF3 ⟨.block, 2, 2, 2⟩) ⟨.block, 2, 4, 4⟩)
      [(0, 0), (1, 0), (2, 0), (3, 0), (0, 12), (0, 0)] = true ∧
    legalSeq (macroGet (macroGet compGet true) true) slotLegal2
      (freshMacro (freshMacro progF3 ⟨.block, 2, 2, 2⟩) ⟨.backsymbol, 1, 4, 4⟩)
      [(0, 0), (1, 0), (31, 3), (0, 0)] = true := by
  decide +kernel

-- get_instr_two_objects, get_instr_two_objects_pure: a block and a backsymbol macro, interleaved
example :
    legalSeq (macroGet compGet true) slotLegal (freshMacro progF3 ⟨.block, 2, 2, 2⟩)
      (slotsOf false [(false, (0, 0)), (true, (0, 0)), (true, (1, 1)), (false, (0, 3))]) = true ∧
    legalSeq (macroGet compGet true) slotLegal (freshMacro progF3 ⟨.backsymbol, 2, 2, 2⟩)
      (slotsOf true [(false, (0, 0)), (true, (0, 0)), (true, (1, 1)), (false, (0, 3))]) = true ∧
    ∃ as m1 m2, getInstrsTwo (macroGet compGet true) (macroGet compGet true)
      (freshMacro progF3 ⟨.block, 2, 2, 2⟩, freshMacro progF3 ⟨.backsymbol, 2, 2, 2⟩)
      [(false, (0, 0)), (true, (0, 0)), (true, (1, 1)), (false, (0, 3))] = .ok (as, (m1, m2)) :=
  ⟨by decide +kernel, by decide +kernel,
    (exists_ok_of_toBool (by decide +kernel)).elim fun as ⟨(m1, m2), h⟩ => ⟨as, m1, m2, h⟩⟩

end BB.Macros
