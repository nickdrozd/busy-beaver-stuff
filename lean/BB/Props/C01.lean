/-
C01 — Run-length simulator equals cell-by-cell Turing machine semantics.
Property theorems only; helper lemmas live in BB/Lemmas.
(`quickAfter p n`, defined in BB/Lemmas/RunQuick.lean, is the loop state after `n` full iterations
of `run_quick_machine`'s loop, `none` once it stopped.)
-/
import BB.Lemmas.RunQuickEvents

namespace BB

/-- **step_refines.** One step of the compressed tape with instruction `(pr, d, q')` fired in state
    `q` (sweeping iff `q = q'`) is `k ≥ 1` steps of the cell-by-cell machine; during the first `k`
    configurations the machine is in state `q` scanning the same colour (so the same instruction
    fires), and the `k`-th configuration is the unrolled new tape in state `q'`. -/
theorem step_refines (p : ProgF) (t : Tape) (q pr : Nat) (d : Bool) (q' : Nat)
    (hpos : t.Pos) (hi : p q t.scan = some (pr, d, q')) :
    0 < (t.step d pr (q == q')).2 ∧
    (∀ j, j < (t.step d pr (q == q')).2 →
        ∃ c, stepN p j (t.toCfg q) = some c ∧ c.state = q ∧ c.scan = t.scan) ∧
    (∃ c', stepN p (t.step d pr (q == q')).2 (t.toCfg q) = some c' ∧
        c' ≈c (t.step d pr (q == q')).1.toCfg q') ∧
    (t.step d pr (q == q')).1.Pos :=
  Tape.step_refines p t q pr d q' hpos hi

/-- **every_cycle.** At every intermediate cycle the compressed tape unrolls to the real tape:
    the L0 machine after `s.steps` steps is the unrolled model configuration, and the tape is
    canonical. -/
theorem every_cycle (p : Prog) (n : Nat) (s : QState) (h : quickAfter p n = some s) :
    s.tape.Canon ∧ ∃ c, RunAt p.toF s.steps c ∧ c ≈c s.tape.toCfg s.state :=
  ⟨(quickAfter_inv p n s h).canon, (quickAfter_inv p n s h).run⟩

/-! ### The result record of `run_quick_machine` -/

/-- **Steps and marks.** Unless the run stopped on u64 overflow, the L0 machine run for `steps`
    base steps exists (so no undefined instruction was met before), and its tape holds exactly
    `marks` non-blank cells. -/
theorem run_quick_steps_marks (p : Prog) (lim : Nat) (h : (runQuick p lim).result ≠ .overflow) :
    ∃ c, RunAt p.toF (runQuick p lim).steps c ∧ c.marks = (runQuick p lim).marks :=
  (runQuick_spec p lim).marks h

/-- **Undefined instruction.** `undfnd` is reported exactly with the halting slot, at the real step. -/
theorem run_quick_undfnd (p : Prog) (lim : Nat) (h : (runQuick p lim).result = .undfnd) :
    ∃ q s, (runQuick p lim).lastSlot = some (q, s) ∧ HaltsAt p.toF (runQuick p lim).steps q s :=
  (runQuick_spec p lim).undfnd h

/-- **Spin-out.** -/
theorem run_quick_spnout (p : Prog) (lim : Nat) (h : (runQuick p lim).result = .spnout) :
    ∃ c, RunAt p.toF (runQuick p lim).steps c ∧ SpinOutCfg p.toF c :=
  (runQuick_spec p lim).spnout h

/-- **Blank-tape record.** Every recorded (state, step) is a real blank tape in that state. -/
theorem run_quick_blanks (p : Prog) (lim : Nat) (q n : Nat) (h : (q, n) ∈ (runQuick p lim).blanks) :
    BlankAfter p.toF n q :=
  (runQuick_spec p lim).blanks q n h

/-- **Return to blank.** `infrul` (only produced here by a repeated blank state, or a blank tape in
    the start state) means the machine never halts. -/
theorem run_quick_infrul (p : Prog) (lim : Nat) (h : (runQuick p lim).result = .infrul) :
    NeverHalts p.toF :=
  (runQuick_spec p lim).infrul h

/-- **Step limit.** `xlimit` means all `lim` cycles were executed. -/
theorem run_quick_xlimit (p : Prog) (lim : Nat) (h : (runQuick p lim).result = .xlimit) :
    (quickAfter p lim).isSome ∧ (runQuick p lim).cycles = 0 :=
  (runQuick_spec p lim).xlimit h

/-- **Cycles.** When the run stops on an undefined instruction or a spin-out, `cycles` is the number
    of loop iterations completed before. -/
theorem run_quick_cycles (p : Prog) (lim : Nat)
    (h : (runQuick p lim).result = .undfnd ∨ (runQuick p lim).result = .spnout) :
    (quickAfter p (runQuick p lim).cycles).isSome ∧ (runQuick p lim).cycles < lim :=
  (runQuick_spec p lim).cycles h

/-! ### Nothing is missed inside a sweep -/

/-- **First blank.** A recorded (state, step) is the FIRST step `≥ 1` at which the tape is blank in
    that state. -/
theorem run_quick_blanks_first (p : Prog) (lim q n : Nat) (h : (q, n) ∈ (runQuick p lim).blanks) :
    ∀ m, 0 < m → m < n → ¬ ∃ c, RunAt p.toF m c ∧ c.state = q ∧ c.Blank :=
  (runQuick_spec2 p lim).first q n h

/-- **Blank record complete.** Every blank tape met at a step `1 ≤ m ≤ steps` has its state recorded,
    at a step not later than `m`. -/
theorem run_quick_blanks_complete (p : Prog) (lim : Nat) (h : (runQuick p lim).result ≠ .overflow) (m q : Nat)
    (hm : 0 < m) (hle : m ≤ (runQuick p lim).steps) (hb : ∃ c, RunAt p.toF m c ∧ c.state = q ∧ c.Blank) :
    ∃ n, n ≤ m ∧ (q, n) ∈ (runQuick p lim).blanks :=
  (runQuick_spec2 p lim).complete h m q hm hle hb

/-- **No spin-out missed.** No configuration strictly before the reported step is a spin-out
    configuration. -/
theorem run_quick_no_early_spinout (p : Prog) (lim : Nat) (h : (runQuick p lim).result ≠ .overflow) :
    ∀ m c, m < (runQuick p lim).steps → RunAt p.toF m c → ¬ SpinOutCfg p.toF c :=
  (runQuick_spec2 p lim).noSpin h

/-- **No halt missed.** No undefined instruction is met strictly before the reported step. -/
theorem run_quick_no_early_halt (p : Prog) (lim : Nat) (h : (runQuick p lim).result ≠ .overflow) :
    ∀ m, m < (runQuick p lim).steps → ∀ q s, ¬ HaltsAt p.toF m q s := by
  obtain ⟨c, hc, _⟩ := (runQuick_spec p lim).marks h
  exact fun m hm q s => no_halt_before hc hm q s

/- Non-vacuity: a concrete machine that exercises sweeps, halts, and meets every hypothesis. -/
example : (runQuick [((0,0),(1,true,1)), ((0,1),(1,false,1)), ((1,0),(1,false,0))] 100).result = .undfnd := by decide

end BB
