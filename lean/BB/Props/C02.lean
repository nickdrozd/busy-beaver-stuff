/-
C02 — the rule-accelerated run reports the true outcome of the machine.

"When the rule-accelerated run says a machine stopped on an undefined instruction or spun out, the
real machine does exactly that, at the same slot and with the same number of non-blank cells on
the tape; when it says the machine provably never stops (infinite rule or repeated blank tape), the
real machine indeed never stops.  If no rule was applied, the reported step count, cycle count and
blank-tape steps are also the real ones."

The rule prover generalises from four observations; no universal soundness theorem for it is true
(and none is claimed).  What is machine-checked is each individual ANSWER: the check hands the
rule applications reported by the real run (hook `on_rule`) to `replay`
(BB/Model/ValidateTrace.lean), which re-runs the machine with the plain run-length simulator of C01
and lets a reported application in only through the validator `checkApp` of C03.  The theorems
below say that whatever `replay` ends in is true of the L0 machine (BB/Spec.lean), with the true
number of base steps.  The check then compares the real run's verdict (kind, slot, marks, and -
when no rule was applied - steps, cycles, blank record) with the replay's.

`replay` validates applications with `checkApp` only, at a cost that grows with the number of
times the rule was applied; `replaySym` (same loop, same theorems: section "Big applications and
infinite rules") falls back on the symbolic validator `Sym.validateApp` (C03, last section) when
`checkApp` runs over budget, so that applications of any size are accepted.

An `infrul` verdict that comes from an all-non-negative rule has no certificate in the code's
output; the replay confirms that the configuration in which it was given is reached
(`replaySym_limit`), and the verdict itself is certified from there by the symbolic validator
`Sym.validateInf` (`validate_inf_sound`, `replaySym_limit_inf`): when it answers `true` the machine
provably never halts; when it does not, the verdict stays falsifiable only (see DESIGN.md).

The lemmas about the replay loop and about the symbolic validator live in the modules imported
below and in those they import; only `Sym.validate_inf_sound` has its proof here (`Sym.rule_run` for
every number of periods).
-/
import BB.Lemmas.ValidateTrace

namespace BB

/-- **replay_undfnd.**  If the replay ends at an undefined instruction `(q, s)` after `n` base steps
    with `m` marks, the L0 machine started on the blank tape halts exactly there: after exactly
    `n` steps it is in state `q` scanning `s`, which has no instruction; its tape then holds `m`
    non-blank cells; and no configuration before step `n` is a spin-out configuration. -/
theorem replay_undfnd (p : Prog) (budget lim : Nat) (apps : List AppRec) (cyc q s m n : Nat)
    (bl : List (Nat × Nat)) (h : replay p budget lim apps = (.undfnd cyc (q, s) m n, bl)) :
    HaltsAt p.toF n q s ∧ (∃ c, RunAt p.toF n c ∧ c.marks = m) ∧
      (∀ j c, j < n → RunAt p.toF j c → ¬ SpinOutCfg p.toF c) ∧ cyc < lim :=
  (replay_spec p budget lim apps).undfnd cyc q s m n (congrArg Prod.fst h)

/-- **replay_spnout.**  If the replay ends in a spin-out after `n` base steps with `m` marks, the
    L0 machine is, after exactly `n` steps, in a spin-out configuration with `m` non-blank cells,
    it did not halt before, and no earlier configuration is a spin-out configuration. -/
theorem replay_spnout (p : Prog) (budget lim : Nat) (apps : List AppRec) (cyc m n : Nat)
    (bl : List (Nat × Nat)) (h : replay p budget lim apps = (.spnout cyc m n, bl)) :
    (∃ c, RunAt p.toF n c ∧ SpinOutCfg p.toF c ∧ c.marks = m) ∧
      (∀ j c, j < n → RunAt p.toF j c → ¬ SpinOutCfg p.toF c) ∧ cyc < lim :=
  (replay_spec p budget lim apps).spnout cyc m n (congrArg Prod.fst h)

/-- **replay_blankRec.**  If the replay ends because the tape is blank again in a state in which it
    was blank before (or in the start state), the L0 machine has a blank tape in that state after
    exactly `n ≥ 1` steps and it never halts. -/
theorem replay_blankRec (p : Prog) (budget lim : Nat) (apps : List AppRec) (cyc q n : Nat)
    (bl : List (Nat × Nat)) (h : replay p budget lim apps = (.blankRec cyc q n, bl)) :
    BlankAfter p.toF n q ∧ NeverHalts p.toF :=
  (replay_spec p budget lim apps).blankRec cyc q n (congrArg Prod.fst h)

/-- **replay_limit.**  If all `lim` cycles are replayed, the L0 machine is after exactly `n` steps
    in the configuration `(q, t)` the replay stands in (up to trailing blanks), `t` is canonical,
    and neither a halt nor a spin-out configuration was met before. -/
theorem replay_limit (p : Prog) (budget lim : Nat) (apps : List AppRec) (q : Nat) (t : Tape)
    (n : Nat) (bl : List (Nat × Nat)) (h : replay p budget lim apps = (.limit q t n, bl)) :
    (∃ c, RunAt p.toF n c ∧ c ≈c t.toCfg q) ∧ t.Canon ∧
      (∀ j c, j < n → RunAt p.toF j c → ¬ SpinOutCfg p.toF c) :=
  (replay_spec p budget lim apps).limit q t n (congrArg Prod.fst h)

/-- **replay_blanks.**  Whatever the replay ends in (validation failures included), every entry
    `(q, n)` of its blank record is true: the L0 machine has a blank tape in state `q` after
    exactly `n ≥ 1` steps; and the record holds each state at most once. -/
theorem replay_blanks (p : Prog) (budget lim : Nat) (apps : List AppRec) (e : ReplayEnd)
    (bl : List (Nat × Nat)) (h : replay p budget lim apps = (e, bl)) :
    (∀ q n, (q, n) ∈ bl → BlankAfter p.toF n q) ∧ (bl.map (·.1)).Nodup := by
  have spec := replay_spec p budget lim apps
  rw [h] at spec
  exact ⟨spec.blanks, spec.nodup⟩

/-- **replay_no_apps.**  With no application reported, the replay is the plain simulator: it never
    ends in a validation failure. -/
theorem replay_no_apps (p : Prog) (budget lim : Nat) (e : ReplayEnd) (bl : List (Nat × Nat))
    (h : replay p budget lim [] = (e, bl)) :
    (∀ c w, e ≠ .badApp c w) ∧ (∀ c, e ≠ .appMismatch c) :=
  replayGo_no_apps p _ _ lim 0 0 Tape.init 0 [] e bl h

/-! ### Non-vacuity

The 2-state 4-colour champion `1RB 2LA 1RA 1RA  1LB 1LA 3RB ...` (the machine of the example in
BB/Props/C03.lean, which this file does not import): its first rule application (cycle 228)
replayed, then the plain simulator to the cycle limit. -/

def exC02Prog : Prog :=
  [((0,0),(1,true,1)), ((0,1),(2,false,0)), ((0,2),(1,true,0)), ((0,3),(1,true,0)),
   ((1,0),(1,false,1)), ((1,1),(1,false,0)), ((1,2),(3,true,1))]
def exC02App : AppRec := ⟨228, 0, ⟨3, [⟨3,19⟩,⟨1,1⟩], [⟨2,22⟩]⟩, ⟨3, [⟨3,1⟩,⟨1,1⟩], [⟨2,52⟩]⟩, 6⟩

/-- the first 227 cycles: no application yet -/
theorem exC02_run227 : replay exC02Prog 0 227 []
    = (.limit 0 ⟨1, [⟨1,21⟩,⟨3,20⟩,⟨1,1⟩], []⟩ 1353, []) := by decide +kernel

/-- the replays of the examples are evaluated from cycle 227 on (`replayGo_cut`) -/
theorem exC02_cut (va : Nat → Tape → AppRec → Option Nat) (why : Nat → Tape → AppRec → AppRes)
    (apps : List AppRec) (h : ∀ a ∈ apps.head?, 227 ≤ a.cycle) :
    replayGo exC02Prog va why 230 0 0 Tape.init 0 [] apps
      = replayGo exC02Prog va why 3 227 0 ⟨1, [⟨1,21⟩,⟨3,20⟩,⟨1,1⟩], []⟩ 1353 [] apps :=
  replayGo_cut exC02Prog va _ why _ 3 apps 227 0 0 Tape.init 0 [] _ _ _ _ h exC02_run227

example : replay exC02Prog 1000 230 [exC02App]
    = (.limit 0 ⟨2, [⟨1,1⟩,⟨3,1⟩,⟨1,1⟩], [⟨2,51⟩]⟩ 2732, []) := by
  rw [replay, exC02_cut _ _ _ (by decide)]; decide +kernel
/-- an application reported from a configuration the machine is not in is refused -/
example : (replay exC02Prog 1000 230 [{ exC02App with cycle := 227 }]).1 = .appMismatch 227 := by
  rw [replay, exC02_cut _ _ _ (by decide)]; decide +kernel
/-- a halting run without applications: `1RB 1LB  1LA ...` reaches the undefined slot (B,1) after
    5 executed steps (cycle 5), 4 marks -/
example : replay [((0,0),(1,true,1)), ((0,1),(1,false,1)), ((1,0),(1,false,0))] 10 100 []
    = (.undfnd 5 (1, 1) 4 5, []) := by decide

/-! ### Big applications and infinite rules

`replaySym` is `replay` with the application validator `vaSym`: `checkApp` first and, when that
runs over budget, the symbolic validator `Sym.validateApp` with the reported `times` (the replay
loop is generic over the validator; all it uses is that an accepted application is a run of real
machine steps).  Whatever `replaySym` ends in is true of the L0 machine, exactly as for `replay`. -/

/-- **replaySym_undfnd.**  `replay_undfnd` for `replaySym`. -/
theorem replaySym_undfnd (p : Prog) (budget lim : Nat) (apps : List AppRec) (cyc q s m n : Nat)
    (bl : List (Nat × Nat)) (h : replaySym p budget lim apps = (.undfnd cyc (q, s) m n, bl)) :
    HaltsAt p.toF n q s ∧ (∃ c, RunAt p.toF n c ∧ c.marks = m) ∧
      (∀ j c, j < n → RunAt p.toF j c → ¬ SpinOutCfg p.toF c) ∧ cyc < lim :=
  (replaySym_spec p budget lim apps).undfnd cyc q s m n (congrArg Prod.fst h)

/-- **replaySym_spnout.**  `replay_spnout` for `replaySym`. -/
theorem replaySym_spnout (p : Prog) (budget lim : Nat) (apps : List AppRec) (cyc m n : Nat)
    (bl : List (Nat × Nat)) (h : replaySym p budget lim apps = (.spnout cyc m n, bl)) :
    (∃ c, RunAt p.toF n c ∧ SpinOutCfg p.toF c ∧ c.marks = m) ∧
      (∀ j c, j < n → RunAt p.toF j c → ¬ SpinOutCfg p.toF c) ∧ cyc < lim :=
  (replaySym_spec p budget lim apps).spnout cyc m n (congrArg Prod.fst h)

/-- **replaySym_blankRec.**  `replay_blankRec` for `replaySym`. -/
theorem replaySym_blankRec (p : Prog) (budget lim : Nat) (apps : List AppRec) (cyc q n : Nat)
    (bl : List (Nat × Nat)) (h : replaySym p budget lim apps = (.blankRec cyc q n, bl)) :
    BlankAfter p.toF n q ∧ NeverHalts p.toF :=
  (replaySym_spec p budget lim apps).blankRec cyc q n (congrArg Prod.fst h)

/-- **replaySym_limit.**  `replay_limit` for `replaySym`: if all `lim` cycles are replayed, the L0
    machine is after exactly `n` steps in the configuration `(q, t)` the replay stands in (up to
    trailing blanks), `t` is canonical, and neither a halt nor a spin-out configuration was met
    before. -/
theorem replaySym_limit (p : Prog) (budget lim : Nat) (apps : List AppRec) (q : Nat) (t : Tape)
    (n : Nat) (bl : List (Nat × Nat)) (h : replaySym p budget lim apps = (.limit q t n, bl)) :
    (∃ c, RunAt p.toF n c ∧ c ≈c t.toCfg q) ∧ t.Canon ∧
      (∀ j c, j < n → RunAt p.toF j c → ¬ SpinOutCfg p.toF c) :=
  (replaySym_spec p budget lim apps).limit q t n (congrArg Prod.fst h)

/-- **replaySym_blanks.**  `replay_blanks` for `replaySym`. -/
theorem replaySym_blanks (p : Prog) (budget lim : Nat) (apps : List AppRec) (e : ReplayEnd)
    (bl : List (Nat × Nat)) (h : replaySym p budget lim apps = (e, bl)) :
    (∀ q n, (q, n) ∈ bl → BlankAfter p.toF n q) ∧ (bl.map (·.1)).Nodup := by
  have spec := replaySym_spec p budget lim apps
  rw [h] at spec
  exact ⟨spec.blanks, spec.nodup⟩

/-- **replaySym_no_apps.**  `replay_no_apps` for `replaySym`. -/
theorem replaySym_no_apps (p : Prog) (budget lim : Nat) (e : ReplayEnd) (bl : List (Nat × Nat))
    (h : replaySym p budget lim [] = (e, bl)) :
    (∀ c w, e ≠ .badApp c w) ∧ (∀ c, e ≠ .appMismatch c) :=
  replayGo_no_apps p _ _ lim 0 0 Tape.init 0 [] e bl h

/-- **validate_inf_sound.**  If `validateInf` accepts `(q, t)`, the L0 machine started on the cells
    of `t` in state `q` never reaches an undefined instruction (it runs for ever), and if `t` is
    canonical it never reaches a spin-out configuration either. -/
theorem Sym.validate_inf_sound (p : Prog) (q : Nat) (t : Tape) (budget : Nat)
    (h : Sym.validateInf p q t budget = true) :
    (∀ n, ∃ c, stepN p.toF n (t.toCfg q) = some c) ∧
      (t.Canon → ∀ n c, stepN p.toF n (t.toCfg q) = some c → ¬ SpinOutCfg p.toF c) := by
  unfold Sym.validateInf at h
  split at h
  · cases h
  next dl dr hfg =>
  split at h
  next Sl vl i hel =>
  split at h
  next Sr vr i' her =>
  simp only at h
  split at h
  · cases h
  next =>
  obtain ⟨⟨cyc, f⟩, hper⟩ := Option.isSome_iff_exists.1 h
  obtain ⟨⟨hl, hnl⟩, hr, hnr⟩ := Sym.findGrow_nonneg p q t budget q t dl dr hfg
  -- no block shrinks, so the rule applies any number of times
  have hruns := fun m => Sym.rule_run (Sym.symTapeOf_eq hel her) hl hr hper m
    fun d hd hd0 => absurd (hd.elim (hnl d) (hnr d)) (Int.not_le.2 hd0)
  refine ⟨fun n => ?_, fun hcan n c hc => ?_⟩
  · obtain ⟨_, hge, ⟨⟨c', hc', _⟩, _⟩, _⟩ := hruns n
    exact stepN_le hc' hge
  · obtain ⟨_, hge, hrun, _⟩ := hruns (n + 1)
    obtain ⟨c1, hc1, hw⟩ := hrun.2 n (Nat.lt_of_lt_of_le (Nat.lt_succ_self n) hge)
    rw [hc] at hc1
    cases hc1
    exact hw.2 hcan

/-- **replaySym_limit_inf.**  An infinite-rule verdict, certified: if the replay reaches `(q, t)`
    (all `lim` cycles replayed) and `validateInf` accepts `(q, t)` - from there a rule that never
    decreases a block applies for ever - then the L0 machine started on the blank tape never halts
    and never reaches a spin-out configuration. -/
theorem replaySym_limit_inf (p : Prog) (budget lim : Nat) (apps : List AppRec) (q : Nat)
    (t : Tape) (n : Nat) (bl : List (Nat × Nat)) (budget' : Nat)
    (h : replaySym p budget lim apps = (.limit q t n, bl))
    (hinf : Sym.validateInf p q t budget' = true) :
    NeverHalts p.toF ∧ ¬ SpinsOut p.toF := by
  obtain ⟨⟨c, hr, he⟩, hcanon, hbefore⟩ := replaySym_limit p budget lim apps q t n bl h
  obtain ⟨hrun, hns⟩ := Sym.validate_inf_sound p q t budget' hinf
  exact never_halts_from hr he hbefore hrun (hns hcanon)

/-! Non-vacuity.  With a budget of 60 cycles `checkApp` cannot validate the application of
`exC02App` (it needs 72 cycles): `replay` refuses it, `replaySym` validates it symbolically and
ends exactly as `replay` does with a sufficient budget. -/

example : (replay exC02Prog 60 230 [exC02App]).1 = .badApp 228 .overBudget := by
  rw [replay, exC02_cut _ _ _ (by decide)]; decide +kernel
example : replaySym exC02Prog 60 230 [exC02App]
    = (.limit 0 ⟨2, [⟨1,1⟩,⟨3,1⟩,⟨1,1⟩], [⟨2,51⟩]⟩ 2732, []) := by
  rw [replaySym, exC02_cut _ _ _ (by decide)]; decide +kernel
/-- a wrong `times` is refused -/
example : (replaySym exC02Prog 60 230 [{ exC02App with times := 5 }]).1
    = .badApp 228 .overBudget := by
  rw [replaySym, exC02_cut _ _ _ (by decide)]; decide +kernel

/-- the bouncer `1RB 1LA  1LA 1RB`: after 7 cycles (10 steps) it is in state A on `[0] 1^4`; from
    there the rule `A: [0] 1^(4+x) → [0] 1^(6+x)` (found by plain simulation, validated
    symbolically for all `x ≥ 0`) applies for ever -/
def exC02Bouncer : Prog :=
  [((0,0),(1,true,1)), ((0,1),(1,false,0)), ((1,0),(1,false,0)), ((1,1),(1,true,1))]

example : replaySym exC02Bouncer 100 7 [] = (.limit 0 ⟨0, [], [⟨1,4⟩]⟩ 10, []) := by decide +kernel
example : Sym.validateInf exC02Bouncer 0 ⟨0, [], [⟨1,4⟩]⟩ 100 = true := by decide +kernel
example : NeverHalts exC02Bouncer.toF ∧ ¬ SpinsOut exC02Bouncer.toF :=
  replaySym_limit_inf exC02Bouncer 100 7 [] 0 ⟨0, [], [⟨1,4⟩]⟩ 10 [] 100 (by decide +kernel)
    (by decide +kernel)
/-- a halting machine has no infinite rule: `validateInf` answers `false` along its run -/
example : Sym.validateInf exC02Prog 0 ⟨2, [⟨1,1⟩,⟨3,1⟩,⟨1,1⟩], [⟨2,51⟩]⟩ 200 = false := by
  decide +kernel

end BB
