/-
C11 — rule arithmetic is exact.

"Inferring a rule from four successive count vectors yields additive differences that reproduce
all four vectors, and applying an additive rule to a tape changes every affected block by exactly
difference x times, where times is the largest number of applications that leaves every
decreasing block with at least one cell; a rule that cannot be applied at least once leaves the
tape untouched."

The theorems are about the L1 model BB/Model/Rules.lean (port of src/rules.rs after the repairs of
F4, F5, F6); the lemmas on `calculate_diff`, `make_rule` and the loop of `count_apps` are in
BB/Lemmas/RuleDiff.lean, RuleMake.lean and RuleCount.lean, those on `apply_rule` in
BB/Lemmas/RuleApply.lean.  The definitions used by the statements (`tspan`, `InRange`, `keys`,
`AllPlus`, `Sorted`, `cside`, `CountsInRange`, `AllPositive`, `Passes`, `PanicsAt`) are at the top
of BB/Lemmas/RuleDiff.lean.

Conventions.  Counts are `Nat`, differences are `Int`; every theorem holds for ALL naturals, in
particular for every `u64`.  Where the model's answer depends on a count being a `u64`
(`checked_mul` on a decreasing block) the hypothesis `CountsInRange t` (every count `≤ 2^64 - 1`)
is explicit.  "`(idx, Op.plus δ) ∈ rule`" reads "the rule has the entry `idx ↦ Plus(δ)`";
`t.getCount idx = .ok c` says that block `idx` exists and has `c` cells (no totalised default).
A `Rule` is a `BTreeMap` in the code; the model's association list is given the weaker
hypothesis "keys pairwise distinct" (`(keys rule).Nodup`) where one is needed; `Sorted` rules, and
in particular every rule made by `makeRule`, satisfy it.
-/
import BB.Lemmas.RuleApply

namespace BB.RuleArith

open BB

/-! ### 1. `calculate_diff` -/

/-- **calc_diff_plus_iff.**  Exactly when the answer is `Plus(δ)`: the counts are in arithmetic
    progression with a non-zero difference `δ` that is an `i32`. -/
theorem calc_diff_plus_iff (a b c d : Nat) (δ : Int) :
    calculateDiff a b c d = .ok (some (.got (.plus δ))) ↔
      δ ≠ 0 ∧ diffMin ≤ δ ∧ δ ≤ diffMax ∧
        (b : Int) = a + δ ∧ (c : Int) = b + δ ∧ (d : Int) = c + δ := by
  rw [calculateDiff_eq]
  constructor
  · intro h
    split at h
    · cases h
    rename_i hs
    split at h
    · next hp =>
      cases h
      exact ⟨fun h0 => hs (by omega), hp.1, hp.2.1, Int.sub_eq_iff_eq_add'.mp rfl,
        Int.sub_eq_iff_eq_add'.mp hp.2.2.1, Int.sub_eq_iff_eq_add'.mp hp.2.2.2⟩
    · split at h <;> cases h
  · rintro ⟨h0, l, u, eb, ec, ed⟩
    obtain rfl := Int.sub_eq_iff_eq_add'.mpr eb
    rw [if_neg (fun hs => h0 (by rw [hs.1]; exact Int.sub_self _)),
      if_pos ⟨l, u, Int.sub_eq_iff_eq_add'.mpr ec, Int.sub_eq_iff_eq_add'.mpr ed⟩]

/-- **calc_diff_plus_exact.**  A `Plus(δ)` answer reproduces the four counts exactly: they are in
    arithmetic progression with difference `δ`.  No guard is needed (the differences are taken
    exactly and narrowed with `try_from`). -/
theorem calc_diff_plus_exact (a b c d : Nat) (δ : Int)
    (h : calculateDiff a b c d = .ok (some (.got (.plus δ)))) :
    (b : Int) = a + δ ∧ (c : Int) = b + δ ∧ (d : Int) = c + δ :=
  ((calc_diff_plus_iff a b c d δ).mp h).2.2.2

example : calculateDiff 3 5 7 9 = .ok (some (.got (.plus 2))) := rfl
example : calculateDiff (2 ^ 63 + 9) (2 ^ 63 + 6) (2 ^ 63 + 3) (2 ^ 63) = .ok (some (.got (.plus (-3)))) := rfl

/-- **calc_diff_none_iff.**  `None` (block not part of the rule) exactly when the four counts are
    equal. -/
theorem calc_diff_none_iff (a b c d : Nat) :
    calculateDiff a b c d = .ok none ↔ a = b ∧ b = c ∧ c = d := by
  rw [calculateDiff_eq]
  by_cases hs : a = b ∧ b = c ∧ c = d
  · rw [if_pos hs]; exact iff_of_true rfl hs
  · rw [if_neg hs]; exact iff_of_false (fun h => nomatch h) hs

example : calculateDiff 7 7 7 7 = .ok none := rfl

/-- **calc_diff_mult_exact.**  A `Mult((q, r))` answer reproduces the counts multiplicatively,
    `next = q * prev + r`, with `2 ≤ q` and `0 ≤ r < a`; it is only given when all four counts are
    non-negative `i32`s (the `try_from` guards of the code). -/
theorem calc_diff_mult_exact (a b c d : Nat) (q r : Int)
    (h : calculateDiff a b c d = .ok (some (.got (.mult q r)))) :
    ((a : Int) ≤ diffMax ∧ (b : Int) ≤ diffMax ∧ (c : Int) ≤ diffMax ∧ (d : Int) ≤ diffMax) ∧
      (0 : Int) < a ∧ 2 ≤ q ∧ 0 ≤ r ∧ r < a ∧
      (b : Int) = q * a + r ∧ (c : Int) = q * b + r ∧ (d : Int) = q * c + r := by
  rw [calculateDiff_eq] at h
  split at h
  · cases h
  split at h
  · cases h
  rename_i hp
  split at h
  · next hm =>
    obtain ⟨hu, h0, h12, h23⟩ := hm
    simp only [Except.ok.injEq, Option.some.injEq, DiffResult.got.injEq, Op.mult.injEq] at h
    have ha := natCast_pos_of_ne (fun h => h0 (Or.inl h))
    have hb := natCast_pos_of_ne (fun h => h0 (Or.inr h))
    have hc := natCast_pos_of_ne (ne_zero_of_divmod_eq (Int.ne_of_gt hb) h12)
    rw [h.1, h.2] at h12
    rw [← h12.1, ← h12.2] at h23
    refine ⟨hu, ha, mult_of_divmods ha hb hc (Int.natCast_nonneg d) h ⟨h12.1.symm, h12.2.symm⟩
      ⟨h23.1.symm, h23.2.symm⟩ (fun hap => hp ?_)⟩
    -- the additive test has failed although the differences are `i32`s
    exact ⟨(sub_inRange hu.1 hu.2.1).1, (sub_inRange hu.1 hu.2.1).2, hap.1.symm,
      (hap.1.trans hap.2).symm⟩
  · cases h

/-- **calc_diff_mult_iff.**  Exactly when the answer is `Mult((q, r))`. -/
theorem calc_diff_mult_iff (a b c d : Nat) (q r : Int) :
    calculateDiff a b c d = .ok (some (.got (.mult q r))) ↔
      (0 : Int) < a ∧ (d : Int) ≤ diffMax ∧ 2 ≤ q ∧ 0 ≤ r ∧ r < a ∧
        (b : Int) = q * a + r ∧ (c : Int) = q * b + r ∧ (d : Int) = q * c + r := by
  constructor
  · intro h
    obtain ⟨⟨-, -, -, ud⟩, ha, rest⟩ := calc_diff_mult_exact a b c d q r h
    exact ⟨ha, ud, rest⟩
  · rintro ⟨ha, ud, hq, r0, ra, eb, ec, ed⟩
    obtain ⟨⟨g1, g2, g3, g⟩, t1, t2, t3⟩ := mult_chain ha hq r0 ra eb ec ed
    have uc := Int.le_trans (Int.le_of_lt g3) ud
    have ub := Int.le_trans (Int.le_of_lt g2) uc
    rw [calculateDiff_eq, if_neg (fun h => Int.ne_of_lt g1 (congrArg Nat.cast h.1)),
      if_neg (fun h => Int.ne_of_lt g h.2.2.1.symm), t1.1, t1.2, t2.1, t2.2, t3.1, t3.2, if_pos]
    exact ⟨⟨Int.le_trans (Int.le_of_lt g1) ub, ub, uc, ud⟩,
      fun h => h.elim (Int.ne_of_gt ha) (Int.ne_of_gt (Int.lt_trans ha g1)), ⟨rfl, rfl⟩, ⟨rfl, rfl⟩⟩

example : calculateDiff 2 5 11 23 = .ok (some (.got (.mult 2 1))) := rfl

/-- **calc_diff_no_error.**  `calculate_diff` never panics: the division by zero and every other
    error branch of the model are unreachable, for all inputs. -/
theorem calc_diff_no_error (a b c d : Nat) (e : PErr) : calculateDiff a b c d ≠ .error e :=
  calculateDiff_ne_error a b c d e

/-- regression case of finding F6 (`as i32` truncation gave `Plus(0)`): now `Unknown` -/
example : calculateDiff 1 (2 ^ 32 + 1) (2 ^ 33 + 1) (3 * 2 ^ 32 + 1) = .ok (some .unknown) := rfl

/-! ### 2. `make_rule` -/

/-- **make_rule_lookup.**  At every index `(s, i)` inside all four count vectors of side `s`, the
    rule holds exactly what `calculate_diff` says about the four counts there (no entry when it
    says `None`).  Indices beyond the shortest of the four vectors are ignored by the code (`zip`
    stops at the shortest); they get no entry (`make_rule_keys_in_range`). -/
theorem make_rule_lookup (c1 c2 c3 c4 : Counts) (rule : Rule)
    (h : makeRule c1 c2 c3 c4 = .ok (some rule)) (s : Bool) (i a b c d : Nat)
    (ha : (cside c1 s)[i]? = some a) (hb : (cside c2 s)[i]? = some b)
    (hc : (cside c3 s)[i]? = some c) (hd : (cside c4 s)[i]? = some d) :
    calculateDiff a b c d = .ok ((List.lookup (s, i) rule).map DiffResult.got) :=
  (make_rule_facts h).1 s i (a, b, c, d) ((zip4_getElem? _ _ _ _ i a b c d).mpr ⟨ha, hb, hc, hd⟩)

/-- **make_rule_reproduces.**  The rule reproduces all four count vectors: at every index inside
    the four vectors, no entry means the four counts are equal, an entry `Plus(δ)` means they are
    in arithmetic progression with difference `δ ≠ 0`, an entry `Mult((q, r))` means
    `next = q * prev + r`.  (Indices beyond the shortest vector are ignored, see above.) -/
theorem make_rule_reproduces (c1 c2 c3 c4 : Counts) (rule : Rule)
    (h : makeRule c1 c2 c3 c4 = .ok (some rule)) (s : Bool) (i a b c d : Nat)
    (ha : (cside c1 s)[i]? = some a) (hb : (cside c2 s)[i]? = some b)
    (hc : (cside c3 s)[i]? = some c) (hd : (cside c4 s)[i]? = some d) :
    match List.lookup (s, i) rule with
    | none => a = b ∧ b = c ∧ c = d
    | some (.plus δ) => δ ≠ 0 ∧ (b : Int) = a + δ ∧ (c : Int) = b + δ ∧ (d : Int) = c + δ
    | some (.mult q r) =>
      2 ≤ q ∧ 0 ≤ r ∧ r < a ∧
        (b : Int) = q * a + r ∧ (c : Int) = q * b + r ∧ (d : Int) = q * c + r := by
  have hl := make_rule_lookup c1 c2 c3 c4 rule h s i a b c d ha hb hc hd
  cases hlk : List.lookup (s, i) rule with
  | none =>
    rw [hlk] at hl
    exact (calc_diff_none_iff a b c d).mp hl
  | some op =>
    rw [hlk] at hl
    cases op with
    | plus δ =>
      obtain ⟨h0, _, _, e1, e2, e3⟩ := (calc_diff_plus_iff a b c d δ).mp hl
      exact ⟨h0, e1, e2, e3⟩
    | mult q r =>
      obtain ⟨_, _, hq, r0, ra, e1, e2, e3⟩ := (calc_diff_mult_iff a b c d q r).mp hl
      exact ⟨hq, r0, ra, e1, e2, e3⟩

/-- **make_rule_keys_in_range.**  Every key of the rule lies inside all four count vectors of its
    side. -/
theorem make_rule_keys_in_range (c1 c2 c3 c4 : Counts) (rule : Rule)
    (h : makeRule c1 c2 c3 c4 = .ok (some rule)) (s : Bool) (i : Nat)
    (hk : (s, i) ∈ keys rule) :
    i < (cside c1 s).length ∧ i < (cside c2 s).length ∧
      i < (cside c3 s).length ∧ i < (cside c4 s).length := by
  have h2 := mt ((make_rule_facts h).2.1 s i) (fun hn => (lookup_none_iff rule (s, i)).mp hn hk)
  rwa [zip4_length, Nat.not_le, Nat.lt_min, Nat.lt_min, Nat.lt_min] at h2

/-- **make_rule_sorted.**  The rule is strictly sorted by key (the `BTreeMap` invariant of the
    association list), hence its keys are distinct and `lookup` agrees with membership. -/
theorem make_rule_sorted (c1 c2 c3 c4 : Counts) (rule : Rule)
    (h : makeRule c1 c2 c3 c4 = .ok (some rule)) : Sorted rule :=
  (make_rule_facts h).2.2

theorem sorted_keys_nodup (rule : Rule) (h : Sorted rule) : (keys rule).Nodup :=
  List.pairwise_map.mpr (h.imp lt_ne)

theorem rule_mem_iff_lookup (rule : Rule) (hnd : (keys rule).Nodup) (idx : Index) (op : Op) :
    (idx, op) ∈ rule ↔ List.lookup idx rule = some op :=
  mem_iff_lookup hnd idx op

/-- **make_rule_none_iff.**  `make_rule` gives up (`None`) exactly when `calculate_diff` answers
    `Unknown` at some index inside the four vectors. -/
theorem make_rule_none_iff (c1 c2 c3 c4 : Counts) :
    makeRule c1 c2 c3 c4 = .ok none ↔
      ∃ (s : Bool) (i a b c d : Nat), (cside c1 s)[i]? = some a ∧ (cside c2 s)[i]? = some b ∧
        (cside c3 s)[i]? = some c ∧ (cside c4 s)[i]? = some d ∧
        calculateDiff a b c d = .ok (some .unknown) := by
  have key := fun s i rule =>
    (spans_none_iff s (sideCounts c1 c2 c3 c4 s) i rule).trans (exists_mem_zip4 _ _ _ _ _)
  rw [Bool.exists_bool, ← key false 0 [], makeRule_eq]
  split
  · next e' he => exact absurd he (spans_no_error _ _ _ _ _)
  · next hL => exact iff_of_true rfl (Or.inl hL)
  · next ruleL hL =>
    rw [← key true 0 ruleL, hL]
    exact (or_iff_right (fun h => nomatch h)).symm

/-- **make_rule_no_error.**  `make_rule` never panics. -/
theorem make_rule_no_error (c1 c2 c3 c4 : Counts) (e : PErr) : makeRule c1 c2 c3 c4 ≠ .error e := by
  rw [makeRule_eq]
  split
  · next e' he => exact absurd he (spans_no_error _ _ _ _ _)
  · exact fun h => nomatch h
  · exact spans_no_error _ _ _ _ _

/-- the counts of `[0] 2^10 3^10 4^5` under the rule R0-1 R1-2 R2+1, four successive times, with
    an unchanged left block; the fourth right vector is longer (its extra entry is ignored) -/
example :
    makeRule ([7], [10, 10, 5]) ([7], [9, 8, 6]) ([7], [8, 6, 7]) ([7], [7, 4, 8, 99])
      = .ok (some [((true, 0), .plus (-1)), ((true, 1), .plus (-2)), ((true, 2), .plus 1)]) := rfl

example : makeRule ([1], []) ([2], []) ([4], []) ([7], []) = .ok none := rfl

/-! ### 3. `count_apps` -/

/-- **count_apps_max.**  When `count_apps` answers `(times, pos, minRes)`: the rule is additive;
    `times ≥ 1`; every decreasing block exists and keeps at least one cell after `times`
    applications; the block at `pos` is a decreasing block of the rule that one more application
    would exhaust (maximality), `minRes` is exactly what `times` applications leave of it, and `pos`
    is the first such entry in map order (every decreasing entry before it survives `times + 1`
    applications). -/
theorem count_apps_max (t : Tape) (rule : Rule) (times : Nat) (pos : Index) (minRes : Nat)
    (h : countApps t rule = .ok (some (times, pos, minRes))) :
    AllPlus rule ∧ 1 ≤ times ∧
      (∀ idx δ, (idx, Op.plus δ) ∈ rule → δ < 0 →
        ∃ c, t.getCount idx = .ok c ∧ 1 ≤ (c : Int) + δ * times) ∧
      ∃ pre δp post c, rule = pre ++ (pos, Op.plus δp) :: post ∧ δp < 0 ∧
        t.getCount pos = .ok c ∧
        (c : Int) + δp * (times + 1) < 1 ∧ (minRes : Int) = c + δp * times ∧
        ∀ idx δ, (idx, Op.plus δ) ∈ pre → δ < 0 →
          ∃ c', t.getCount idx = .ok c' ∧ 1 ≤ (c' : Int) + δ * (times + 1) :=
  countApps_some h

/-- **count_apps_largest.**  `times` is the largest number of applications that leaves every
    decreasing block with at least one cell: `n` applications do so exactly when `n ≤ times`. -/
theorem count_apps_largest (t : Tape) (rule : Rule) (times : Nat) (pos : Index) (minRes : Nat)
    (h : countApps t rule = .ok (some (times, pos, minRes))) (n : Nat) :
    (∀ idx δ, (idx, Op.plus δ) ∈ rule → δ < 0 →
        ∃ c, t.getCount idx = .ok c ∧ 1 ≤ (c : Int) + δ * n) ↔ n ≤ times := by
  obtain ⟨_, _, h3, pre, δp, post, c, hr, hδ, hc, hmax, _⟩ := countApps_some h
  constructor
  · intro hall
    obtain ⟨c', hc', hge⟩ := hall pos δp (hr ▸ List.mem_append_cons_self) hδ
    cases hc.symm.trans hc'
    by_cases hn : n ≤ times
    · exact hn
    · have : δp * (n : Int) ≤ δp * ((times : Int) + 1) :=
        Int.mul_le_mul_of_nonpos_left (by omega) (by omega)
      omega
  · intro hn idx δ hm hneg
    obtain ⟨c', hc', hge⟩ := h3 idx δ hm hneg
    have : δ * (times : Int) ≤ δ * (n : Int) :=
      Int.mul_le_mul_of_nonpos_left (by omega) (by omega)
    exact ⟨c', hc', by omega⟩

/-- **count_apps_none_iff.**  For an additive rule whose decreasing entries name blocks of the
    tape: `count_apps` answers `None` exactly when the rule has no decreasing entry, or some
    decreasing block has at most `|δ|` cells (not even one application leaves it a cell). -/
theorem count_apps_none_iff (t : Tape) (rule : Rule) (hp : AllPlus rule)
    (hr : ∀ idx δ, (idx, Op.plus δ) ∈ rule → δ < 0 → InRange t idx) :
    countApps t rule = .ok none ↔
      (∀ idx δ, (idx, Op.plus δ) ∈ rule → 0 ≤ δ) ∨
        ∃ idx δ c, (idx, Op.plus δ) ∈ rule ∧ δ < 0 ∧ t.getCount idx = .ok c ∧ c ≤ δ.natAbs := by
  constructor
  · exact fun h => (loop_none t rule none h).imp_left (·.2)
  · intro hrhs
    cases hres : countApps t rule with
    | error e => exact absurd hres (countApps_no_error hp hr e)
    | ok res =>
      cases res with
      | none => rfl
      | some a =>
        obtain ⟨T, P, M⟩ := a
        obtain ⟨_, hT, h2, pre, δp, post, c, hrule, hδ, _⟩ := countApps_some hres
        rcases hrhs with hall | ⟨idx, δ, c', hm, hneg, hc', hle⟩
        · have := hall P δp (hrule ▸ List.mem_append_cons_self)
          omega
        · -- one application already exhausts the block at `idx`, and `T ≥ 1`
          obtain ⟨c'', hc'', hge⟩ := h2 idx δ hm hneg
          cases hc'.symm.trans hc''
          have : δ.natAbs * 1 ≤ δ.natAbs * T := Nat.mul_le_mul_left _ hT
          have := natAbs_mul_cast δ T
          omega

/-- **count_apps_no_error.**  Under the same hypotheses `count_apps` does not panic; in particular
    the unchecked `div - 1` never underflows. -/
theorem count_apps_no_error (t : Tape) (rule : Rule) (hp : AllPlus rule)
    (hr : ∀ idx δ, (idx, Op.plus δ) ∈ rule → δ < 0 → InRange t idx) (e : PErr) :
    countApps t rule ≠ .error e :=
  countApps_no_error hp hr e

/-- the tape `[0] 2^10 3^10 4^5` of the property text -/
def exTape : Tape := ⟨0, [], [⟨2, 10⟩, ⟨3, 10⟩, ⟨4, 5⟩]⟩
/-- the rule R0-1 R1-2 R2+1 of the property text -/
def exRule : Rule := [((true, 0), .plus (-1)), ((true, 1), .plus (-2)), ((true, 2), .plus 1)]

/-- the example evaluated once, for the instances below -/
theorem exApps : countApps exTape exRule = .ok (some (4, (true, 1), 2)) := rfl

example : countApps exTape exRule = .ok (some (4, (true, 1), 2)) := exApps
example := count_apps_max exTape exRule 4 (true, 1) 2 exApps
example := count_apps_largest exTape exRule 4 (true, 1) 2 exApps
/-- a tie (both decreasing blocks allow 4 applications): the first in map order is returned -/
example : countApps ⟨0, [⟨1, 5⟩], [⟨2, 9⟩]⟩ [((false, 0), .plus (-1)), ((true, 0), .plus (-2))]
    = .ok (some (4, (false, 0), 1)) := rfl
example : AllPlus exRule ∧ ∀ e ∈ exRule, InRange exTape e.1 := by decide
example : countApps ⟨0, [], [⟨2, 1⟩, ⟨3, 10⟩, ⟨4, 5⟩]⟩ exRule = .ok none := rfl

/-! ### 4. `apply_rule`, applied -/

/-- **apply_exact.**  When `apply_rule` answers `Some(times)` (rule with distinct keys): the rule is
    additive, `times` is the number `count_apps` computes (so it is the largest number of
    applications that leaves every decreasing block a cell, `count_apps_largest`); every block
    named by the rule changes by exactly `δ * times`; every block not named by the rule is the same
    block as before; scan, number of blocks and colours are unchanged. -/
theorem apply_exact (t t' : Tape) (rule : Rule) (times : Nat) (hnd : (keys rule).Nodup)
    (h : applyRule t rule = .ok (some times, t')) :
    AllPlus rule ∧
      (∃ pos minRes, countApps t rule = .ok (some (times, pos, minRes))) ∧
      (∀ idx δ, (idx, Op.plus δ) ∈ rule →
        ∃ c c', t.getCount idx = .ok c ∧ t'.getCount idx = .ok c' ∧
          (c' : Int) = c + δ * times) ∧
      (∀ s j, (s, j) ∉ keys rule → (tspan t' s)[j]? = (tspan t s)[j]?) ∧
      t'.scan = t.scan ∧ t'.lspan.map (·.color) = t.lspan.map (·.color) ∧
      t'.rspan.map (·.color) = t.rspan.map (·.color) := by
  obtain ⟨⟨P, M, hca⟩, hex, hother, hshape⟩ := applyRule_some hnd h
  exact ⟨(countApps_some hca).1, ⟨P, M, hca⟩, hex, hother, hshape.scan, hshape.colors false,
    hshape.colors true⟩

/-- **apply_keeps_positive.**  No block is ever driven to zero: if every block of the tape has at
    least one cell, so has every block afterwards. -/
theorem apply_keeps_positive (t t' : Tape) (rule : Rule) (times : Nat)
    (hnd : (keys rule).Nodup) (h : applyRule t rule = .ok (some times, t'))
    (hp : AllPositive t) : AllPositive t' :=
  applyRule_keeps_positive hnd h hp

/-- the example of the property text: `2^10 3^10 4^5` becomes `2^6 3^2 4^9`, `times = 4`
    (finding F4 gave `2^14`) -/
theorem exApplied : applyRule exTape exRule = .ok (some 4, ⟨0, [], [⟨2, 6⟩, ⟨3, 2⟩, ⟨4, 9⟩]⟩) := rfl
theorem exHyps : (keys exRule).Nodup ∧ AllPositive exTape := by decide

example : applyRule exTape exRule = .ok (some 4, ⟨0, [], [⟨2, 6⟩, ⟨3, 2⟩, ⟨4, 9⟩]⟩) := exApplied
example : (keys exRule).Nodup ∧ AllPositive exTape := exHyps
/-- `apply_exact` and `apply_keeps_positive` instantiated on the example (hypotheses satisfiable) -/
example := apply_exact exTape ⟨0, [], [⟨2, 6⟩, ⟨3, 2⟩, ⟨4, 9⟩]⟩ exRule 4 exHyps.1 exApplied
example : AllPositive ⟨0, [], [⟨2, 6⟩, ⟨3, 2⟩, ⟨4, 9⟩]⟩ :=
  apply_keeps_positive exTape _ exRule 4 exHyps.1 exApplied exHyps.2

/-- the hypothesis "distinct keys" cannot be dropped for an arbitrary association list (a
    `BTreeMap` always has it): with a repeated key both writes store the minimal result -/
example : applyRule ⟨0, [⟨1, 5⟩], []⟩ [((false, 0), .plus (-1)), ((false, 0), .plus (-2))]
    = .ok (some 2, ⟨0, [⟨1, 1⟩], []⟩) := rfl

/-! ### 5. `apply_rule`, not applied -/

/-- **apply_none_untouched.**  A rule that cannot be applied leaves the tape untouched. -/
theorem apply_none_untouched (t t' : Tape) (rule : Rule)
    (h : applyRule t rule = .ok (none, t')) : t' = t := by
  unfold applyRule at h
  split at h
  · cases h
  · cases h; rfl
  · split at h
    · cases h
    · cases h; rfl
    · split at h <;> cases h

/-- **apply_none_cases.**  `None` has only two causes (counts of the tape being `u64`s):
    `count_apps` said `None`, or some non-decreasing block would leave the `u64` range. -/
theorem apply_none_cases (t t' : Tape) (rule : Rule) (hc : CountsInRange t)
    (h : applyRule t rule = .ok (none, t')) :
    countApps t rule = .ok none ∨
      ∃ times pos minRes, countApps t rule = .ok (some (times, pos, minRes)) ∧
        ∃ idx δ c, (idx, Op.plus δ) ∈ rule ∧ 0 ≤ δ ∧ t.getCount idx = .ok c ∧
          (countMax : Int) < c + δ * times := by
  unfold applyRule at h
  split at h
  · cases h
  · next hca => exact Or.inl hca
  · next T P M hca =>
    refine Or.inr ⟨T, P, M, hca, ?_⟩
    split at h
    · cases h
    · next hres =>
      obtain ⟨⟨idx, op⟩, hm, hx⟩ := results_none hres
      obtain ⟨δ, c, rfl, hcnt, hap⟩ := entryResult_none hx
      have hle := count_le_max hc hcnt
      rw [applyPlus_eq_none_iff hle] at hap
      have := natAbs_mul_cast δ T
      -- a decreasing block keeps a cell, so it cannot be the one that fails
      by_cases hneg : δ < 0
      · obtain ⟨c', hc', hge⟩ := (countApps_some hca).2.2.1 idx δ hm hneg
        cases hcnt.symm.trans hc'
        omega
      · exact ⟨idx, δ, c, hm, by omega, hcnt, by omega⟩
    · split at h <;> cases h

/-- **apply_none_iff.**  For a rule with distinct keys that all name blocks of the tape, the
    counts of the tape being `u64`s: `None` exactly in those two cases. -/
theorem apply_none_iff (t : Tape) (rule : Rule) (hr : ∀ idx ∈ keys rule, InRange t idx)
    (hnd : (keys rule).Nodup) (hc : CountsInRange t) :
    applyRule t rule = .ok (none, t) ↔
      countApps t rule = .ok none ∨
        ∃ times pos minRes, countApps t rule = .ok (some (times, pos, minRes)) ∧
          ∃ idx δ c, (idx, Op.plus δ) ∈ rule ∧ 0 ≤ δ ∧ t.getCount idx = .ok c ∧
            (countMax : Int) < c + δ * times := by
  constructor
  · exact apply_none_cases t t rule hc
  · rintro (hca | ⟨T, P, M, hca, idx, δ, c, hm, hnn, hcnt, hov⟩)
    · unfold applyRule; rw [hca]
    · rcases applyRule_of_countApps hnd hca with ⟨e, hres, _⟩ | ⟨_, h'⟩ | ⟨results, _, hres, _⟩
      · exact absurd hres (results_no_error hnd hca hr e)
      · exact h'
      · obtain ⟨r, _, hro⟩ := (results_some hres).2 _ hm
        rw [entryResult_inc hnd hca hm hnn, hcnt] at hro
        have hap := Except.ok.inj hro
        rw [(applyPlus_eq_none_iff (count_le_max hc hcnt)).mpr (Or.inr hov)] at hap
        cases hap

/-- **apply_succeeds.**  Conversely, when `count_apps` gives `times` and no non-decreasing block
    would leave the `u64` range, the rule is applied `times` times. -/
theorem apply_succeeds (t : Tape) (rule : Rule) (hr : ∀ idx ∈ keys rule, InRange t idx)
    (hnd : (keys rule).Nodup) (hc : CountsInRange t) (times : Nat) (pos : Index) (minRes : Nat)
    (hca : countApps t rule = .ok (some (times, pos, minRes)))
    (hfit : ∀ idx δ c, (idx, Op.plus δ) ∈ rule → 0 ≤ δ → t.getCount idx = .ok c →
      (c : Int) + δ * times ≤ countMax) :
    ∃ t', applyRule t rule = .ok (some times, t') := by
  rcases applyRule_of_countApps hnd hca with ⟨e, hres, _⟩ | ⟨_, h'⟩ | ⟨_, t', _, _, h'⟩
  · exact absurd hres (results_no_error hnd hca hr e)
  · rcases apply_none_cases t t rule hc h' with hn | ⟨T, P, M, hca', idx, δ, c, hm, hnn, hcnt, hov⟩
    · cases hca.symm.trans hn
    · cases hca.symm.trans hca'
      have := hfit idx δ c hm hnn hcnt
      omega
  · exact ⟨t', h'⟩

example : applyRule ⟨0, [], [⟨2, 1⟩, ⟨3, 10⟩, ⟨4, 5⟩]⟩ exRule
    = .ok (none, ⟨0, [], [⟨2, 1⟩, ⟨3, 10⟩, ⟨4, 5⟩]⟩) := rfl
/-- `checked_add` overflow (regression case of finding F5): the tape is not touched -/
example : applyRule ⟨0, [], [⟨2, 10⟩, ⟨3, 10⟩, ⟨4, 2 ^ 64 - 3⟩]⟩ exRule
    = .ok (none, ⟨0, [], [⟨2, 10⟩, ⟨3, 10⟩, ⟨4, 2 ^ 64 - 3⟩]⟩) := rfl
example : (∀ idx ∈ keys exRule, InRange exTape idx) ∧ CountsInRange exTape := by decide

/-! ### 6. `apply_rule`, panics -/

/-- **apply_no_error.**  An additive rule with distinct keys that all name blocks of the tape is
    applied without panic (no `unimplemented!()`, no index out of bounds, no failed
    `assert!(plus < 0)`, no arithmetic overflow). -/
theorem apply_no_error (t : Tape) (rule : Rule) (hp : AllPlus rule)
    (hr : ∀ idx ∈ keys rule, InRange t idx) (hnd : (keys rule).Nodup) (e : PErr) :
    applyRule t rule ≠ .error e := by
  intro h
  rcases applyRule_phases t hnd with ⟨e', hca, _⟩ | ⟨_, h'⟩ |
    ⟨T, P, M, hca, ⟨e', hres, _⟩ | ⟨_, h'⟩ | ⟨_, _, _, _, h'⟩⟩
  · exact countApps_no_error hp (fun idx δ hm _ => hr idx (mem_keys_of_mem hm)) e' hca
  · cases h'.symm.trans h
  · exact results_no_error hnd hca hr e' hres
  · cases h'.symm.trans h
  · cases h'.symm.trans h

/-- **apply_error_iff.**  Exactly when `apply_rule` panics, and with what (rule with distinct keys,
    counts of the tape `u64`s).  Either in `count_apps`: the first entry that is not stepped over
    (`Passes`: additive and non-decreasing, or decreasing with an existing block of more than `|δ|`
    cells) is a `Mult` op or a decreasing entry that names no block (`PanicsAt`) — if that first
    entry is a decreasing block with at most `|δ|` cells the answer is `None` instead.  Or
    `count_apps` succeeds with `times` and the loop computing the results reaches a non-decreasing
    entry that names no block before any non-decreasing block would leave the `u64` range.  There
    is no other panic: the `assert!`, the `div - 1` and the writes never fail. -/
theorem apply_error_iff (t : Tape) (rule : Rule) (hnd : (keys rule).Nodup)
    (hc : CountsInRange t) (e : PErr) :
    applyRule t rule = .error e ↔
      (∃ pre pos op post, rule = pre ++ (pos, op) :: post ∧ (∀ x ∈ pre, Passes t x) ∧
        PanicsAt t (pos, op) e) ∨
      (∃ times minPos minRes, countApps t rule = .ok (some (times, minPos, minRes)) ∧
        ∃ pre pos δ post, rule = pre ++ (pos, Op.plus δ) :: post ∧ 0 ≤ δ ∧ ¬ InRange t pos ∧
          e = .panic "index out of bounds" ∧
          ∀ idx δ', (idx, Op.plus δ') ∈ pre → 0 ≤ δ' →
            ∃ c, t.getCount idx = .ok c ∧ (c : Int) + δ' * times ≤ countMax) := by
  rw [← countAppsLoop_error_iff t rule none e]
  rcases applyRule_phases t hnd with ⟨e', hca, h'⟩ | ⟨hca, h'⟩ | ⟨T, P, M, hca, hphase⟩
  · rw [h']
    constructor
    · intro h
      cases h
      exact Or.inl hca
    · rintro (h | ⟨_, _, _, h, _⟩) <;> cases hca.symm.trans h
      rfl
  · rw [h']
    constructor
    · exact fun h => nomatch h
    · rintro (h | ⟨_, _, _, h, _⟩) <;> cases hca.symm.trans h
  · -- the panic, if any, is one of the first loop
    have hres : applyRule t rule = .error e ↔ applyRuleResults t T P M rule = .error e := by
      rcases hphase with ⟨e', hres, h'⟩ | ⟨hres, h'⟩ | ⟨_, _, hres, _, h'⟩ <;>
        simp only [h', hres, Except.error.injEq, reduceCtorEq]
    rw [hres, results_error_iff_of_countApps hnd hca hc]
    constructor
    · exact fun h => Or.inr ⟨T, P, M, hca, h⟩
    · rintro (h | ⟨T', P', M', h', h⟩)
      · exact nomatch hca.symm.trans h
      · cases hca.symm.trans h'
        exact h

example : applyRule exTape [((true, 0), .plus (-1)), ((true, 1), .mult 2 1)]
    = .error (.panic "not implemented") := rfl
example : applyRule exTape [((true, 0), .plus (-1)), ((true, 7), .plus 1)]
    = .error (.panic "index out of bounds") := rfl
/-- without distinct keys the `assert!(plus < 0)` can fail (never for a `BTreeMap`) -/
example : applyRule exTape [((true, 0), .plus (-1)), ((true, 0), .plus 1)]
    = .error (.panic "assertion failed: plus < 0") := rfl

end BB.RuleArith
